import NimaVerif.Lemmas.Effects
import NimaVerif.Lemmas.Sched
import NimaVerif.Gen.Effects
import NimaVerif.Gen.ProcState
/-!
# C15 — rebuilding is pure and deterministic, independent of threads and history

The property's theorems, and the counterexample on a fixed excerpt with its run written out
(helper lemmas live in `Lemmas/Effects.lean`, `Lemmas/Sched.lean`).

(a) **Purity.**  `Gen.Effects.rebuildProg` is the heap-effect IR of every Python function reachable
by name from a `rebuild` method (regenerated from /repo on every run, `Model/Effects.lean`
explains the IR and its collecting semantics).  `Effects.Pure p` is the SPEC: whatever `p`
executes, every object that existed before the call is unchanged afterwards.
`check_sound` is the metatheorem; the per-run closing step is `rebuild_cert_partial` (`decide`).

(b) **Determinism** w.r.t. hash seed / cwd / history: no iteration over a set, no ambient read
(cwd, environment, clock, randomness), no `id`/`hash` in code reachable from `parse` or `rebuild`;
no memoisation; the only module-level objects written by any function are the ones (c) models.

(c) **Schedules.**  `Model/Sched.lean`: per-thread parser slot, per-thread context variables with
set/reset tokens, the shared registry keyed by `id`.  `non_interference`: for every valid
schedule the observations of thread `i` are those of its serial run.
-/
namespace Nima.C15
open Nima.Effects

/-! ## (a) Purity of `rebuild` -/

/-- Metatheorem (proved once, for every program and certificate). -/
theorem check_sound (p : Prog) (c : Cert) (h : check p c = true) : Pure p :=
  Nima.Effects.check_sound p c h

/-- FULL statement: the rebuild-reachable code of /repo modifies no pre-existing object.
    False of the current code (see `cex_post_init_owner` and known findings C15-scope-owner,
    C15-state-stack); kept visible. -/
def rebuild_pure_full : Prop :=
  ∃ p, Gen.Effects.rebuildProg = some p ∧ Pure p

/-- The write statements that are open known findings, by their stable names
    (`file:function:kind .attribute#k`).  Both sit in `NixExpression.__post_init__`, which
    `dataclasses.replace` (`model_copy(update=…)`) re-runs on a copy that still shares `scope`
    and `scope_state` with the original. -/
def knownOffending : List String :=
  ["expressions/expression.py:NixExpression.__post_init__:store .owner#0",
   "expressions/expression.py:NixExpression.__post_init__:store .stack#0"]

def skipLabels : List Label :=
  (List.range Gen.Effects.labels.length).filter fun i =>
    knownOffending.contains (Gen.Effects.labels.getD i "")

/-- The checker's verdict on the generated program without the listed write statements. -/
def partialVerdict : Option Bool :=
  match Gen.Effects.rebuildProg, Gen.Effects.cert with
  | some p, some c => some (check (p.remove skipLabels) c)
  | _, _ => none

/-- Translator tie, closing step (re-proved on every run against the regenerated program):
    every write statement of the rebuild-reachable code other than the two listed ones goes
    through a variable that only ever holds objects allocated during the call.  The second clause
    (the checked program still has many write statements) is read off the same evaluation: the
    program without the listed statements is computed once for both. -/
theorem rebuild_cert_partial :
    partialVerdict = some true ∧
    (Gen.Effects.rebuildProg.map fun p =>
      decide (30 ≤ ((p.remove skipLabels).stmts.filter Stmt.isWrite).length)) = some true := by
  decide +kernel

/-- PARTIAL theorem: with the two listed stores removed, `rebuild` and everything it reaches
    modifies no object that existed before the call — for every execution of the bag of
    statements (every control flow, recursion depth, heap and argument). -/
theorem rebuild_pure_partial :
    ∃ p, Gen.Effects.rebuildProg = some p ∧ Pure (p.remove skipLabels) := by
  have h := rebuild_cert_partial.1
  unfold partialVerdict at h
  split at h
  · rename_i p c hp hc
    exact ⟨p, hp, check_sound _ c (by simpa using h)⟩
  · cases h

/-- The theorem above is not vacuous: the program that is checked has many write statements
    (stores and in-place mutations through fresh copies and fresh lists). -/
theorem rebuild_partial_nonvacuous :
    (Gen.Effects.rebuildProg.map fun p => decide (30 ≤ ((p.remove skipLabels).stmts.filter Stmt.isWrite).length))
      = some true := rebuild_cert_partial.2

/-! ### The counterexample (the defect), on a fixed excerpt

`Binding.rebuild`: `value_expr = self.value; value_expr = value_expr.model_copy(update={"after": []})`,
i.e. `dataclasses.replace`, whose `__post_init__` executes `self.scope.owner = self` with `self` the
copy — but `self.scope` is still the original's `Scope`. -/

def fValue : Fld := 1
def fAfter : Fld := 2
def fScope : Fld := 3
def fOwner : Fld := 4

/-- 0 self · 1 value_expr = self.value · 2 [] · 3 copy = replace(value_expr, after=[]) ·
    4 copy.scope · store: copy.scope.owner = copy -/
def excerpt : Prog :=
  ⟨[.assign 0 .unknown, .assign 1 (.load 0 fValue), .assign 2 (.alloc 0 []),
    .assign 3 (.copy 1 1 [(fAfter, 2)]), .assign 4 (.load 3 fScope), .store 0 4 fOwner 3]⟩

/-- heap of `{ a = 1 # c␤; }`: 0 the binding, 1 its value, 2 the value's `Scope` (owner = 1) -/
def witnessHeap : Nat → Option Obj
  | 0 => some ⟨100, fun f => if f = fValue then [.loc 1] else []⟩
  | 1 => some ⟨101, fun f => if f = fScope then [.loc 2] else []⟩
  | 2 => some ⟨102, fun f => if f = fOwner then [.loc 1] else []⟩
  | _ => none

def witnessState : State := ⟨witnessHeap, 3, fun _ _ => False⟩

theorem witness_init : Init witnessState := by
  refine ⟨fun _ _ h => h, ?_⟩
  intro l hl
  have h3 : 3 ≤ l := hl
  match l, h3 with
  | l + 3, _ => rfl

/-- The checker rejects the excerpt (so `check_sound` does not apply to it) … -/
theorem excerpt_rejected : ∀ c : Cert, check excerpt c = false := by
  intro c
  cases hc : check excerpt c with
  | false => rfl
  | true =>
    exfalso
    have hall : ∀ s ∈ excerpt.stmts, okStmt c s = true := by
      simpa [check, List.all_eq_true] using hc
    have h0 := hall (.assign 0 .unknown) (by simp [excerpt])
    have h1 := hall (.assign 1 (.load 0 fValue)) (by simp [excerpt])
    have h3 := hall (.assign 3 (.copy 1 1 [(fAfter, 2)])) (by simp [excerpt])
    have h4 := hall (.assign 4 (.load 3 fScope)) (by simp [excerpt])
    have h5 := hall (.store 0 4 fOwner 3) (by simp [excerpt])
    simp only [okStmt, okRhs] at h0 h1 h3 h4 h5
    -- var 0 shared, hence var 1 shared, hence the copy's inherited `scope` field is shared,
    -- hence var 4 shared, hence the store is rejected
    have v0 : c.var 0 = .shared := by
      cases h : c.var 0 with
      | shared => rfl
      | fresh _ => rw [h] at h0; simp [Abs.isShared] at h0
    have v1 : c.var 1 = .shared := by
      rw [v0] at h1
      cases h : c.var 1 with
      | shared => rfl
      | fresh _ => rw [h] at h1; simp [loadLe, Abs.isShared] at h1
    have v4 : c.var 4 = .shared := by
      cases h4v : c.var 4 with
      | shared => rfl
      | fresh us =>
        exfalso
        rw [h4v] at h4
        cases h3v : c.var 3 with
        | shared => rw [h3v] at h4; simp [loadLe, Abs.isShared] at h4
        | fresh ts =>
          rw [h3v] at h3 h4
          simp only [Bool.and_eq_true, siteIn, List.all_eq_true] at h3
          obtain ⟨⟨hs, _⟩, hf⟩ := h3
          simp only [loadLe, List.all_eq_true] at h4
          have hin : (1 : Site) ∈ ts := by simpa using hs
          have h41 := h4 1 hin
          -- the field abstraction of site 1 at `scope` is below fresh us, so it is not shared,
          -- so it is listed, so it must be above what is loaded through the shared var 1
          have hns : c.fld 1 fScope ≠ .shared := by
            intro h; rw [h] at h41; simp [Abs.le] at h41
          have hmem := lookupFld_mem (fs := c.fldsOf 1) (f := fScope) hns
          have := hf _ hmem
          simp only [Bool.or_eq_true, List.any_eq_true] at this
          rcases this with ⟨fy, hfy, heq⟩ | this
          · simp only [List.mem_singleton] at hfy
            subst hfy
            simp [fAfter, fScope] at heq
          · rw [v1] at this
            simp only [loadLe] at this
            have hsh : c.fld 1 fScope = .shared := by
              cases h : c.fld 1 fScope with
              | shared => rfl
              | fresh _ =>
                unfold Cert.fld at h
                rw [h] at this
                simp [Abs.isShared] at this
            exact hns hsh
    rw [writeOk, v4] at h5
    cases h5

/-- … and rightly so: NEGATION of the full statement on the excerpt.  Started on the heap of
    `{ a = 1 # c␤; }`, the run ends with the original value's `scope.owner` pointing to the
    discarded copy.  Replayed on the implementation by the check (known finding C15-scope-owner). -/
theorem cex_post_init_owner : ¬ Pure excerpt := by
  intro hp
  -- the run
  let s0 := witnessState
  let s1 := s0.bind 0 (.loc 0)
  let s2 := s1.bind 1 (.loc 1)
  let o3 : Obj := ⟨0, fun _ => []⟩
  let s3 := (s2.allocObj o3).bind 2 (.loc 3)
  let o4 : Obj := ⟨1, fun f => if f = fAfter then [.loc 3] else if f = fScope then [.loc 2] else []⟩
  let s4 := (s3.allocObj o4).bind 3 (.loc 4)
  let s5 := s4.bind 4 (.loc 2)
  let o2 : Obj := ⟨102, fun f => if f = fOwner then [.loc 1] else []⟩
  let s6 := s5.setObj 2 (o2.setFld fOwner [.loc 4])
  have e1 : Step excerpt s0 s1 := Step.unknown (.loc 0) (by simp [excerpt])
  have e2 : Step excerpt s1 s2 :=
    Step.load (x := 1) (y := 0) (f := fValue) (l := 0) (v := .loc 1)
      (o := ⟨100, fun f => if f = fValue then [.loc 1] else []⟩) (by simp [excerpt])
      (Or.inr ⟨rfl, rfl⟩) rfl (by simp)
  have e3 : Step excerpt s2 s3 :=
    Step.alloc (x := 2) (site := 0) (inits := []) o3 (by simp [excerpt]) rfl
      (by intro f v hv; simp [o3] at hv)
  have e4 : Step excerpt s3 s4 := by
    refine Step.copy (x := 3) (site := 1) (y := 1) (upd := [(fAfter, 2)]) (l := 1)
      (o0 := ⟨101, fun f => if f = fScope then [.loc 2] else []⟩) o4
      (by simp [excerpt]) ?_ ?_ rfl ?_
    · exact Or.inl (Or.inr ⟨rfl, rfl⟩)
    · rfl
    · intro f v hv
      by_cases hfa : f = fAfter
      · subst hfa
        left
        refine ⟨2, by simp, ?_⟩
        simp only [o4, if_true, List.mem_singleton] at hv
        subst hv
        exact Or.inr ⟨rfl, rfl⟩
      · right
        refine ⟨by intro y' hy'; simp at hy'; exact hfa hy'.1, ?_⟩
        simp only [o4, hfa, if_false] at hv
        exact hv
  have e5 : Step excerpt s4 s5 :=
    Step.load (x := 4) (y := 3) (f := fScope) (l := 4) (o := o4) (v := .loc 2) (by simp [excerpt])
      (Or.inr ⟨rfl, rfl⟩) rfl (by simp [o4, fScope, fAfter])
  have e6 : Step excerpt s5 s6 :=
    Step.store (lbl := 0) (x := 4) (f := fOwner) (y := 3) (l := 2) (o := o2) (v := .loc 4)
      (by simp [excerpt]) (Or.inr ⟨rfl, rfl⟩) rfl
      (Or.inl (Or.inr ⟨rfl, rfl⟩))
  have ex : Exec excerpt s0 s6 :=
    (((((Exec.refl.step e1).step e2).step e3).step e4).step e5).step e6
  have := hp s0 s6 witness_init ex 2 (by decide)
  -- the cell of the original `Scope` changed
  have h6 : s6.heap 2 = some (o2.setFld fOwner [.loc 4]) := by simp [s6, State.setObj]
  have h0 : s0.heap 2 = some o2 := rfl
  rw [h6, h0] at this
  have hf := congrArg (fun o => (o.map fun x => x.flds fOwner)) this
  simp [Obj.setFld, o2] at hf

/-! ### Non-vacuity of the metatheorem: a copy-before-modify renderer passes the checker

`_clone_with_trivia`: `updated = expr.model_copy(); updated.before = list(extra) + list(updated.before)`. -/

def cloneWithTrivia : Prog :=
  ⟨[.assign 0 .unknown, .assign 1 .unknown, .assign 2 (.copy 0 0 []), .assign 3 (.load 1 ITEMS),
    .assign 4 (.load 2 5), .assign 5 (.load 4 ITEMS), .assign 6 (.alloc 1 [(ITEMS, 3), (ITEMS, 5)]),
    .store 0 2 5 6, .mutate 1 6 [3]]⟩

example : Pure cloneWithTrivia :=
  check_sound _ ⟨[[.shared, .shared, .fresh [0], .shared, .shared, .shared, .fresh [1]]], []⟩ (by decide +kernel)

/-- … and the same renderer without the copy is rejected under every certificate. -/
example : ∀ c : Cert, check ⟨[.assign 0 .unknown, .store 0 0 5 0]⟩ c = false := by
  intro c
  cases hc : check ⟨[.assign 0 .unknown, .store 0 0 5 0]⟩ c with
  | false => rfl
  | true =>
    simp only [check, List.all_cons, List.all_nil, Bool.and_true, Bool.and_eq_true, okStmt, okRhs,
      writeOk] at hc
    obtain ⟨h0, h1⟩ := hc
    cases h : c.var 0 with
    | shared => rw [h] at h1; cases h1
    | fresh _ => rw [h] at h0; simp [Abs.isShared] at h0

/-! ## (b) Determinism: no hidden inputs -/

/-- No iteration over a set in code reachable by name from `parse` or `rebuild`
    (its order would depend on `PYTHONHASHSEED`). -/
theorem tie_no_set_iteration :
    Gen.Effects.setIterations = some [] ∧ Gen.ProcState.setIterations = some [] := ⟨rfl, rfl⟩

/-- No read of the working directory, environment, clock or randomness in that code … -/
theorem tie_no_ambient_reads : Gen.ProcState.ambientReads = some [] := rfl

/-- … and no `id()` / `hash()` (object addresses, hash seed). -/
theorem tie_no_identity_reads : Gen.ProcState.identityReads = some [] := rfl

/-- No memoising decorator anywhere in the package. -/
theorem tie_no_memoisation : Gen.ProcState.memoized = some [] := rfl

/-- The module-level / class-level objects written from inside any function of the package are
    exactly: the two source context variables, the per-thread parser holder, the resolution
    registry (these four are the state of `Model/Sched.lean`), and the two expression-type tables
    written only by the extension hook `register_expression`. Anything else (a cache, a counter)
    would couple documents and breaks this tie. -/
theorem tie_written_globals : Gen.ProcState.writtenGlobals = some
    ["expressions/path.py:_SOURCE_PATH", "expressions/trivia.py:_SOURCE_BYTES",
     "mapping.py:EXPRESSION_TYPES", "mapping.py:TREE_SITTER_TYPE_TO_EXPRESSION",
     "parser.py:_PARSER_LOCAL", "resolution.py:_CONTEXTS"] := rfl

/-! ## (c) Schedules -/
open Nima.Sched

/-- Translator tie: `_PARSER_LOCAL` is a `threading.local`, `_SOURCE_BYTES` and `_SOURCE_PATH` are
    `ContextVar`s — the configuration `non_interference` is about. -/
theorem tie_sched_cfg : Gen.ProcState.schedCfg = some Cfg.code := rfl

/-- Both context managers reset their token in a `finally` (the model's `ctxReset` always
    restores the value saved by the matching `ctxSet`). -/
theorem tie_ctx_reset : Gen.ProcState.ctxResetInFinally = some true := rfl

/-- `_CONTEXTS` is only ever indexed by `id(expr)`, stores `(ref(expr, callback), context)` and
    `_get_context` compares the weak reference's target with the asking object (the model's
    `regStore` / `regFree` / `regGet`). -/
theorem tie_registry : Gen.ProcState.registryKeyedById = some true ∧
    Gen.ProcState.registryWeakrefGuard = some true := ⟨rfl, rfl⟩

/-- **Non-interference.**  For every schedule of parser, context-variable and registry steps of
    any number of threads (valid: a new object's `id` is not that of a live object), what thread
    `i` observes is what it observes when it runs its own steps alone, in the same order. -/
theorem non_interference (sc : Sched) (i : Tid) (hv : ValidFrom State.init Cfg.code sc) :
    obsOf i (run Cfg.code State.init sc).2 = obsOf i (run Cfg.code State.init (proj i sc)).2 :=
  Nima.Sched.non_interference sc i hv

/-- The serial run is itself a legal run, and all of its trace is thread `i`'s. -/
theorem serial_run_valid (sc : Sched) (i : Tid) (hv : ValidFrom State.init Cfg.code sc) :
    ValidFrom State.init Cfg.code (proj i sc) ∧
    obsOf i (run Cfg.code State.init (proj i sc)).2 = (run Cfg.code State.init (proj i sc)).2.map (·.2) :=
  ⟨Nima.Sched.proj_valid sc i hv, Nima.Sched.obsOf_proj _ _ sc i⟩

/-- **History independence on one thread.**  A well-nested block of context-variable steps
    (`with source_path_context(p): … with source_bytes_context(b): …`, whatever parser, registry
    and read steps happen inside) leaves every context-variable cell and the thread's token
    stack exactly as it found them — under every storage configuration — so the next document
    processed on the same thread starts from the same context state. -/
theorem balanced_restores (c : Cfg) (t : Tid) (ops : List Op) (hb : Balanced ops) (s : Sched.State) :
    (run c s (solo t ops)).1.cell = s.cell ∧ (run c s (solo t ops)).1.toks = s.toks :=
  Nima.Sched.balanced_restores c t ops hb s

/-- … and no reset in such a block fails. -/
theorem balanced_no_ctx_err (c : Cfg) (t : Tid) (ops : List Op) (hb : Balanced ops) (s : Sched.State) :
    ∀ p ∈ ops.zip (run c s (solo t ops)).2, (∃ v, p.1 = .ctxReset v) → p.2.2 = .unit :=
  Nima.Sched.balanced_no_ctx_err c t ops hb s

/-- Non-vacuity: what `parse_file` executes is such a block. -/
example : Balanced [.ctxSet .path 1, .getParser, .parseBegin 7, .parseEnd, .ctxSet .bytes 2,
    .ctxGet .bytes, .ctxReset .bytes, .ctxReset .path] :=
  .block (.plain rfl (.plain rfl (.plain rfl (.block (.plain rfl .nil) .nil)))) .nil

/-- Each per-thread storage is needed: with a process-wide parser / source-bytes cell /
    source-path cell there is a schedule on which thread 0 observes another thread's data. -/
theorem cex_shared_parser : ∃ (sc : Sched) (i : Tid), ValidFrom State.init ⟨false, true, true⟩ sc ∧
    obsOf i (run ⟨false, true, true⟩ State.init sc).2 ≠
      obsOf i (run ⟨false, true, true⟩ State.init (proj i sc)).2 := Nima.Sched.cex_shared_parser

theorem cex_shared_bytes : ∃ (sc : Sched) (i : Tid), ValidFrom State.init ⟨true, false, true⟩ sc ∧
    obsOf i (run ⟨true, false, true⟩ State.init sc).2 ≠
      obsOf i (run ⟨true, false, true⟩ State.init (proj i sc)).2 := Nima.Sched.cex_shared_bytes

theorem cex_shared_path : ∃ (sc : Sched) (i : Tid), ValidFrom State.init ⟨true, true, false⟩ sc ∧
    obsOf i (run ⟨true, true, false⟩ State.init sc).2 ≠
      obsOf i (run ⟨true, true, false⟩ State.init (proj i sc)).2 := Nima.Sched.cex_shared_path

/-- The hypothesis on ids is needed (and is CPython's guarantee, listed under assumptions). -/
theorem cex_id_collision : ∃ (sc : Sched) (i : Tid),
    obsOf i (run Cfg.code State.init sc).2 ≠ obsOf i (run Cfg.code State.init (proj i sc)).2 :=
  Nima.Sched.cex_id_collision

/-- Non-vacuity: a valid schedule with id reuse across threads, interleaved parses and nested
    context variables; thread 0 sees its own document, its own source bytes and its own context. -/
example :
    let sc : Sched := [(0, .getParser), (1, .getParser), (0, .parseBegin 7), (1, .parseBegin 9),
      (0, .ctxSet .bytes 70), (1, .ctxSet .bytes 90), (1, .regAlloc 0 5), (1, .regStore 0 99),
      (1, .regFree 0), (0, .regAlloc 0 5), (0, .regGet 0), (0, .regStore 0 77), (1, .parseEnd),
      (0, .parseEnd), (0, .ctxGet .bytes), (0, .regGet 0), (0, .ctxReset .bytes), (0, .ctxGet .bytes)]
    obsOf 0 (run Cfg.code State.init sc).2 =
      [.flag true, .unit, .unit, .unit, .val none, .unit, .val (some 7), .val (some 70),
       .val (some 77), .unit, .val none] := by decide +kernel

end Nima.C15
