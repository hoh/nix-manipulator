import NimaVerif.Lemmas.CliEdit
import NimaVerif.Gen.Cli
/-!
# C16 — the command line reports and emits exactly what the library computes

All statements quantify over EVERY library behaviour (`lib : Lib σ`, any type `σ` of parsed sources,
any functions, raising or not), every input text (`Text = List Char`, unbounded), both channels and
all argument values. `cli lib cmd inv` is the interpreter of Model/Cli.lean run on the program of the
sub-command; the programs and the argparse wiring are re-extracted from `/repo` on every run and
proved equal to the model's (`tie_*`).

Every clause of the property is now proved at full strength for the current code
(`test_verdict_full`, `line_terminator_full`, `one_newline_full`, `channel_independence_full`, the
error/exit-status theorems). Three clauses were false of earlier code; the defective programs and
wiring are kept under `old*` names with their counterexamples, as documentation and so that a
regression is recognised (the check's oracle replays the witnesses on the real command line):

* line terminator, until /repo 9670208: `print(x)` always appended `\n` (`oldSetProg`/`oldRmProg`,
  `cex_line_terminator`, `cex_one_newline`);
* verdict wording, until /repo 1526c34: when the library raised, `nima test` showed a traceback
  instead of `Fail` (`oldTestProg`, `cex_test_verdict_traceback`);
* channel independence, until /repo 1fe47da: `-f FILE` was opened with universal-newline
  translation, stdin is not, so a text containing `\r` was a different text on the two channels
  (`oldFileOpt`, `cex_channel_cr`), and `nima test -f` said OK for a CRLF file the round trip
  changes (`cex_test_verdict_crlf_file`).
-/
namespace Nima.C16
open Nima Nima.Cli

variable {σ : Type}

/-! ## Translator tie: the programs and the wiring the model has are those of the Python source now. -/

theorem tie_test : Gen.cliTest = some testProg := rfl
theorem tie_set : Gen.cliSet = some setProg := rfl
theorem tie_rm : Gen.cliRm = some rmProg := rfl
theorem tie_default : Gen.cliDefault = some defaultProg := rfl
theorem tie_entry : Gen.cliEntryExitsWithMain = some true := rfl
theorem tie_argspec : Gen.cliArgSpec = some argSpec := rfl
theorem tie_fileopt : Gen.cliFileOpt = some fileOpt := rfl

/-! ## 1. `nima test`: verdict and exit status -/

/-- `nima test` never shows a traceback: its result is `OK`/0 or `Fail`/1, nothing else. -/
theorem test_stdout_cases (lib : Lib σ) (inv : Inv) :
    cli lib .test inv = okRes ∨ cli lib .test inv = failRes := by
  rw [cli_test_eq]
  exact (testClosed_spec lib _).imp And.left And.left

/-- `OK`/0 exactly when the text is free of syntax errors and rebuilds to itself — for every
    library, raising or not. -/
theorem test_ok_iff (lib : Lib σ) (inv : Inv) (t : Text) (hc : inv.content = .ok t) :
    cli lib .test inv = okRes ↔ Good lib t := by
  rw [cli_test_eq, hc]
  rcases testClosed_spec lib (.ok t) with ⟨h, t', ht, hg⟩ | ⟨h, hn⟩
  · cases ht; exact ⟨fun _ => hg, fun _ => h⟩
  · rw [h]; exact ⟨fun h' => absurd h' (by decide), fun hg => absurd hg (hn t rfl)⟩

theorem test_exit_zero_iff (lib : Lib σ) (inv : Inv) (t : Text) (hc : inv.content = .ok t) :
    (cli lib .test inv).exit = 0 ↔ Good lib t := by
  rw [← test_ok_iff lib inv t hc]
  rcases test_stdout_cases lib inv with h | h <;> rw [h] <;> simp [okRes, failRes, sOK, sFail]

/-- `Fail`/1 in every other case: not good, or the input cannot even be decoded. -/
theorem test_fail_otherwise (lib : Lib σ) (inv : Inv)
    (h : ∀ t, inv.content = .ok t → ¬ Good lib t) : cli lib .test inv = failRes := by
  rw [cli_test_eq]
  rcases testClosed_spec lib inv.content with ⟨_, t, ht, hg⟩ | ⟨h', _⟩
  · exact absurd hg (h t ht)
  · exact h'

/-- FULL statement of the verdict clause, for any command-line function: for the text that is on
    the channel (`inv.raw`), `OK`/0 when it is good, `Fail`/1 otherwise. -/
def TestVerdictFullOf (cliF : ∀ {σ : Type}, Lib σ → Cmd → Inv → Res) : Prop :=
  ∀ (σ : Type) (lib : Lib σ) (inv : Inv) (t : Text), inv.raw = .ok t →
    (Good lib t → cliF lib .test inv = okRes) ∧ (¬ Good lib t → cliF lib .test inv = failRes)

def TestVerdictFull : Prop := TestVerdictFullOf @cli

/-- The clause holds of the current code (since /repo 1526c34 and 1fe47da) with `Good` as the
    only condition: any library, both channels, any text. -/
theorem test_verdict_full : TestVerdictFull := by
  intro σ lib inv t hraw
  have hc : inv.content = .ok t := by rw [content_eq_raw, hraw]
  refine ⟨(test_ok_iff lib inv t hc).mpr, fun hg => test_fail_otherwise lib inv ?_⟩
  intro t' hc' hg'
  rw [hc] at hc'
  injection hc' with hc'
  subst hc'
  exact hg hg'

/-- the same restricted to libraries that answer (the statement that was refuted by the CRLF
    witness under the old wiring) -/
def TestVerdictWhenAnsweredOf (cliF : ∀ {σ : Type}, Lib σ → Cmd → Inv → Res) : Prop :=
  ∀ (σ : Type) (lib : Lib σ) (inv : Inv) (t : Text), inv.raw = .ok t → libAnswers lib t = true →
    (Good lib t → cliF lib .test inv = okRes) ∧ (¬ Good lib t → cliF lib .test inv = failRes)

def TestVerdictWhenAnswered : Prop := TestVerdictWhenAnsweredOf @cli

theorem test_verdict_when_answered : TestVerdictWhenAnswered :=
  fun σ lib inv t hraw _ => test_verdict_full σ lib inv t hraw

/-- input that cannot be decoded is `Fail`/1 too, on either channel -/
theorem test_undecodable_fails (lib : Lib σ) (inv : Inv) (e : Err) (h : inv.raw = .error e) :
    cli lib .test inv = failRes := by
  apply test_fail_otherwise
  intro t hc
  rw [content_eq_raw, h] at hc
  cases hc

/-! ### The fixed defect C16-test-traceback (code before /repo 1526c34): exceptions escaped. -/

/-- a library whose `parse` raises (the real one does on `uri_expression`, on deep nesting, …) -/
def raisingLib : Lib Unit :=
  { parse := fun _ => .error .value, containsError := fun _ => false, rebuild := fun _ => .ok [],
    setValue := fun _ _ _ => .ok [], removeValue := fun _ _ => .ok [] }

/-- Counterexample for the old `test`: the library raises, `nima test` printed nothing on stdout
    (traceback, status 1) instead of `Fail`. -/
theorem cex_test_verdict_traceback : ¬ TestVerdictFullOf @oldCli := by
  intro h
  have h2 := (h Unit raisingLib { chan := .stdin, raw := .ok ['x'] } ['x'] rfl).2
    (by rintro ⟨s, hp, _⟩; cases hp)
  revert h2
  decide +kernel

/-- the old `test` had the right exit status all the same -/
theorem old_test_exit_zero_iff (lib : Lib σ) (inv : Inv) (t : Text) (hc : inv.content = .ok t) :
    (oldCli lib .test inv).exit = 0 ↔ Good lib t := by
  rw [← test_exit_zero_iff lib inv t hc, oldCli_test_eq, cli_test_eq]
  rcases oldTestClosed_cases lib inv.content with h | ⟨e, h1, h2⟩
  · rw [h]
  · rw [h1, h2]; exact Iff.rfl

/-! ### The fixed defect C16-file-newline-translation (wiring before /repo 1fe47da), verdict part -/

/-- a library that keeps the text and normalises line ends when rebuilding (as the real one does) -/
def normalisingLib : Lib Text :=
  { parse := fun t => .ok t, containsError := fun _ => false, rebuild := fun s => .ok (translateNewlines s),
    setValue := fun s _ _ => .ok s, removeValue := fun s _ => .ok s }

/-- Counterexample for the old wiring: the file holds `a\r\n`, which does not rebuild to identical
    bytes, but `nima test -f FILE` read `a\n` and printed `OK`. -/
theorem cex_test_verdict_crlf_file : ¬ TestVerdictWhenAnsweredOf (cliWith oldFileOpt) := by
  intro h
  have h2 := (h Text normalisingLib { chan := .file, raw := .ok ['a', '\r', '\n'] } ['a', '\r', '\n'] rfl
    (by decide)).2 (by
      rintro ⟨s, hp, _, hr⟩
      simp only [normalisingLib] at hp hr
      injection hp with hp
      subst hp
      revert hr
      decide +kernel)
  revert h2
  decide +kernel

/-! ## 2. `nima set` / `nima rm`: what is emitted, exit status, silence on error -/

/-- The emitted bytes are the text of the library edit with a line terminator added only when
    it lacks one, status 0. -/
theorem edit_emits_ensureNewline (lib : Lib σ) (cmd : Cmd) (hcmd : cmd ≠ .test) (inv : Inv) (t text : Text)
    (hc : inv.content = .ok t) (he : libEdit lib cmd inv.npath inv.value t = .ok text) :
    cli lib cmd inv = ⟨ensureNewline text, 0, none, false⟩ := by
  rw [cli_edit_eq lib cmd hcmd]
  simp [editClosed, hc, he]

/-- the library rejects the edit (or cannot parse): nothing on stdout, traceback, status 1 -/
theorem edit_error_silent (lib : Lib σ) (cmd : Cmd) (hcmd : cmd ≠ .test) (inv : Inv) (t : Text) (e : Err)
    (hc : inv.content = .ok t) (he : libEdit lib cmd inv.npath inv.value t = .error e) :
    cli lib cmd inv = tracebackRes e := by
  rw [cli_edit_eq lib cmd hcmd]
  simp [editClosed, hc, he]

/-- the input cannot be read (undecodable bytes): nothing on stdout, status 1 -/
theorem edit_read_error_silent (lib : Lib σ) (cmd : Cmd) (hcmd : cmd ≠ .test) (inv : Inv) (e : Err)
    (hc : inv.content = .error e) : cli lib cmd inv = tracebackRes e := by
  rw [cli_edit_eq lib cmd hcmd]
  simp [editClosed, hc]

/-- exit 0 only on success, and always on success -/
theorem edit_exit_zero_iff (lib : Lib σ) (cmd : Cmd) (hcmd : cmd ≠ .test) (inv : Inv) :
    (cli lib cmd inv).exit = 0 ↔
      ∃ t text, inv.content = .ok t ∧ libEdit lib cmd inv.npath inv.value t = .ok text := by
  rw [cli_edit_eq lib cmd hcmd]
  unfold editClosed
  cases hc : inv.content with
  | error e => simp [tracebackRes]
  | ok t =>
    cases he : libEdit lib cmd inv.npath inv.value t with
    | error e => simp [tracebackRes, he]
    | ok text => simp [he]

/-- "on any error stdout stays empty and the exit status is non-zero" -/
theorem edit_nonzero_silent (lib : Lib σ) (cmd : Cmd) (hcmd : cmd ≠ .test) (inv : Inv)
    (h : (cli lib cmd inv).exit ≠ 0) : (cli lib cmd inv).stdout = [] ∧ (cli lib cmd inv).exit = 1 := by
  rw [cli_edit_eq lib cmd hcmd] at h ⊢
  unfold editClosed at h ⊢
  cases hc : inv.content with
  | error e => exact ⟨rfl, rfl⟩
  | ok t =>
    simp only [hc] at h ⊢
    cases he : libEdit lib cmd inv.npath inv.value t with
    | error e => exact ⟨rfl, rfl⟩
    | ok text => simp [he] at h

/-- FULL statement of the line-terminator clause: "adding a line terminator only when that text
    lacks one", for any command-line function `cliF` (the current one, or the one before the repair). -/
def LineTerminatorFullOf (cliF : ∀ {σ : Type}, Lib σ → Cmd → Inv → Res) : Prop :=
  ∀ (σ : Type) (lib : Lib σ) (cmd : Cmd) (inv : Inv) (t text : Text), cmd ≠ .test →
    inv.content = .ok t → libEdit lib cmd inv.npath inv.value t = .ok text →
    (cliF lib cmd inv).stdout = ensureNewline text

def LineTerminatorFull : Prop := LineTerminatorFullOf @cli

/-- The clause holds of the current code (since /repo 9670208), at full strength. -/
theorem line_terminator_full : LineTerminatorFull := by
  intro σ lib cmd inv t text hcmd hc he
  rw [edit_emits_ensureNewline lib cmd hcmd inv t text hc he]

/-- FULL statement of the consequence the property names: an edit text that ends in exactly one
    newline is emitted ending in exactly one newline. -/
def OneNewlineFullOf (cliF : ∀ {σ : Type}, Lib σ → Cmd → Inv → Res) : Prop :=
  ∀ (σ : Type) (lib : Lib σ) (cmd : Cmd) (inv : Inv) (t text : Text), cmd ≠ .test →
    inv.content = .ok t → libEdit lib cmd inv.npath inv.value t = .ok text →
    endsInOneNewline text = true → endsInOneNewline (cliF lib cmd inv).stdout = true

def OneNewlineFull : Prop := OneNewlineFullOf @cli

theorem one_newline_full : OneNewlineFull := by
  intro σ lib cmd inv t text hcmd hc he h1
  rw [edit_emits_ensureNewline lib cmd hcmd inv t text hc he,
    ensureNewline_of_endsWith text (endsInOneNewline_getLast text h1)]
  exact h1

/-- Emitting is idempotent at the file level: whatever the edit text, the emitted bytes end in a
    newline, and an edit text that already does is emitted byte for byte. -/
theorem edit_output_terminated (lib : Lib σ) (cmd : Cmd) (hcmd : cmd ≠ .test) (inv : Inv) (t text : Text)
    (hc : inv.content = .ok t) (he : libEdit lib cmd inv.npath inv.value t = .ok text) :
    (cli lib cmd inv).stdout.getLast? = some '\n' ∧
      (text.getLast? = some '\n' → (cli lib cmd inv).stdout = text) := by
  rw [edit_emits_ensureNewline lib cmd hcmd inv t text hc he]
  exact ⟨ensureNewline_endsWith text, ensureNewline_of_endsWith text⟩

/-- SPEC sanity: `ensureNewline` is what the property describes. -/
theorem ensureNewline_spec (t : Text) :
    (t.getLast? = some '\n' → ensureNewline t = t) ∧
    (t.getLast? ≠ some '\n' → ensureNewline t = t ++ ['\n']) ∧
    ensureNewline (ensureNewline t) = ensureNewline t ∧
    (endsInOneNewline t = true → endsInOneNewline (ensureNewline t) = true) := by
  refine ⟨ensureNewline_of_endsWith t, ensureNewline_of_not t, ensureNewline_idem t, ?_⟩
  intro h
  rw [ensureNewline_of_endsWith t (endsInOneNewline_getLast t h)]
  exact h

/-! ### The fixed defect C16-print-newline (code before /repo 9670208): `print(x)` always appends `\n`.
Kept as documentation, and so that a regression is recognised: `oldSetProg`/`oldRmProg` are the
print-based programs, `oldCli` runs them. -/

/-- a library whose edits return the source text unchanged -/
def identityLib : Lib Text :=
  { parse := fun t => .ok t, containsError := fun _ => false, rebuild := fun s => .ok s,
    setValue := fun s _ _ => .ok s, removeValue := fun s _ => .ok s }

theorem old_edit_emits_text_newline (lib : Lib σ) (cmd : Cmd) (hcmd : cmd ≠ .test) (inv : Inv) (t text : Text)
    (hc : inv.content = .ok t) (he : libEdit lib cmd inv.npath inv.value t = .ok text) :
    oldCli lib cmd inv = ⟨text ++ ['\n'], 0, none, false⟩ := by
  rw [oldCli_edit_eq lib cmd hcmd]
  simp [oldEditClosed, hc, he]

/-- Counterexample for the old code: the edit returns `x\n`; `nima set` emitted `x\n\n`. -/
theorem cex_line_terminator : ¬ LineTerminatorFullOf @oldCli := by
  intro h
  have h2 := h Text identityLib .set { chan := .stdin, raw := .ok ['x', '\n'] } ['x', '\n'] ['x', '\n']
    (by decide) rfl rfl
  revert h2
  decide +kernel

theorem cex_one_newline : ¬ OneNewlineFullOf @oldCli := by
  intro h
  have h2 := h Text identityLib .rm { chan := .stdin, raw := .ok ['x', '\n'] } ['x', '\n'] ['x', '\n']
    (by decide) rfl rfl (by decide)
  revert h2
  decide +kernel

/-- The old code met the clause exactly for edit texts that lack the terminator … -/
theorem old_line_terminator_partial (lib : Lib σ) (cmd : Cmd) (hcmd : cmd ≠ .test) (inv : Inv) (t text : Text)
    (hc : inv.content = .ok t) (he : libEdit lib cmd inv.npath inv.value t = .ok text)
    (hn : text.getLast? ≠ some '\n') : (oldCli lib cmd inv).stdout = ensureNewline text := by
  rw [old_edit_emits_text_newline lib cmd hcmd inv t text hc he, ensureNewline_of_not text hn]

/-- … and failed for every edit text that has it: one newline too many, on every invocation. -/
theorem old_line_terminator_fails_exactly (lib : Lib σ) (cmd : Cmd) (hcmd : cmd ≠ .test) (inv : Inv) (t text : Text)
    (hc : inv.content = .ok t) (he : libEdit lib cmd inv.npath inv.value t = .ok text)
    (hn : text.getLast? = some '\n') :
    (oldCli lib cmd inv).stdout = ensureNewline text ++ ['\n'] ∧ (oldCli lib cmd inv).stdout ≠ ensureNewline text := by
  rw [old_edit_emits_text_newline lib cmd hcmd inv t text hc he, ensureNewline_of_endsWith text hn]
  exact ⟨rfl, by simp⟩

theorem old_one_newline_never_preserved (lib : Lib σ) (cmd : Cmd) (hcmd : cmd ≠ .test) (inv : Inv) (t text : Text)
    (hc : inv.content = .ok t) (he : libEdit lib cmd inv.npath inv.value t = .ok text)
    (h1 : endsInOneNewline text = true) : endsInOneNewline (oldCli lib cmd inv).stdout = false := by
  rw [old_edit_emits_text_newline lib cmd hcmd inv t text hc he]
  exact endsInOneNewline_append text (endsInOneNewline_getLast text h1)

/-- the repair 9670208 changed nothing but the terminator: same exit status, same silence on error -/
theorem old_and_new_agree_elsewhere (lib : Lib σ) (cmd : Cmd) (hcmd : cmd ≠ .test) (inv : Inv) :
    (oldCli lib cmd inv).exit = (cli lib cmd inv).exit ∧ (oldCli lib cmd inv).raised = (cli lib cmd inv).raised ∧
      ((cli lib cmd inv).exit ≠ 0 → (oldCli lib cmd inv).stdout = (cli lib cmd inv).stdout) := by
  rw [oldCli_edit_eq lib cmd hcmd, cli_edit_eq lib cmd hcmd]
  unfold oldEditClosed editClosed
  repeat' split
  all_goals simp [tracebackRes]

/-- the repair 1526c34 of `test` changed nothing but the traceback: same exit status always, same
    result whenever the old code did not raise -/
theorem old_and_new_test_agree (lib : Lib σ) (inv : Inv) :
    (oldCli lib .test inv).exit = (cli lib .test inv).exit ∧
      ((oldCli lib .test inv).raised = none → oldCli lib .test inv = cli lib .test inv) := by
  rw [oldCli_test_eq, cli_test_eq]
  rcases oldTestClosed_cases lib inv.content with h | ⟨e, h1, h2⟩
  · rw [h]; exact ⟨rfl, fun _ => rfl⟩
  · rw [h1, h2]; exact ⟨rfl, fun h => nomatch h⟩

/-! ## 3. Channel independence -/

/-- The result is a function of the text `read()` delivers, the arguments and the library only:
    which channel delivered it is never consulted. -/
theorem channel_independent_content (lib : Lib σ) (cmd : Cmd) (i1 i2 : Inv)
    (hc : i1.content = i2.content) (hn : i1.npath = i2.npath) (hv : i1.value = i2.value) :
    cli lib cmd i1 = cli lib cmd i2 := by
  unfold cli runProg
  rw [hc, hn, hv]
  apply run_chanFree
  cases cmd <;> decide

/-- FULL statement, for any command-line function: the same bytes give the same result on stdin
    and through `-f FILE`. -/
def ChannelIndependenceFullOf (cliF : ∀ {σ : Type}, Lib σ → Cmd → Inv → Res) : Prop :=
  ∀ (σ : Type) (lib : Lib σ) (cmd : Cmd) (raw : Except Err Text) (np v : Text),
    cliF lib cmd ⟨.stdin, raw, np, v⟩ = cliF lib cmd ⟨.file, raw, np, v⟩

def ChannelIndependenceFull : Prop := ChannelIndependenceFullOf @cli

/-- The clause holds of the current code (since /repo 1fe47da): every command, every library, every
    input (also undecodable ones), all arguments. -/
theorem channel_independence_full : ChannelIndependenceFull := by
  intro σ lib cmd raw np v
  apply channel_independent_content lib cmd ⟨.stdin, raw, np, v⟩ ⟨.file, raw, np, v⟩ ?_ rfl rfl
  rw [content_eq_raw, content_eq_raw]

/-! ### The fixed defect C16-file-newline-translation (wiring before /repo 1fe47da):
`argparse.FileType("r")` translated `\r\n` and `\r` to `\n`, POSIX stdin does not. -/

/-- Counterexample for the old wiring: the text `x\r` was emitted as `x\r\n` from stdin and as
    `x\n` from `-f FILE`. -/
theorem cex_channel_cr : ¬ ChannelIndependenceFullOf (cliWith oldFileOpt) := by
  intro h
  have h2 := h Text identityLib .set (.ok ['x', '\r']) [] []
  revert h2
  decide +kernel

/-- Under the old wiring the channels agreed exactly on texts without `\r` (and unreadable inputs). -/
theorem old_channel_independent_partial (lib : Lib σ) (cmd : Cmd) (raw : Except Err Text) (np v : Text)
    (h : match raw with | .ok t => hasCR t = false | .error _ => True) :
    cliWith oldFileOpt lib cmd ⟨.stdin, raw, np, v⟩ = cliWith oldFileOpt lib cmd ⟨.file, raw, np, v⟩ := by
  unfold cliWith runProgWith
  have hc : contentWith oldFileOpt .stdin raw = contentWith oldFileOpt .file raw := by
    cases raw with
    | error e => simp [contentWith_error]
    | ok t => simp only at h; simp [contentWith_of_noCR _ _ _ h]
  simp only [hc]
  apply run_chanFree
  cases cmd <;> decide

/-- the current wiring is the old one without the translation: nothing else changed -/
theorem cliWith_fileOpt (lib : Lib σ) (cmd : Cmd) (inv : Inv) : cliWith fileOpt lib cmd inv = cli lib cmd inv := rfl

/-! ## 4. Errors of every kind: stdout empty, status non-zero -/

/-- an uncaught exception in any of the three commands: stdout empty, status 1 -/
theorem raise_exit_one_silent (lib : Lib σ) (cmd : Cmd) (inv : Inv) (e : Err)
    (h : (cli lib cmd inv).raised = some e) : (cli lib cmd inv).stdout = [] ∧ (cli lib cmd inv).exit = 1 := by
  constructor
  · have hp : (progOf cmd).emitsLast = true := by cases cmd <;> decide
    exact run_emitsLast_silent lib _ _ _ _ (progOf cmd) hp {} (by unfold cli runProg at h; rw [h]; simp)
  · exact run_raised_exit lib _ _ _ _ (progOf cmd) {} e h

/-- argparse errors (unknown command, missing or extra positional, unreadable FILE): status 2, stdout
    empty; no sub-command: help on stderr, status 2, stdout empty. -/
theorem usage_silent (lib : Lib σ) :
    cliMain lib .usage = ⟨[], 2, none, false⟩ ∧ cliMain lib .noCommand = ⟨[], 2, none, true⟩ := by
  constructor <;> rfl

/-- number of positionals of each sub-command -/
def arity : Cmd → Nat
  | .test => 0 | .set => 2 | .rm => 1

/-- a wrong number of positionals never reaches the library -/
theorem wrong_arity_is_usage (cmd : Cmd) (chan : Channel) (raw : Except Err Text) (vals : List Text)
    (h : vals.length ≠ arity cmd) : cliMain raisingLib (argOutcome cmd chan raw vals) = usageRes := by
  -- the wiring lists `arity cmd` positionals for `cmd`
  have spec : ∃ names file, argSpec.lookup cmd.name = some (names, file) ∧ names.length = arity cmd := by
    cases cmd <;> exact ⟨_, _, rfl, rfl⟩
  obtain ⟨names, file, hl, hn⟩ := spec
  have hb : bindPositionals argSpec cmd vals = none := by
    unfold bindPositionals
    rw [hl]
    exact if_neg fun hv => h (hv.symm.trans hn)
  unfold argOutcome
  rw [hb]
  rfl

/-- `set P V` binds `npath := P`, `value := V` (positional order of cli/parser.py) -/
theorem set_binds_in_order (chan : Channel) (raw : Except Err Text) (p v : Text) :
    ∃ inv, argOutcome .set chan raw [p, v] = .parsed .set inv ∧ inv.npath = p ∧ inv.value = v ∧
      inv.chan = chan := by
  exact ⟨_, rfl, rfl, rfl, rfl⟩

/-! ## 5. Facts about every command-line program (unbounded: induction over `Prog`) -/

/-- any program that never tests `args.file is sys.stdin` is channel independent -/
theorem generic_channel_irrelevant (lib : Lib σ) (content : Except Err Text) (c1 c2 : Channel) (np v : Text)
    (p : Prog) (h : p.chanFree = true) (st : St σ) :
    run lib content c1 np v p st = run lib content c2 np v p st :=
  run_chanFree lib content c1 c2 np v p h st

/-- any program whose emits come after everything that can raise is silent on error -/
theorem generic_error_silent (lib : Lib σ) (content : Except Err Text) (c : Channel) (np v : Text)
    (p : Prog) (h : p.emitsLast = true) (st : St σ) (hr : (run lib content c np v p st).raised ≠ none) :
    (run lib content c np v p st).stdout = st.out ∧ (run lib content c np v p st).exit = 1 := by
  refine ⟨run_emitsLast_silent lib content c np v p h st hr, ?_⟩
  cases hx : (run lib content c np v p st).raised with
  | none => exact absurd hx hr
  | some e => exact run_raised_exit lib content c np v p st e hx

/-! ## Non-vacuity: the hypotheses above are met. -/

example : Good identityLib ['{', '}', '\n'] := ⟨_, rfl, rfl, rfl⟩
example : libAnswers identityLib ['{', '}', '\n'] = true := by decide +kernel
example : libAnswers normalisingLib ['a', '\r', '\n'] = true ∧ hasCR ['a', '\r', '\n'] = true := by decide +kernel
example : cli identityLib .test { chan := .file, raw := .ok ['{', '}', '\n'] } = okRes := by decide +kernel
example : cli raisingLib .test { chan := .stdin, raw := .ok ['x'] } = failRes := by decide +kernel
example : oldCli raisingLib .test { chan := .stdin, raw := .ok ['x'] } = tracebackRes .value := by decide +kernel
example : cli normalisingLib .test { chan := .file, raw := .ok ['a', '\r', '\n'] } = failRes := by decide +kernel
example : cliWith oldFileOpt normalisingLib .test { chan := .file, raw := .ok ['a', '\r', '\n'] } = okRes := by decide +kernel
example : cli identityLib .set { chan := .stdin, raw := .ok ['x'] } = ⟨['x', '\n'], 0, none, false⟩ := by decide +kernel
example : cli identityLib .set { chan := .stdin, raw := .ok ['x', '\n'] } = ⟨['x', '\n'], 0, none, false⟩ := by decide +kernel
example : oldCli identityLib .set { chan := .stdin, raw := .ok ['x', '\n'] } = ⟨['x', '\n', '\n'], 0, none, false⟩ := by decide +kernel
example : libEdit identityLib .set [] [] ['x'] = .ok ['x'] ∧ (['x'] : Text).getLast? ≠ some '\n' := by decide +kernel
example : endsInOneNewline ['x', '\n'] = true ∧ endsInOneNewline ['x', '\n', '\n'] = false := by decide +kernel
example : translateNewlines ['a', '\r', '\n', 'b', '\r', 'c', '\n'] = ['a', '\n', 'b', '\n', 'c', '\n'] := by decide +kernel

/-! ## 6. Over the edit model: what the shell shows IS the model's edit

`Cli.editLib` (`Lemmas/CliEdit.lean`) is any library whose `set_value` / `remove_value` are the
modelled ones (any comparison of name tokens, any `parse`, reading of VALUE and rendering). -/

/-- An accepted `set`: stdout is exactly the rendering of the document the MODEL edit produced,
    terminated by one newline if it lacks one, exit status 0. -/
theorem cli_set_emits_model_edit (inst : NameCmp) (base : Lib σ) (docOf : σ → Doc)
    (classify : Text → ValueArg) (render : Doc → Except Err Text) (inv : Inv) (t : Text) (s : σ)
    (u : Unit) (d' : Doc) (text : Text) (hc : inv.content = .ok t) (hp : base.parse t = .ok s)
    (h : @setValue inst inv.npath (classify inv.value) (docOf s) = (.ok u, d'))
    (hr : render d' = .ok text) :
    cli (@editLib σ inst base docOf classify render) .set inv = ⟨ensureNewline text, 0, none, false⟩ := by
  rw [@cli_set_model σ inst base docOf classify render inv t s hc hp, h]
  simp [shown, hr]

theorem cli_rm_emits_model_edit (inst : NameCmp) (base : Lib σ) (docOf : σ → Doc)
    (classify : Text → ValueArg) (render : Doc → Except Err Text) (inv : Inv) (t : Text) (s : σ)
    (u : Unit) (d' : Doc) (text : Text) (hc : inv.content = .ok t) (hp : base.parse t = .ok s)
    (h : @removeValue inst inv.npath (docOf s) = (.ok u, d'))
    (hr : render d' = .ok text) :
    cli (@editLib σ inst base docOf classify render) .rm inv = ⟨ensureNewline text, 0, none, false⟩ := by
  rw [@cli_rm_model σ inst base docOf classify render inv t s hc hp, h]
  simp [shown, hr]

/-- The model edit does not see the channel: the same text, path and value give the same result on
    stdin and through `-f FILE`. -/
theorem cli_set_channel_free (inst : NameCmp) (base : Lib σ) (docOf : σ → Doc)
    (classify : Text → ValueArg) (render : Doc → Except Err Text) (i1 i2 : Inv) (t : Text) (s : σ)
    (h1 : i1.content = .ok t) (h2 : i2.content = .ok t) (hp : base.parse t = .ok s)
    (hn : i1.npath = i2.npath) (hv : i1.value = i2.value) :
    cli (@editLib σ inst base docOf classify render) .set i1 =
    cli (@editLib σ inst base docOf classify render) .set i2 := by
  rw [@cli_set_model σ inst base docOf classify render i1 t s h1 hp,
      @cli_set_model σ inst base docOf classify render i2 t s h2 hp, hn, hv]

/-- Non-vacuity of section 6: an accepted `set a 1` on the empty set in the model (the code's own
    name comparison), rendered as `x` — the shell shows `x\n`, status 0. -/
def unitLib : Lib Unit := ⟨fun _ => .ok (), fun _ => false, fun _ => .ok [], fun _ _ _ => .ok [], fun _ _ => .ok []⟩
example : (@setValue NameCmp.model ['a'] (.one (.atom ['1'])) ({} : Doc)).1 = .ok () := by decide +kernel
example : cli (@editLib Unit NameCmp.model unitLib (fun _ => ({} : Doc)) (fun _ => .one (.atom ['1'])) (fun _ => .ok ['x']))
    .set { chan := .stdin, raw := .ok [], npath := ['a'], value := ['1'] } = ⟨['x', '\n'], 0, none, false⟩ := by decide +kernel

end Nima.C16
