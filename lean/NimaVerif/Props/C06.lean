import NimaVerif.Lemmas.Trivia
import NimaVerif.Lemmas.FragNFParse
import NimaVerif.Lemmas.FragFixed
import NimaVerif.Lemmas.Text
/-!
# C06 — rebuilt text is a fixed point (trivia algebra)

The gap-level heart of the fixed-point property: classifying a gap, rendering the classification and
classifying the rendered text again gives the same classification (and therefore the same text on
the second pass), for every gap text; the same for the trivia collected from a gap
(`append_gap_trivia` ∘ `format_trivia`) and for comment tokens (`Comment.from_cst` ∘ `rebuild`).
Theorems about `Model/Trivia.lean`; SPEC notions in `Model/TriviaSpec.lean`. The construct renderers are modelled for the
container fragment only (`section Fragment` at the end of this file); the others are observed by the harness.
-/
namespace Nima.C06

/-! ## Layout classification is idempotent -/

/-- the classification a rendered separator has: indentation made explicit -/
def Layout.normalize (l : Layout) (i : Nat) : Layout :=
  if l.onNewline then { onNewline := true, blankLine := l.blankLine, indent := some (l.indent.getD i) } else {}

/-- For every layout value: re-classifying the separator rendered from it gives the layout with the
    indentation default filled in (and nothing else changed). -/
theorem fromGap_separator (l : Layout) (i : Nat) :
    Layout.fromGap (separatorFromLayout l i) = Layout.normalize l i := by
  unfold separatorFromLayout Layout.normalize
  cases l.onNewline
  · rfl
  · cases l.blankLine
    · simp only [Bool.not_true, Bool.false_eq_true, if_false, if_true]
      exact fromGap_nl_spaces _
    · simp only [Bool.not_true, Bool.false_eq_true, if_false, if_true]
      exact fromGap_nlnl_spaces _

/-- For layouts that come from a gap — every layout the parser produces — the classification is a
    fixed point outright, whatever the gap text and the indentation default. -/
theorem fromGap_separator_idem (g : Text) (i : Nat) :
    Layout.fromGap (separatorFromLayout (Layout.fromGap g) i) = Layout.fromGap g := by
  rw [fromGap_separator]
  unfold Layout.normalize Layout.fromGap
  cases containsNL g <;> rfl

/-- Second pass = first pass: the separator rendered from the re-classified separator is the
    separator, byte for byte, for every gap and whatever the indentation defaults of both passes. -/
theorem separator_second_pass (g : Text) (i j : Nat) :
    separatorFromLayout (Layout.fromGap (separatorFromLayout (Layout.fromGap g) i)) j
      = separatorFromLayout (Layout.fromGap g) i := by
  rw [fromGap_separator_idem]
  unfold separatorFromLayout Layout.fromGap
  cases containsNL g <;> rfl

/-- `Layout.from_gap` only ever produces layouts with an explicit indentation on a new line and
    nothing at all otherwise. -/
theorem fromGap_wellformed (g : Text) :
    (Layout.fromGap g).onNewline = containsNL g ∧
    (containsNL g = false → Layout.fromGap g = {}) ∧
    (containsNL g = true → (Layout.fromGap g).indent = some (indentFromGap g)) := by
  unfold Layout.fromGap
  cases containsNL g <;> simp

/-! ## Trivia collected from a gap -/

/-- the text a multi-line container writes between two items whose `before` list is `ts`:
    the joining line break, the rendered trivia, the indentation of the next item -/
def gapText (ts : List Trivia) (i : Nat) : Text := '\n' :: formatTrivia ts i ++ spaces i

theorem gapText_emptyLine (i : Nat) : gapText [.emptyLine] i = '\n' :: '\n' :: spaces i := rfl
theorem gapText_linebreak (i : Nat) : gapText [.linebreak] i = '\n' :: spaces i := rfl
theorem gapText_nil (i : Nat) : gapText [] i = '\n' :: spaces i := rfl

/-- `append_gap_trivia` on a gap that contains a line break: classify, render between two items,
    classify again — the same markers are appended (both `include_linebreak` settings, any list
    appended to, any gap text). `parse_delimited_sequence` uses the byte-offset variant, which is the
    same function by `C18.empty_line_impls_agree`. -/
theorem appendGapTrivia_idem (ts : List Trivia) (g : Text) (i : Nat) (incl1 incl2 : Bool)
    (h : containsNL g = true) :
    appendGapTrivia ts (gapText (appendGapTrivia [] g incl1) i) incl2 = appendGapTrivia ts g incl2 := by
  unfold appendGapTrivia
  cases hb : gapHasEmptyLine g
  · simp only [Bool.false_eq_true, if_false, h, Bool.and_true]
    have e : gapText (if incl1 = true then [] ++ [Trivia.linebreak] else []) i = '\n' :: spaces i := by
      cases incl1 <;> rfl
    rw [e, gapHasEmptyLine_nl_spaces]
    simp [containsNL_cons]
  · simp only [if_true, List.nil_append, gapText_emptyLine, gapHasEmptyLine_nlnl_spaces]

/-- A gap without a line break (two items on one line) contributes no marker; once the container
    is written one item per line the gap is classified as a plain line break … -/
theorem appendGapTrivia_inline_gap (ts : List Trivia) (g : Text) (i : Nat) (incl : Bool)
    (h : containsNL g = false) :
    appendGapTrivia ts g incl = ts ∧
    appendGapTrivia ts (gapText (appendGapTrivia [] g incl) i) true = ts ++ [.linebreak] := by
  refine ⟨appendGapTrivia_of_noNL ts h incl, ?_⟩
  rw [appendGapTrivia_of_noNL [] h incl, gapText_nil, appendGapTrivia_nl_spaces]
  rfl

/-- … which renders to the same text: for EVERY gap the rendered gap text is a fixed point of
    classify-and-render. -/
theorem gapText_fixed_point (g : Text) (i : Nat) :
    gapText (appendGapTrivia [] (gapText (appendGapTrivia [] g) i)) i = gapText (appendGapTrivia [] g) i := by
  cases h : containsNL g
  · rw [(appendGapTrivia_inline_gap [] g i true h).2, (appendGapTrivia_inline_gap [] g i true h).1]
    rfl
  · rw [appendGapTrivia_idem [] g i true true h]

/-- A `before` list as the sequence parser builds it — gap, own-line comment, gap — renders to
    canonical gap texts around the comment token, so that `appendGapTrivia_idem` and
    `block_comment_idem` / `line_comment_idem` apply to each part of the rendered text. -/
theorem before_list_rendering (g1 g2 : Text) (c : Comment) (i : Nat) (hc : c.inline = false) :
    gapText (appendGapTrivia [] g1 ++ [.comment c] ++ appendGapTrivia [] g2) i =
      gapText (appendGapTrivia [] g1) i ++ c.token i ++ gapText (appendGapTrivia [] g2) i := by
  have hcf : ∀ g, CommaFree (appendGapTrivia [] g) := by
    intro g; unfold appendGapTrivia; split
    · decide
    · split <;> decide
  have hall : CommaFree (appendGapTrivia [] g1 ++ [.comment c] ++ appendGapTrivia [] g2) := by
    rw [commaFree_append, commaFree_append]
    exact ⟨⟨hcf g1, by simp [CommaFree]⟩, hcf g2⟩
  unfold gapText
  rw [Nima.formatTrivia_append _ _ i hall, Nima.formatTrivia_append _ _ i (commaFree_append.mp hall).1,
    formatTrivia_eq_flatMap [.comment c] i (by simp [CommaFree])]
  simp [itemText, rebuild_eq_token, Comment.effIndent, hc]

/-! ## Comment normalisation is idempotent (shared with C03) -/

/-- Block comments, every token text after `/*`, every column and indentation: the rendered token is
    read back (at the column it is written at) as the same comment, hence re-rendered identically. -/
theorem block_comment_fixed_point (c1 i : Nat) (t : Text) (h : startsWith ['/', '*'] t = true) :
    (Comment.fromText i ((Comment.fromText c1 t).token i)).token i = (Comment.fromText c1 t).token i := by
  rw [block_token_fixed c1 i t h]

/-- Line comments: rendered text is stable from the first pass on (`# ` included). -/
theorem line_comment_fixed_point (c1 c2 : Nat) (r : Text) (hnl : containsNL r = false) :
    (Comment.fromText c2 ((Comment.fromText c1 ('#' :: r)).rebuild 0)).rebuild 0
      = (Comment.fromText c1 ('#' :: r)).rebuild 0 := by
  rw [line_comment_rebuild c1 0 r hnl]
  by_cases h : r = [' ']
  · subst h
    simp only [if_true, spaces_zero, List.nil_append]
    rw [line_comment_rebuild c2 0 [] rfl]; rfl
  · simp only [h, if_false, spaces_zero, List.nil_append]
    rw [fromText_hash_col c2 c1 r, line_comment_rebuild c1 0 r hnl]; simp [h]

/-- Full statement for comments rendered inline (false): an inline comment is rendered with
    indentation 0 while its token sits at some column `col > 0` after code, so the second pass reads
    the continuation lines relative to another column. -/
def inline_block_fixed_point_full : Prop :=
  ∀ (col : Nat) (t : Text), startsWith ['/', '*'] t = true →
    (Comment.fromText col ((Comment.fromText col t).token 0)).token 0 = (Comment.fromText col t).token 0

/-- `x = 1; /* x⏎␣×14 y */`: first pass re-indents the continuation line to 7 spaces, the second
    pass (token again at column 7) strips them: the text changes on every one of the first two
    passes. A drift of inline multi-line block comments whose continuation lines are indented by at
    least twice the token's column. -/
theorem cex_inline_multiline_block_drift : ¬ inline_block_fixed_point_full := by
  intro h
  have := h 7 "/* x\n              y */".toList rfl
  revert this; decide +kernel

/-- Partial: the inline rendering is a fixed point when the token starts in column 0 or the comment
    is a single-line one (decidable side condition). -/
theorem inline_block_fixed_point_partial (col : Nat) (t : Text) (h : startsWith ['/', '*'] t = true)
    (hs : col = 0 ∨ containsNL (blockInner t) = false) :
    (Comment.fromText col ((Comment.fromText col t).token 0)).token 0 = (Comment.fromText col t).token 0 := by
  rcases hs with rfl | hs
  · rw [block_token_fixed 0 0 t h]
  · have : Comment.fromText col ((Comment.fromText col t).token 0) = Comment.fromText col t := by
      rw [fromText_block col t h]
      simp only [hs, Bool.false_eq_true, if_false]
      have hx : containsNL (strip (blockInner t)) = false := containsNL_of_sublist (stripBy_sublist _ _) hs
      have htok : ({ text := strip (blockInner t), kind := .block (blockDoc t) none } : Comment).token 0 =
          blockOpening (blockDoc t) ++ [' '] ++ strip (blockInner t) ++ [' ', '*', '/'] := by
        simp [Comment.token, hx, blockOpening]
      rw [htok]
      exact fromText_single_block col (blockDoc t) _ (stripBy_stripped _ _) hx
    rw [this]

/-! ## Examples (non-vacuity) -/

def hostileGap : Text := "\t \r\n\n   ".toList

example : Layout.fromGap (separatorFromLayout (Layout.fromGap hostileGap) 2) = Layout.fromGap hostileGap := by decide +kernel
example : appendGapTrivia [] hostileGap = [.emptyLine] := by decide +kernel
example : gapText (appendGapTrivia [] hostileGap) 2 = "\n\n  ".toList := eq_toList rfl
example : appendGapTrivia [] (gapText (appendGapTrivia [] hostileGap) 2) = [.emptyLine] := by decide +kernel
example : gapText (appendGapTrivia [] " \t".toList ++ [.comment { text := "c".toList }] ++ appendGapTrivia [] "\n\n\n".toList) 2
    = "\n  # c\n\n  ".toList := eq_toList rfl
example : (Comment.fromText 2 "/* a\n       b\n  */".toList).token 2 = "/* a\n       b\n  */".toList := eq_toList rfl
example : (Comment.fromText 7 "/* x\n          y */".toList).token 0 = "/* x\n   y */".toList := eq_toList rfl

section Fragment
open Nima.Frag

/-! ## Container fragment (L3–L5): the second pass

Same models as `Props/C01.lean` (section Fragment). The second pass reads the OUTPUT of the first
one: tree-sitter returns some well-formed tree `f2` whose `flatten` is that text (the parser
contract, checked on every sample by `harness/cstdump.py`), and the fixed-point property says
that parsing and rebuilding `f2` gives the same text again. The statement below quantifies over
EVERY such `f2`, so no function "the CST of the output" is needed to state it. -/

/-- full statement: the rebuilt text is a fixed point, whatever tree the parser returns for it -/
def frag_fixed_point_full : Prop :=
  ∀ (f f2 : File) (s s2 : Src), f.wf = true → f.noLeadingWs = true → f.parse = .ok s →
    f2.wf = true → f2.flatten = s.rebuild → f2.parse = .ok s2 → s2.rebuild = s.rebuild

/-- first pass input `{ a = 1 # c⏎; # d⏎}` (both comments are end-of-line comments) -/
def semiFile : File :=
  { items := .elem [] (.set false [] (.bind " ".toList "a".toList [] " ".toList [] " ".toList (.leaf .int "1".toList)
      [(" ".toList, "# c".toList)] "\n".toList (.cmt " ".toList "# d".toList .nil)) "\n".toList) .nil,
    endGap := [] }

/-- the tree of its output `{⏎  a = 1; # c⏎# d⏎}` -/
def semiFile2 : File :=
  { items := .elem [] (.set false [] (.bind "\n  ".toList "a".toList [] " ".toList [] " ".toList (.leaf .int "1".toList)
      [] [] (.cmt " ".toList "# c".toList (.cmt "\n".toList "# d".toList .nil))) "\n".toList) .nil,
    endGap := [] }

example : semiFile.flatten = "{ a = 1 # c\n; # d\n}".toList := eq_toList rfl
example : semiFile.roundtrip = .ok "{\n  a = 1; # c\n# d\n}".toList := eq_ok_toList rfl
example : semiFile2.flatten = "{\n  a = 1; # c\n# d\n}".toList := eq_toList rfl
example : semiFile2.roundtrip = .ok "{\n  a = 1; # c\n  # d\n}".toList := eq_ok_toList rfl

/-- A comment in front of `;` and another one after it (open findings `C06-fixed-point-x-binding`,
    `C06-pair-fixed-point-*`): the first becomes the end-of-line comment of the binding, the second
    — an `inline` comment of the binding, rendered by `format_trivia` with indentation 0 — lands on
    its own line at column 0; the second pass reads it as an own-line comment and indents it.
    (`expressions/binding.py`: `Binding.rebuild` concatenates `value.after + self.after`;
    `comment.py`: `rebuild` forces indent 0 for `inline` comments.) -/
theorem cex_comment_around_semicolon : ¬ frag_fixed_point_full := by
  intro h
  have := h semiFile semiFile2 _ _ (by decide +kernel) (by decide +kernel) rfl (by decide +kernel) (by decide +kernel) rfl
  revert this; decide +kernel

/-- full statement (false): the fixed-point statement for ALL comment-free files of the fragment (every lexical
    item of the tree is a code token), i.e. `frag_fixed_point_comment_free` without the restriction of
    `Cst.cf` to the constructs other than `assert` -/
def frag_fixed_point_nocomment_full : Prop :=
  ∀ (f f2 : File) (s s2 : Src), f.wf = true → f.noLeadingWs = true → f.items.lex.length = f.codeTokens.length →
    f.parse = .ok s → f2.wf = true → f2.flatten = s.rebuild → f2.parse = .ok s2 → s2.rebuild = s.rebuild

/-- `{ a = assert x; y; }` -/
def assertSetFile : File :=
  { items := .elem [] (.set false [] (.bind " ".toList "a".toList [] " ".toList [] " ".toList
      (.kw false [] " ".toList (.leaf .ident "x".toList) [] [] [] " ".toList (.leaf .ident "y".toList)) [] [] .nil) " ".toList) .nil,
    endGap := "\n".toList }

/-- the tree of its output `{ a = assert x;⏎  y; }` -/
def assertSetFile2 : File :=
  { items := .elem [] (.set false [] (.bind " ".toList "a".toList [] " ".toList [] " ".toList
      (.kw false [] " ".toList (.leaf .ident "x".toList) [] [] [] "\n  ".toList (.leaf .ident "y".toList)) [] [] .nil) " ".toList) .nil,
    endGap := "\n".toList }

/-- NEW FINDING `C06-fragment-assert-in-one-line-container`: `Assertion.rebuild` (expressions/assertion.py)
    always writes the body on a line of its own. Inside a container written on one line the first pass
    therefore puts a line break into the container (`{ a = assert x; y; }` -> `{ a = assert x;⏎  y; }`), and
    the second pass, which reads the container as spanning several lines, lays it out again
    (-> `{⏎  a = assert x;⏎  y;⏎}`): not a fixed point, without any comment. Hence `assert` stays outside
    `Cst.cf`; a normaliser for it would need the exclusion "no `assert` inside a one-line container". -/
theorem cex_assert_in_one_line_container : ¬ frag_fixed_point_nocomment_full := by
  intro h
  have := h assertSetFile assertSetFile2 _ _ (by decide +kernel) (by decide +kernel) (by decide +kernel) rfl
    (by decide +kernel) (by decide +kernel) rfl
  revert this; decide +kernel

example : assertSetFile.flatten = "{ a = assert x; y; }\n".toList := eq_toList rfl
example : assertSetFile.roundtrip = .ok "{ a = assert x;\n  y; }\n".toList := eq_ok_toList rfl
example : assertSetFile2.roundtrip = .ok "{\n  a = assert x;\n  y;\n}\n".toList := eq_ok_toList rfl

/-- The second pass is always defined and keeps tokens and (when no comment overtakes another)
    comments of the tree it reads — the instance of `C01.frag_parse_total` /
    `C01.frag_tokens_preserved` for `f2`. What is NOT proved is the equality of the whitespace. -/
theorem frag_second_pass_tokens (f2 : File) (hwf : f2.wf = true) :
    ∃ s2, f2.parse = .ok s2 ∧ toks s2.rebuildP = f2.codeTokens := by
  obtain ⟨s2, hp, hok, hl⟩ := file_parse_spec false f2 hwf (fun h => by cases h)
  refine ⟨s2, hp, ?_⟩
  have h1 := (srcRebuildP_lex s2 hok).1
  show toksL (lexOf s2.rebuildP) = toksL f2.items.lex
  rw [h1, ← toksL_proj_false, hl, toksL_proj_false, items_toks_lexM]

/-- FIXED POINT FOR COMMENT-FREE FILES. For every well-formed file of the fragment without comments
    (nested sets / `rec` sets / lists / bindings / parenthesised expressions / function calls /
    `with e; body` / select `e.a.b` / `or default` / lambda `x: body` / unary and binary operators /
    `if c then a else b` / has-attr `e ? a.b` / leaves
    with arbitrary whitespace, any depth; not `assert`, and no `-` in front of an expression whose first
    token is a path literal, which the output fuses into one token — `Cst.fusesMinus`,
    `C01.cex_unary_minus_path_fused`: `Cst.cf`), the
    text the round trip writes is the flattening of the well-formed comment-free tree `File.norm f`
    — the round trip IS that tree normaliser (`file_rt`: one line break per item of a container
    that spans lines, blank lines kept as one, two-space indentation, values on their own line
    keep the indentation read from their gap, one-line containers joined by single spaces; a
    parenthesised value stays on the line of `(` or goes on its own line at the indentation read from
    the gap, `)` stays or goes on its own line at the current indentation; function and argument are
    separated by one space or a line break with the argument at the indentation read from the gap; the
    `.` of a select, the `or`, the `:` of a lambda and the operand of a unary operator stay on the line or
    go on their own line at the indentation read from the gap; the body of a lambda and the two sides of a
    binary operator keep the NUMBER of line breaks of the source — cf. `C18.cex_blank_lines_after_colon`
    / `cex_blank_lines_around_operator` — at the current indentation, the right operand at the
    indentation `_resolve_right_operand` gives it: `binRightIndentC`; the environment of a `with` follows
    after one space or on its own line at the indentation read from the gap, `;` attached, the body on its
    own line at the current indentation when the source has a line break around the `;`, else after one
    space when it is a set / list, else on its own line when it spans several lines, else after one space;
    the condition, `then`, the consequence, `else` and the alternative of an `if`, the `?` of a has-attr and its
    attrpath each follow after one space or on their own line — one blank line kept — at the indentation read
    from the gap: `sepGap` / `sepIndent`)
    — and
    the round trip of that tree writes the same text again (`File.norm` is idempotent). `File.norm f`
    is the tree tree-sitter returns for the output: compared with the real tree, node by node, on
    every comment-free sample of every run (`fragment_correspondence`), which is the parser-contract
    step. With comments the statement is false (`cex_comment_around_semicolon`) and its proof for
    line-level comments is open. -/
theorem frag_fixed_point_comment_free (f : File) (hwf : f.wf = true) (_hws : f.noLeadingWs = true)
    (hcf : f.cf = true) :
    f.norm.wf = true ∧ f.norm.noLeadingWs = true ∧ f.norm.cf = true ∧
    f.roundtrip = .ok f.norm.flatten ∧ f.norm.roundtrip = .ok f.norm.flatten := by
  have h := file_fixed_point f hwf hcf
  exact ⟨h.1, h.2.2.1, h.2.1, h.2.2.2.1, h.2.2.2.2⟩

/-- the normaliser is a projection -/
theorem frag_norm_idempotent (f : File) (hwf : f.wf = true) (hcf : f.cf = true) : f.norm.norm = f.norm :=
  file_norm_idem f hwf hcf

/-- `rec⏎ {⏎⏎⏎⇥a  =⏎⏎      [ 1⏎⏎[⏎⏎  ]⇥] ; b={c= x;};⏎⏎⏎}⏎⏎⏎` -/
def wsSample : File :=
  { items := .elem [] (.set true "\n ".toList
      (.bind "\n\n\n\t".toList "a".toList [] "  ".toList [] "\n\n      ".toList
          (.list (.elem " ".toList (.leaf .int "1".toList) (.elem "\n\n".toList (.list .nil "\n\n  ".toList) .nil)) "\t".toList) [] " ".toList
        (.bind " ".toList "b".toList [] [] [] [] (.set false [] (.bind [] "c".toList [] [] [] " ".toList (.leaf .ident "x".toList) [] [] .nil) [])
          [] [] .nil)) "\n\n\n".toList) .nil,
    endGap := "\n\n\n".toList }

example : wsSample.wf = true ∧ wsSample.cf = true ∧ wsSample.noLeadingWs = true := by decide +kernel
example : wsSample.norm.flatten =
    "rec {\n\n  a =\n\n      [\n        1\n\n        [\n\n        ]\n      ];\n  b = { c = x; };\n\n}\n\n".toList := eq_toList rfl

/-- `f  (⏎⏎     g x⏎  )⏎⏎   [ (1) ]` -/
def callSample : File :=
  { items := .elem [] (.app (.app (.leaf .ident "f".toList) [] "  ".toList
      (.paren (.elem "\n\n     ".toList (.app (.leaf .ident "g".toList) [] " ".toList (.leaf .ident "x".toList)) .nil) "\n  ".toList))
      [] "\n\n   ".toList (.list (.elem " ".toList (.paren (.elem [] (.leaf .int "1".toList) .nil) []) .nil) " ".toList)) .nil,
    endGap := [] }

example : callSample.flatten = "f  (\n\n     g x\n  )\n\n   [ (1) ]".toList := eq_toList rfl
example : callSample.wf = true ∧ callSample.cf = true ∧ callSample.noLeadingWs = true := by decide +kernel
example : callSample.norm.flatten = "f (\n\n     g x\n)\n\n   [ (1) ]".toList := eq_toList rfl

/-- `{⏎  a = x:⏎⏎⏎     ! x. b.c⏎        or  d⏎⏎      +⏎⇥-y .e;⏎}⏎` -/
def opsCfSample : File :=
  { items := .elem [] (.set false [] (.bind "\n  ".toList "a".toList [] " ".toList [] " ".toList
      (.lam "x".toList [] [] [] "\n\n\n     ".toList
        (.bin (.un "!".toList [] " ".toList (.selOr (.leaf .ident "x".toList) [] [] " ".toList ["b".toList, "c".toList] []
            "\n        ".toList "  ".toList (.leaf .ident "d".toList)))
          [] "\n\n      ".toList "+".toList [] "\n\t".toList
          (.un "-".toList [] [] (.sel (.leaf .ident "y".toList) [] " ".toList [] ["e".toList]))))
      [] [] .nil) "\n".toList) .nil,
    endGap := "\n".toList }

example : opsCfSample.flatten = "{\n  a = x:\n\n\n     ! x. b.c\n        or  d\n\n      +\n\t-y .e;\n}\n".toList := eq_toList rfl
example : opsCfSample.wf = true ∧ opsCfSample.cf = true ∧ opsCfSample.noLeadingWs = true := by decide +kernel
example : opsCfSample.norm.flatten = "{\n  a = x:\n\n\n  !x.b.c\n        or d\n\n  +\n    -y.e;\n}\n".toList := eq_toList rfl

/-- fixed points of the model (line-level comments, canonical layout): decidable per file -/
def isFixedPoint (f : File) : Bool := decide (f.roundtrip = .ok f.flatten)

/-- `# h⏎{⏎  a = 1; # e⏎  # o⏎⏎  b = [⏎    x⏎  ];⏎}⏎` -/
def canonicalSample : File :=
  { items := .cmt [] "# h".toList (.elem "\n".toList
      (.set false [] (.bind "\n  ".toList "a".toList [] " ".toList [] " ".toList (.leaf .int "1".toList) [] []
        (.cmt " ".toList "# e".toList (.cmt "\n  ".toList "# o".toList
        (.bind "\n\n  ".toList "b".toList [] " ".toList [] " ".toList
          (.list (.elem "\n    ".toList (.leaf .ident "x".toList) .nil) "\n  ".toList) [] [] .nil)))) "\n".toList) .nil),
    endGap := "\n".toList }

example : canonicalSample.flatten = "# h\n{\n  a = 1; # e\n  # o\n\n  b = [\n    x\n  ];\n}\n".toList := eq_toList rfl
example : canonicalSample.wf = true ∧ isFixedPoint canonicalSample = true := by decide +kernel

/-- `if a  ?⏎ b.c⏎⏎⏎then⏎  [ x ]⏎else { }`: the normaliser on `if` and has-attr -/
def ifCfSample : File :=
  { items := .elem []
      (.ite [] " ".toList (.has (.leaf .ident "a".toList) [] "  ".toList [] "\n ".toList ["b".toList, "c".toList])
        [] "\n\n\n".toList [] "\n  ".toList (.list (.elem " ".toList (.leaf .ident "x".toList) .nil) " ".toList)
        [] "\n".toList [] " ".toList (.set false [] .nil " ".toList)) .nil,
    endGap := [] }

example : ifCfSample.wf = true ∧ ifCfSample.cf = true ∧ ifCfSample.noLeadingWs = true := by decide +kernel
example : ifCfSample.norm.flatten = "if a ?\n b.c\n\nthen\n  [ x ]\nelse { }".toList := eq_toList rfl
example : ifCfSample.roundtrip = .ok ifCfSample.norm.flatten :=
  (frag_fixed_point_comment_free ifCfSample (by decide +kernel) (by decide +kernel) (by decide +kernel)).2.2.2.1

end Fragment

end Nima.C06
