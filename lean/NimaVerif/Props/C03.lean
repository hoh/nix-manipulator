import NimaVerif.Lemmas.Trivia
import NimaVerif.Lemmas.FragParse
import NimaVerif.Lemmas.Text
/-!
# C03 — comments survive exactly once, in order, in place (trivia algebra)

Theorems about `Model/Trivia.lean` (the transliteration of `expressions/trivia.py`, `comment.py`):
the trivia formatters emit every comment of their list exactly once and in order, and the text
normalisation `Comment.from_cst` / `rebuild` is a projection (normalising twice = once), for every
trivia list, every comment token text, every column and indentation. SPEC notions are in
`Model/TriviaSpec.lean`. The construct renderers are modelled for the
container fragment only (`section Fragment` at the end of this file); the others are observed by the harness.
-/
namespace Nima.C03

/-! ## `format_trivia`: each item rendered once, in order, independently of its siblings -/

/-- For comma-free lists `format_trivia` is a `flatMap`: a blank-line marker is a line break, a
    line-break marker is nothing, a comment is its rendering followed by a line break. -/
theorem formatTrivia_flatMap (ts : List Trivia) (i : Nat) (h : CommaFree ts) :
    formatTrivia ts i = ts.flatMap (itemText i) :=
  formatTrivia_eq_flatMap ts i h

/-- congruence: rendering distributes over concatenation of lists -/
theorem formatTrivia_append (a b : List Trivia) (i : Nat) (h : CommaFree (a ++ b)) :
    formatTrivia (a ++ b) i = formatTrivia a i ++ formatTrivia b i :=
  Nima.formatTrivia_append a b i h

/-- The output is the concatenation of white-space pieces and comment tokens in which the comment
    tokens are exactly the comments of the list — each once, in order. -/
theorem formatTrivia_comments_once_in_order (ts : List Trivia) (i : Nat) (h : CommaFree ts) :
    formatTrivia ts i = piecesText (triviaPieces i ts) ∧
    (triviaPieces i ts).filterMap Piece.cmt? = commentTokens i ts := by
  refine ⟨?_, filterMap_cmt_triviaPieces i ts h⟩
  rw [formatTrivia_eq_flatMap ts i h, piecesText_triviaPieces]

/-- A comment's rendering is an indentation run followed by its token; inline-flagged comments
    ignore the requested indentation. -/
theorem rebuild_is_indent_token (c : Comment) (i : Nat) :
    c.rebuild i = spaces (c.effIndent i) ++ c.token (c.effIndent i) :=
  rebuild_eq_token c i

/-! ## `format_interstitial_trivia`: not a flatMap, but the same comments once and in order -/

/-- `format_interstitial_trivia` looks at what it has rendered so far (only: is it empty, what is
    its last character). Its output is the concatenation of the pieces `interPieces`, whose comment
    tokens are exactly the comments of the list, each once, in order; the white space before an
    item is `interGlue`. -/
theorem interstitial_comments_once_in_order (items : List Trivia) (i : Nat) (inlineNL : Bool) :
    formatInterstitialTrivia items i inlineNL = piecesText (interPieces i inlineNL items []) ∧
    (interPieces i inlineNL items []).filterMap Piece.cmt? = commentTokens i items := by
  refine ⟨?_, interPieces_comments i inlineNL items []⟩
  rw [formatInterstitialTrivia, interGo_pieces]; rfl

/-- One step of the loop, exactly. -/
theorem interstitial_step (i : Nat) (nl : Bool) (t : Trivia) (rest : List Trivia) (acc : Text) :
    formatInterstitialGo i nl (t :: rest) acc =
      formatInterstitialGo i nl rest (acc ++ piecesText (interItemPieces i nl acc t)) :=
  interGo_step i nl t rest acc

/-- The dependence on the already rendered text is only through its last character: a non-empty
    rendered prefix can be split off at any point. -/
theorem interstitial_prefix_congr (i : Nat) (nl : Bool) (ts : List Trivia) (a b : Text) (hb : b ≠ []) :
    formatInterstitialGo i nl ts (a ++ b) = a ++ formatInterstitialGo i nl ts b :=
  interGo_append i nl ts a b hb

/-- At a line start and without inline-flagged comments the interstitial renderer coincides with the
    flatMap form of `format_trivia`. -/
theorem interstitial_at_line_start (i : Nat) (nl : Bool) (ts : List Trivia) (acc : Text)
    (h : CommaFree ts) (hin : ∀ t ∈ ts, t.isInlineComment = false) (hacc : endsWithNL acc = true) :
    formatInterstitialGo i nl ts acc = acc ++ formatTrivia ts i := by
  rw [formatTrivia_eq_flatMap ts i h]; exact interGo_at_line_start i nl ts acc h hin hacc

/-! ## Comment text round trip: line comments -/

/-- A line-comment token `#r` (no line break in `r`) is reproduced character for character, with
    one exception: `# ` (hash, one space, nothing else) loses its trailing space. -/
theorem line_comment_roundtrip (col : Nat) (r : Text) (hnl : containsNL r = false) :
    (Comment.fromText col ('#' :: r)).str = if r = [' '] then ['#'] else '#' :: r :=
  line_comment_str col r hnl

/-- the exact exception set of the round trip -/
theorem line_comment_roundtrip_iff (col : Nat) (r : Text) (hnl : containsNL r = false) :
    (Comment.fromText col ('#' :: r)).str = '#' :: r ↔ r ≠ [' '] := by
  rw [line_comment_str col r hnl]
  by_cases h : r = [' ']
  · subst h; simp
  · simp [h]

/-- full statement (false): every line comment token is reproduced -/
def line_comment_roundtrip_full : Prop :=
  ∀ (col : Nat) (r : Text), containsNL r = false → (Comment.fromText col ('#' :: r)).str = '#' :: r

/-- `# ` is rewritten to `#`: the only line comment whose text changes (trailing white space). -/
theorem cex_hash_space : ¬ line_comment_roundtrip_full := by
  intro h
  have := h 0 [' '] rfl
  revert this; decide +kernel

theorem shebang_roundtrip (col : Nat) (r : Text) :
    (Comment.fromText col ('#' :: '!' :: r)).str = '#' :: '!' :: r := by
  rw [fromText_shebang]; simp [Comment.str]

/-- The rendering of a line comment at indentation `i` is `i` spaces and the (normalised) token. -/
theorem line_comment_rebuild (col i : Nat) (r : Text) (hnl : containsNL r = false) :
    (Comment.fromText col ('#' :: r)).rebuild i = spaces i ++ (if r = [' '] then ['#'] else '#' :: r) :=
  Nima.line_comment_rebuild col i r hnl

/-! ## Normalisation is idempotent -/

/-- Line comments: reading back the rendered token gives the same `Comment` (structurally), at any
    columns, except for `# ` whose `space_after_hash` flag flips once (see `cex_hash_space_flag`);
    the rendered text is stable in every case (`line_comment_text_idem`). -/
theorem line_comment_idem (c1 c2 : Nat) (r : Text) (hnl : containsNL r = false) (h : r ≠ [' ']) :
    Comment.fromText c2 ((Comment.fromText c1 ('#' :: r)).rebuild 0) = Comment.fromText c1 ('#' :: r) := by
  rw [Nima.line_comment_rebuild c1 0 r hnl, if_neg h]
  exact fromText_hash_col c2 c1 r

def line_comment_idem_full : Prop :=
  ∀ (c1 c2 : Nat) (r : Text), containsNL r = false →
    Comment.fromText c2 ((Comment.fromText c1 ('#' :: r)).rebuild 0) = Comment.fromText c1 ('#' :: r)

theorem cex_hash_space_flag : ¬ line_comment_idem_full := by
  intro h
  have := h 0 0 [' '] rfl
  revert this; decide +kernel

/-- text-level idempotence for every line comment, `# ` included -/
theorem line_comment_text_idem (c1 c2 i j : Nat) (r : Text) (hnl : containsNL r = false) :
    (Comment.fromText c2 (((Comment.fromText c1 ('#' :: r)).rebuild i).drop i)).rebuild j
      = (Comment.fromText c1 ('#' :: r)).rebuild j := by
  rw [Nima.line_comment_rebuild c1 i r hnl]
  have hd : (spaces i ++ (if r = [' '] then ['#'] else '#' :: r)).drop i = (if r = [' '] then ['#'] else '#' :: r) := by
    rw [List.drop_left' (by simp)]
  rw [hd]
  by_cases h : r = [' ']
  · subst h
    simp only [if_true]
    rw [Nima.line_comment_rebuild c2 j [] rfl, Nima.line_comment_rebuild c1 j [' '] rfl]; simp
  · simp only [h, if_false]
    rw [fromText_hash_col c2 c1 r]

/-- `str.strip()` is idempotent (for Python's `isspace` class). -/
theorem strip_idempotent (s : Text) : strip (strip s) = strip s := strip_idem s

/-- Block comments (`/* … */`, `/** … */`, single-line and multi-line, any inner indentation, any
    text whatsoever after `/*`): the token the renderer writes at column `i` is read back at column
    `i` as the same `Comment`. So normalisation is a projection on block comments. -/
theorem block_comment_idem (c1 i : Nat) (t : Text) (h : startsWith ['/', '*'] t = true) :
    Comment.fromText i ((Comment.fromText c1 t).token i) = Comment.fromText c1 t :=
  block_token_fixed c1 i t h

/-- the same in terms of `rebuild`: the rendering is `i` spaces followed by that token -/
theorem block_comment_rebuild_idem (c1 i : Nat) (t : Text) (h : startsWith ['/', '*'] t = true) :
    (Comment.fromText c1 t).rebuild i = spaces i ++ (Comment.fromText c1 t).token i ∧
    Comment.fromText i (((Comment.fromText c1 t).rebuild i).drop i) = Comment.fromText c1 t := by
  have hin : (Comment.fromText c1 t).inline = false := by
    rw [fromText_block c1 t h]; split <;> rfl
  have hr : (Comment.fromText c1 t).rebuild i = spaces i ++ (Comment.fromText c1 t).token i := by
    rw [rebuild_eq_token]; simp [Comment.effIndent, hin]
  refine ⟨hr, ?_⟩
  rw [hr, List.drop_left' (by simp)]
  exact block_token_fixed c1 i t h

/-- For single-line block comments the column does not matter at all. -/
theorem single_line_block_idem (c1 c2 i : Nat) (t : Text) (h : startsWith ['/', '*'] t = true)
    (hs : containsNL (blockInner t) = false) :
    Comment.fromText c2 ((Comment.fromText c1 t).token i) = Comment.fromText c1 t := by
  rw [fromText_block c1 t h]
  simp only [hs, Bool.false_eq_true, if_false]
  have hx : containsNL (strip (blockInner t)) = false := containsNL_of_sublist (stripBy_sublist _ _) hs
  have htok : ({ text := strip (blockInner t), kind := .block (blockDoc t) none } : Comment).token i =
      blockOpening (blockDoc t) ++ [' '] ++ strip (blockInner t) ++ [' ', '*', '/'] := by
    simp [Comment.token, hx, blockOpening]
  rw [htok]
  exact fromText_single_block c2 (blockDoc t) _ (stripBy_stripped _ _) hx

/-- Full statement with unrelated columns (false): a multi-line block comment rendered at
    indentation 0 but read at another column. This is the situation of an *inline* multi-line block
    comment (`rebuild` forces indentation 0 for inline comments, the token sits after code). -/
def block_idem_any_column_full : Prop :=
  ∀ (c1 c2 : Nat) (t : Text), startsWith ['/', '*'] t = true →
    Comment.fromText c2 ((Comment.fromText c1 t).rebuild 0) = Comment.fromText c1 t

theorem cex_block_idem_column_mismatch : ¬ block_idem_any_column_full := by
  intro h
  have := h 0 1 "/*\n a*/".toList rfl
  revert this; decide +kernel

/-- The empty block comment `/**/` is read as a doc comment whose text is `/` and comes back as
    `/** / */`: its text changes (the `/**` test precedes the `*/` test in `from_cst`). -/
theorem cex_empty_block_comment :
    (Comment.fromText 0 "/**/".toList).rebuild 0 = "/** / */".toList := Nima.eq_toList rfl

/-! ## Examples -/

example : (Comment.fromText 4 "/* a\n       b\n     */".toList) =
    { text := "a\nb\n".toList, kind := .block false (some 3) } := by decide +kernel
example : (Comment.fromText 4 "/* a\n       b\n     */".toList).rebuild 2 = "  /* a\n     b\n  */".toList := Nima.eq_toList rfl
example : Comment.fromText 2 "/* a\n     b\n  */".toList = Comment.fromText 4 "/* a\n       b\n     */".toList := by decide +kernel
example : (Comment.fromText 0 "#  two".toList).rebuild 2 = "  #  two".toList := Nima.eq_toList rfl
example : (Comment.fromText 0 "/*  pad  */".toList).rebuild 0 = "/* pad */".toList := Nima.eq_toList rfl

/-- a trivia list with a blank line, an inline comment and a block comment -/
def sampleTrivia : List Trivia :=
  [.emptyLine, .comment { text := "c".toList, inline := true }, .linebreak,
   .comment { text := "a\nb".toList, kind := .block false (some 3) }]

example : commentTokens 2 sampleTrivia = ["# c".toList, "/* a\n     b */".toList] := by decide +kernel
example : formatInterstitialTrivia sampleTrivia 2 = "\n\n# c\n  /* a\n     b */\n".toList := Nima.eq_toList rfl

section Fragment
open Nima.Frag

/-! ## Container fragment (L3–L5): comments through the whole round trip

Same models as `Props/C01.lean` (section Fragment). `lexOf` reads the code tokens AND the comment
tokens off the output pieces, in order; `Items.lex` reads them off the input tree. -/

/-- the delimiters of a binding, which the property lets a comment cross -/
def isBindDelim : Lex → Bool
  | .tok s => s == ['='] || s == [';']
  | .cmt _ => false

/-- comment normalisation: a comment token is compared as `Comment.from_cst` / `rebuild` rewrite it
    (`line_comment_roundtrip`, `block_comment_idem` above say what that changes: `# ` → `#`,
    delimiter padding of block comments) -/
def normLex : Lex → Lex
  | .tok s => .tok s
  | .cmt t => normCmt t

def keep (l : Lex) : Bool := !isBindDelim l

theorem filter_keep_ncm (cs : GC) : (ncm cs).filter keep = ncm cs := by
  induction cs with
  | nil => rfl
  | cons p cs ih =>
    show List.filter keep (normCmt p.2 :: ncm cs) = normCmt p.2 :: ncm cs
    rw [List.filter_cons_of_pos (by simp [keep, normCmt, isBindDelim]), ih]

theorem map_normLex_lexGC (cs : GC) : (lexGC cs).map normLex = ncm cs := map_lexGC_of (fun _ => rfl) cs

/-- `keep` drops `=` and `;`, the two tokens a binding's comments are moved across -/
theorem cst_lexM_modulo : (c : Cst) → c.lexM.filter keep = (c.lex.map normLex).filter keep :=
  cst_lexM_filter keep normLex (fun _ => rfl) (fun _ => rfl) (Or.inr ⟨rfl, rfl⟩)

theorem items_lexM_modulo : (its : Items) → its.lexM.filter keep = (its.lex.map normLex).filter keep :=
  items_lexM_filter keep normLex (fun _ => rfl) (fun _ => rfl) (Or.inr ⟨rfl, rfl⟩)

/-- COMMENTS SURVIVE EXACTLY ONCE, IN ORDER, IN PLACE. For every well-formed file of the fragment
    (containers, parentheses, function calls, `with e; body`, `assert e; body`, selects, lambdas, unary and binary
    operators, `if c then a else b`, has-attr `e ? a.b`, with comments anywhere but in the inner gaps of these
    keyword / operator constructs themselves: `Cst.wf`) in which no comment overtakes
    another (`File.orderOk`: in item sequences, see `cex_comment_overtakes`; between function and
    argument of a call, `appOrderOk`, see `cex_call_comment_reordered`) and no comment follows an
    `assert` item (`!c.isAsrt || rest.noCmt`, see `cex_comment_after_assert`), the
    sequence of code tokens and comment tokens of the output — `lexOf` of the pieces — is the
    sequence of the input with every comment normalised, except that the comments of a binding
    written in front of `=` come out after it and those in front of `;` after it (`Items.lexM`). -/
theorem frag_comments_preserved (f : File) (s : Src) (hwf : f.wf = true) (_hws : f.noLeadingWs = true)
    (hord : f.orderOk = true) (hp : f.parse = .ok s) : lexOf s.rebuildP = f.items.lexM := by
  obtain ⟨hok, hl⟩ := file_parse_ok true hwf (fun _ => hord) hp
  rw [(srcRebuildP_lex s hok).1]; exact hl

/-- The same in the property's own terms: with `=` and `;` left out (the property allows a
    comment to cross them) the interleaved sequence of tokens and comments is preserved, up to
    comment normalisation. No comment crosses any other token, none is lost or duplicated. -/
theorem frag_comments_in_place (f : File) (s : Src) (hwf : f.wf = true) (hws : f.noLeadingWs = true)
    (hord : f.orderOk = true) (hp : f.parse = .ok s) :
    (lexOf s.rebuildP).filter keep = (f.items.lex.map normLex).filter keep := by
  rw [frag_comments_preserved f s hwf hws hord hp]; exact items_lexM_modulo f.items

/-- what normalisation does to a line comment: nothing, except that `# ` loses its trailing space -/
theorem frag_line_comment_norm (r : Text) (hnl : containsNL r = false) :
    normLex (.cmt ('#' :: r)) = .cmt (if r = [' '] then ['#'] else '#' :: r) := by
  show Lex.cmt ((mkComment ('#' :: r) false).token 0) = _
  have hk := (line_comment_kind 0 r).1
  have : (mkComment ('#' :: r) false).token 0 = (Comment.fromText 0 ('#' :: r)).str := by
    unfold mkComment Comment.token
    simp only [hk]
    rfl
  rw [this, line_comment_str 0 r hnl]

/-- full statement (false): without the side condition on comment order -/
def frag_comments_preserved_full : Prop :=
  ∀ (f : File) (s : Src), f.wf = true → f.noLeadingWs = true → f.parse = .ok s →
    (lexOf s.rebuildP).filter keep = (f.items.lex.map normLex).filter keep

/-- `[ x⏎ /* b */ /* c */ y ]`: in a list (and at top level) a comment that starts on the row on
    which the previous comment ends is attached to the previous ELEMENT as an end-of-line comment,
    although own-line comments are still pending: it overtakes them (`parse_delimited_sequence`:
    `can_inline_comment` of `process_list` / `NixSourceCode.from_cst` does not look at what `prev`
    is). Output: `[⏎  x /* c */⏎  /* b */⏎  y⏎]`. -/
def overtakeFile : File :=
  { items := .elem [] (.list (.elem " ".toList (.leaf .ident "x".toList)
      (.cmt "\n ".toList "/* b */".toList (.cmt " ".toList "/* c */".toList
        (.elem " ".toList (.leaf .ident "y".toList) .nil)))) " ".toList) .nil,
    endGap := [] }

theorem cex_comment_overtakes : ¬ frag_comments_preserved_full := by
  intro h
  have := h overtakeFile _ (by decide +kernel) (by decide +kernel) rfl
  revert this; decide +kernel

example : overtakeFile.flatten = "[ x\n /* b */ /* c */ y ]".toList := Nima.eq_toList rfl
example : overtakeFile.roundtrip = .ok "[\n  x /* c */\n  /* b */\n  y\n]".toList := Nima.eq_ok_toList (by decide +kernel)
example : overtakeFile.orderOk = false := by decide +kernel

/-- statement with the exclusion of the container fragment only (`orderOkSeq`: `orderOk` without the
    condition on calls) — false -/
def frag_comments_preserved_seq_only : Prop :=
  ∀ (f : File) (s : Src), f.wf = true → f.noLeadingWs = true → f.orderOkSeq = true → f.parse = .ok s →
    (lexOf s.rebuildP).filter keep = (f.items.lex.map normLex).filter keep

/-- `f/* a */ /* b */ x`: between function and argument, `FunctionCall.from_cst` puts the comments
    that start on the row the function ends on AND after its last byte into `function_after`, the
    others into `argument.before`. The first comment touches the function (`start_byte >
    function_node.end_byte` fails), so it stays behind while the second one is moved in front of it:
    output `f /* b */ /* a */⏎x` — the two comments have changed places (NEW finding
    `C03-call-comment-reordered`; `expressions/function/call.py: from_cst`, `inline_comment_nodes`). -/
def callReorderFile : File :=
  { items := .elem [] (.app (.leaf .ident "f".toList) [([], "/* a */".toList), (" ".toList, "/* b */".toList)]
      " ".toList (.leaf .ident "x".toList)) .nil,
    endGap := [] }

theorem cex_call_comment_reordered : ¬ frag_comments_preserved_seq_only := by
  intro h
  have := h callReorderFile _ (by decide +kernel) (by decide +kernel) (by decide +kernel) rfl
  revert this; decide +kernel

example : callReorderFile.flatten = "f/* a */ /* b */ x".toList := Nima.eq_toList rfl
example : callReorderFile.roundtrip = .ok "f /* b */ /* a */\nx".toList := Nima.eq_ok_toList (by decide +kernel)
example : callReorderFile.orderOk = false ∧ callReorderFile.orderOkSeq = true := by decide +kernel

/-- statement with `orderOk` without its condition on `assert` items (`orderOkNA`) — false -/
def frag_comments_preserved_no_assert_clause : Prop :=
  ∀ (f : File) (s : Src), f.wf = true → f.noLeadingWs = true → f.orderOkNA = true → f.parse = .ok s →
    (lexOf s.rebuildP).filter keep = (f.items.lex.map normLex).filter keep

/-- `assert a; b # c⏎`: the comment after the body is attached to the top-level item — the
    `Assertion` — as trailing trivia (`parse_delimited_sequence`, `NixSourceCode.from_cst`), and
    `Assertion.rebuild` writes its trailing trivia with `add_trivia` on the `assert …;` line, in front
    of the body: output `assert a; # c⏎b⏎` — the comment has moved across the token `b` (open finding
    `C03-comments-comment-moved-source_code`; `expressions/assertion.py: rebuild`). The same inside
    parentheses: `(assert a; b /* c */)` → `(assert a; /* c */⏎b)`. -/
def assertCommentFile : File :=
  { items := .elem [] (.kw false [] " ".toList (.leaf .ident "a".toList) [] [] [] " ".toList (.leaf .ident "b".toList))
      (.cmt " ".toList "# c".toList .nil),
    endGap := "\n".toList }

theorem cex_comment_after_assert : ¬ frag_comments_preserved_no_assert_clause := by
  intro h
  have := h assertCommentFile _ (by decide +kernel) (by decide +kernel) (by decide +kernel) rfl
  revert this; decide +kernel

example : assertCommentFile.flatten = "assert a; b # c\n".toList := Nima.eq_toList rfl
example : assertCommentFile.roundtrip = .ok "assert a; # c\nb\n".toList := Nima.eq_ok_toList (by decide +kernel)
example : assertCommentFile.orderOk = false ∧ assertCommentFile.orderOkNA = true := by decide +kernel

/-- `assert` as a binding value with a comment in front of the binding's `;` (written after it, as for
    every value), in parentheses, as a body of `with`; no comment follows an `assert` ITEM -/
def assertSample : File :=
  { items := .elem [] (.set false [] (.bind " ".toList "x".toList [] " ".toList [] " ".toList
      (.kw false [] "\n   ".toList (.paren (.elem [] (.leaf .ident "a".toList) (.cmt " ".toList "/* p */".toList .nil)) [])
        [] " ".toList [] "\n\n".toList
        (.kw true [] " ".toList (.leaf .ident "e".toList) [] [] [] " ".toList
          (.kw false [] " ".toList (.leaf .ident "c".toList) [] [] [] " ".toList (.leaf .ident "d".toList))))
      [(" ".toList, "/* v */".toList)] [] .nil) " ".toList) .nil,
    endGap := [] }

example : assertSample.flatten = "{ x = assert\n   (a /* p */) ;\n\nwith e; assert c; d /* v */; }".toList := Nima.eq_toList rfl
example : assertSample.wf = true ∧ assertSample.noLeadingWs = true ∧ assertSample.orderOk = true := by decide +kernel
example : (match assertSample.parse with
    | .ok s => decide (lexOf s.rebuildP = assertSample.items.lexM)
    | _ => false) = true := by decide +kernel

/-- comments inside parentheses and between function and argument; no comment overtakes another -/
def callSample : File :=
  { items := .elem []
      (.app (.leaf .ident "f".toList) [(" ".toList, "/* a */".toList), ("\n  ".toList, "# b".toList)] "\n  ".toList
        (.paren (.cmt " ".toList "/* p */".toList (.elem " ".toList (.leaf .ident "x".toList)
          (.cmt " ".toList "# q".toList .nil))) "\n".toList)) .nil,
    endGap := [] }

example : callSample.flatten = "f /* a */\n  # b\n  ( /* p */ x # q\n)".toList := Nima.eq_toList rfl
example : callSample.wf = true ∧ callSample.noLeadingWs = true ∧ callSample.orderOk = true := by decide +kernel
example : (match callSample.parse with
    | .ok s => decide (lexOf s.rebuildP = callSample.items.lexM)
    | _ => false) = true := by decide +kernel

/-- `with` as a binding value, in parentheses and as a body, comments around and inside the parts -/
def withSample : File :=
  { items := .cmt [] "# h".toList (.elem "\n".toList
      (.kw true [] " ".toList (.paren (.cmt [] "/* p */".toList (.elem " ".toList (.leaf .ident "a".toList) .nil)) [])
        [] [] [] "\n\n  ".toList
        (.set false [] (.bind " ".toList "x".toList [] " ".toList [] " ".toList
          (.kw true [] " ".toList (.leaf .ident "b".toList) [] " ".toList [] " ".toList
            (.list (.elem " ".toList (.leaf .ident "c".toList) (.cmt " ".toList "# e".toList .nil)) "\n".toList))
          [(" ".toList, "/* v */".toList)] [] .nil) " ".toList))
      (.cmt " ".toList "# t".toList .nil)),
    endGap := "\n".toList }

example : withSample.flatten = "# h\nwith (/* p */ a);\n\n  { x = with b ; [ c # e\n] /* v */; } # t\n".toList := Nima.eq_toList rfl
example : withSample.wf = true ∧ withSample.noLeadingWs = true ∧ withSample.orderOk = true := by decide +kernel
example : (match withSample.parse with
    | .ok s => decide (lexOf s.rebuildP = withSample.items.lexM)
    | _ => false) = true := by decide +kernel

/-- a file with comments in every kind of gap of a binding; no comment overtakes another -/
def fragSample : File :=
  { items := .cmt [] "# h".toList (.elem "\n".toList
      (.set false [] (.bind " ".toList "a".toList [(" ".toList, "/* n */".toList)] " ".toList
          [(" ".toList, "/* e */".toList)] " ".toList (.leaf .int "1".toList) [(" ".toList, "/* v */".toList)] []
        (.cmt " ".toList "# e".toList .nil)) "\n".toList) .nil),
    endGap := "\n".toList }

example : fragSample.flatten = "# h\n{ a /* n */ = /* e */ 1 /* v */; # e\n}\n".toList := Nima.eq_toList rfl
example : fragSample.wf = true ∧ fragSample.noLeadingWs = true ∧ fragSample.orderOk = true := by decide +kernel
example : fragSample.roundtrip = .ok "# h\n{\n  a =\n    /* n */\n    /* e */\n    1; /* v */\n# e\n}\n".toList := Nima.eq_ok_toList (by decide +kernel)

end Fragment

end Nima.C03
