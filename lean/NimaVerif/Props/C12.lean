import NimaVerif.Lemmas.NPath
import NimaVerif.Lemmas.SameName
import NimaVerif.Model.Edit
import NimaVerif.Gen.Tables
import NimaVerif.Lemmas.Text
/-!
# C12 — attribute names in paths are written and matched faithfully

The property's theorems (helper lemmas live in `Lemmas/`). All statements quantify over every
`Text = List Char` (unbounded). `parseNPath`, `formatAttrName`, `escapeNix` are the model of
`_parse_npath`, `_format_attr_name`, `_escape_nix_string`; `nixDecodeName` and `renderSeg` are
SPEC definitions (how Nix reads a name token; how the property says a name is written in a path).
-/
namespace Nima.C12

/-! ## Translator tie: the tables the model uses are the tables the Python source has now. -/

theorem tie_escape_table : Gen.escapeTable = some escapeTable := rfl
theorem tie_interp_escape : Gen.interpEscape = some interpEscape := rfl
theorem tie_ident_start : Gen.identStartRanges = some identStartRanges := rfl
theorem tie_ident_rest : Gen.identRestRanges = some identRestRanges := rfl
theorem tie_anchor : Gen.identDollarAnchor = some currentAnchor := rfl
theorem tie_keywords : Gen.npKeywords = some npKeywords :=
  congrArg some (eq_map_toList (by decide +kernel))
theorem tie_name_start : Gen.nameStartRanges = some nameStartRanges := rfl
theorem tie_name_rest : Gen.nameRestRanges = some nameRestRanges := rfl
theorem tie_name_escapes : Gen.nameEscapes = some nameEscapes := rfl

/-- The model's `escapeNix` is the interpreter of `escapeTable` (so the tie above is about the
    function the theorems speak of). -/
theorem escapeNix_table (interp : Bool) (c : Char) (cs : Text) (r : Text)
    (h : (c, r) ∈ escapeTable) : escapeNix interp (c :: cs) = r ++ escapeNix interp cs :=
  _root_.Nima.escapeNix_table interp c cs r h

/-! ## 1. Addressability: every list of names, whatever characters they contain, is addressed by
the path that joins their canonical segment spellings with dots. -/

theorem addressable (a : Bool) (n : Text) (ns : List Text) :
    parseNPath a (joinWith ['.'] ((n :: ns).map renderSeg)) = .ok ((n :: ns).map segOf) := by
  unfold parseNPath
  rw [joinWith_renderSeg_ne_nil]
  simp only [Bool.false_eq_true, if_false]
  have h := npRun_path a [] n ns
  have hd : ({} : NPState) = { segs := [], buf := [], inQuotes := false, quotedSeg := false, escape := false } := rfl
  rw [hd, h]
  obtain ⟨h1, h2, st', h3, h4⟩ := endState_finalize a [] n ns
  simp only [h1, h2, h3, Bool.false_eq_true, if_false]
  simpa using h4

/-! ## 2. Faithful writing: the token `set` writes for a segment is read back by Nix as exactly
the segment's name (in particular it contains no live `${`), for every name and both spellings. -/

theorem string_escape_faithful (s : Text) : decodeBody (escapeNix true s) = some s :=
  escape_decode s

theorem faithful_writing (s : Seg) :
    nixDecodeName (formatAttrName false s) = some s.name := by
  unfold formatAttrName formatAttrNameWith
  split
  · -- quoted spelling
    simp only [nixDecodeName]
    simp [escape_decode]
  · rename_i h
    simp only [Bool.or_eq_true, Bool.not_eq_eq_eq_not, Bool.not_true, not_or, Bool.not_eq_true,
      Bool.not_eq_false, reMatchIdent_false] at h
    obtain ⟨⟨_, hid⟩, hkw⟩ := h
    match hn : s.name with
    | [] => simp [hn, isIdent] at hid
    | c :: cs =>
      rw [hn] at hid hkw
      have hc : c ≠ '"' := by
        simp only [isIdent, Bool.and_eq_true] at hid
        exact (identStart_ne c hid.1).2
      have hnix : isNixIdent (c :: cs) = true := by
        simp only [isIdent, Bool.and_eq_true, List.all_eq_true] at hid
        simp only [isNixIdent, Bool.and_eq_true, List.all_eq_true, hid.1, true_and]
        intro d hd
        simp [nixIdentRest, hid.2 d hd]
      have hkw' : nixKeywords.contains (c :: cs) = false := hkw
      unfold nixDecodeName
      split
      · rename_i rest heq
        injection heq with h1 _
        exact absurd h1 hc
      · have : ¬ (c :: cs) ∈ nixKeywords := by simpa using hkw'
        simp [hnix, this]

/-- Both halves together: parse the canonical path of some names, format each segment the way
    `set` writes it, and Nix reads back exactly those names. -/
theorem roundtrip (n : Text) (ns : List Text) :
    ∃ toks, formatNPath false (joinWith ['.'] ((n :: ns).map renderSeg)) = .ok toks ∧
      toks.map nixDecodeName = (n :: ns).map some := by
  refine ⟨((n :: ns).map segOf).map (formatAttrName false), ?_, ?_⟩
  · unfold formatNPath
    rw [addressable]
    simp [Except.map]
  · simp only [List.map_map]
    apply List.map_congr_left
    intro x _
    simp [Function.comp, faithful_writing, segOf]

/-! ## 3. Malformed paths are rejected; nothing that is not an identifier is accepted bare. -/

theorem rejects_empty (a : Bool) : parseNPath a [] = .error .value := rfl

theorem bare_segments_are_identifiers (p : Text) (segs : List Seg)
    (h : parseNPath false p = .ok segs) :
    ∀ s ∈ segs, s.quoted = false → isIdent s.name = true := by
  unfold parseNPath at h
  split at h
  · cases h
  · split at h
    · cases h
    · rename_i st hrun
      split at h
      · cases h
      · split at h
        · cases h
        · split at h
          · rename_i st' hfin
            injection h with h
            subst h
            have h0 : SegsOK ({} : NPState).segs := by intro s hs; cases hs
            exact npFinalize_ok st st' hfin (npRun_ok {} st p hrun h0)
          · cases h

theorem rejects_examples :
    parseNPath false "a..b".toList = .error .value ∧          -- empty segment
    parseNPath false "a.".toList = .error .value ∧            -- trailing dot
    parseNPath false "foo\"bar\"".toList = .error .value ∧     -- quote not at a boundary
    parseNPath false "a.\"b".toList = .error .value ∧          -- unterminated quote
    parseNPath false "a.\"b\\".toList = .error .value ∧        -- dangling escape
    parseNPath false "foo-bar".toList = .error .value ∧        -- not an identifier, unquoted
    parseNPath false "foo\n".toList = .error .value ∧           -- trailing newline (fixed defect)
    parseNPath false "\"a\"b".toList = .error .value ∧          -- text after a closing quote (fixed defect)
    parseNPath false "\"\"b".toList = .error .value := by
  decide +kernel

/-- A quoted segment ends at a segment boundary: once the closing quote has been read, every
    character but `.` makes the path malformed (repaired: `"a"b` used to be read as the name `ab`). -/
theorem quoted_segment_ends_at_boundary (a : Bool) (st : NPState) (ch : Char)
    (hq : st.inQuotes = false) (hs : st.quotedSeg = true) (hc : ch ≠ '.') :
    npStep a st ch = .error .value := by
  simp [npStep, hq, hs, hc]

/-! ## 4. The defect that was repaired (`fix:` commit): with Python's `$` anchor the bare
segment `foo\n` was accepted and written verbatim. Kept as a theorem about the model with the
old anchor so that a regression is recognised for what it is. -/

theorem cex_dollar_anchor :
    parseNPath true "foo\n".toList = .ok [⟨"foo\n".toList, false⟩] ∧
    nixDecodeName (formatAttrName true ⟨"foo\n".toList, false⟩) ≠ some "foo\n".toList := by
  decide +kernel

theorem cex_keyword_unquoted :
    nixDecodeName (formatAttrNameWith false [] ⟨"if".toList, false⟩) ≠ some "if".toList := by
  decide +kernel

/-! ## 5. One attribute per Nix name (repaired: `fix:` C12-spelling)

`sameName` is the model of `_same_attr_name`, the comparison `_find_binding`, `_find_named_binding`,
`_find_attrpath_root` and `AttributeSet.__getitem__/__setitem__/__delitem__` apply to the name token
of a binding and the key they look for (`NameCmp.model` in Model/Edit.lean); `decodeAttrName` is the
model of `_decode_attr_name`. `nixDecodeName` is the SPEC of how Nix reads a name token. -/

/-- The code's reading of a name token is Nix's, wherever Nix reads a name … -/
theorem reads_like_nix (tok n : Text) (h : nixDecodeName tok = some n) : decodeAttrName tok = some n :=
  decodeAttrName_of_spec tok n h

/-- … and it reads nothing else (a reserved word written bare is no name token for Nix). -/
theorem reads_nothing_else (tok n : Text) (h : decodeAttrName tok = some n)
    (hk : nixKeywords.contains tok = false) : nixDecodeName tok = some n :=
  decodeAttrName_sound tok n h hk

/-- The string body is decoded with exactly Nix's escapes (`\"`, `\\`, `\n`, `\r`, `\t`, `\${`, `$$`). -/
theorem body_decoded_like_nix (s : Text) : decodeNameBody s = decodeBody s := decodeNameBody_eq_spec s

/-- The comparison is an equivalence relation on tokens. -/
theorem same_name_equivalence :
    (∀ a, sameName a a = true) ∧ (∀ a b, sameName a b = sameName b a) ∧
    (∀ a b c, sameName a b = true → sameName b c = true → sameName a c = true) :=
  ⟨sameName_refl, sameName_symm, sameName_trans⟩

/-- FULL statement of clause 5: a token of the file that Nix reads as the name of the segment is
    matched by the token `set`/`rm` look for, whichever spelling the file and the path use. -/
def OneAttributePerName : Prop :=
  ∀ (fileTok : Text) (s : Seg), nixDecodeName fileTok = some s.name →
    sameName fileTok (formatAttrName false s) = true

/-- On tokens Nix can read, the comparison is equality of the names they denote: the same name is
    one attribute, different names are never confused. -/
theorem same_name_iff_same_nix_name (f g a b : Text)
    (hf : nixDecodeName f = some a) (hg : nixDecodeName g = some b) :
    sameName f g = true ↔ a = b := sameName_iff_spec f g a b hf hg

/-- Clause 5 holds (its negation held before the repair, when name tokens were compared by spelling:
    `cex_spelling_by_spelling` below). -/
theorem one_attribute_per_name : OneAttributePerName := by
  intro fileTok s h
  exact (sameName_iff_spec fileTok (formatAttrName false s) s.name s.name h (faithful_writing s)).mpr rfl

/-- The path may spell a segment bare or quoted: both address the same attribute. -/
theorem path_spelling_irrelevant (s s' : Seg) (h : s.name = s'.name) :
    sameName (formatAttrName false s) (formatAttrName false s') = true :=
  (sameName_iff_spec _ _ s.name s'.name (faithful_writing s) (faithful_writing s')).mpr h

/-- Different names stay different attributes (in particular `"a.b"` is not the nested path `a.b`,
    and no quoted spelling of `x` matches a binding `y`). -/
theorem distinct_names_stay_apart (f g a b : Text)
    (hf : nixDecodeName f = some a) (hg : nixDecodeName g = some b) (hne : a ≠ b) :
    sameName f g = false := by
  cases h : sameName f g with
  | false => rfl
  | true => exact absurd ((sameName_iff_spec f g a b hf hg).mp h) hne

/-- Names with an interpolation (no static name) keep being compared by spelling. -/
theorem dynamic_names_by_spelling (a b : Text) (h : decodeAttrName a = none) :
    sameName a b = true ↔ a = b := sameName_dynamic a b h

/-- The lookup of the edit code (`_find_binding` with the comparison of the source) never misses an
    existing attribute: if some binding of the set is spelled with a token Nix reads as the
    segment's name, the lookup finds a binding, and the one it finds denotes that name. -/
theorem lookup_finds_existing (vs : List Node) (s : Seg) (b : Node) (tok : Text)
    (hb : b ∈ vs) (hbind : b.isBind = true) (hn : b.bindName? = some tok)
    (htok : nixDecodeName tok = some s.name) :
    ∃ b' tok', @findBinding NameCmp.model vs (formatAttrName false s) = some b' ∧
      b'.bindName? = some tok' ∧ sameName tok' (formatAttrName false s) = true := by
  have hmatch : (b.isBind && @nameIs NameCmp.model b (formatAttrName false s)) = true := by
    simp only [nameIs, hn, hbind, Bool.true_and]
    exact one_attribute_per_name tok s htok
  cases hf : @findBinding NameCmp.model vs (formatAttrName false s) with
  | none =>
    unfold findBinding at hf
    have := List.find?_eq_none.mp hf b hb
    simp [hmatch] at this
  | some b' =>
    unfold findBinding at hf
    have hp := List.find?_some hf
    simp only [Bool.and_eq_true] at hp
    cases hn' : b'.bindName? with
    | none => simp [nameIs, hn'] at hp
    | some tok' =>
      refine ⟨b', tok', rfl, hn', ?_⟩
      simp only [nameIs, hn'] at hp
      exact hp.2

/-- … and never takes a binding of another name for it. -/
theorem lookup_finds_only_that_name (vs : List Node) (s : Seg) (b' : Node) (tok' n' : Text)
    (hf : @findBinding NameCmp.model vs (formatAttrName false s) = some b')
    (hn : b'.bindName? = some tok') (hd : nixDecodeName tok' = some n') : n' = s.name := by
  unfold findBinding at hf
  have hp := List.find?_some hf
  simp only [Bool.and_eq_true, nameIs, hn] at hp
  exact (sameName_iff_spec tok' _ n' s.name hd (faithful_writing s)).mp hp.2

/-- The defect as it was, kept as a theorem about the comparison by spelling (`NameCmp.spelled`,
    still used by `Scope.get_binding`) so that a regression is recognised for what it is: the file
    spells the name `a` bare, the path addresses it as `"a"`; both denote `a`, the spellings differ. -/
theorem cex_spelling_by_spelling :
    ¬ ∀ (fileTok : Text) (s : Seg), nixDecodeName fileTok = some s.name →
        NameCmp.spelled.same fileTok (formatAttrName false s) = true := by
  intro h
  have := h "a".toList ⟨"a".toList, true⟩ (by decide +kernel)
  revert this
  decide +kernel

/-! The finding's own input, evaluated in the model of the repaired code and, for contrast, with the
comparison by spelling. -/

/-- `{ a = 1; }` -/
def exBare : Doc :=
  { target := .set 0 [.bind 1 "a".toList false (.atom "1".toList) [] []] [] false false }

theorem repaired_set_updates_in_place :
    @setValue NameCmp.model "\"a\"".toList (.one (.atom "2".toList)) exBare =
      (.ok (), exBare.updBind 1 (.atom "2".toList)) := rfl

theorem by_spelling_wrote_a_second_definition :
    (@setValue NameCmp.spelled "\"a\"".toList (.one (.atom "2".toList)) exBare).2.target.setValues.length = 2 := rfl

theorem repaired_rm_finds_it :
    (@removeValue NameCmp.model "\"a\"".toList exBare).1 = .ok () ∧
    (@removeValue NameCmp.model "\"a\"".toList exBare).2.target.setValues = [] ∧
    (@removeValue NameCmp.spelled "\"a\"".toList exBare).1 = .error .key := ⟨rfl, rfl, rfl⟩
/-- Refinding: the spelling `set` writes is a function of the segment alone, so a second `set`/`rm`
    with the same path text looks for the very same token — and with `path_spelling_irrelevant`, a
    path that spells the segments differently finds the same bindings as well. -/
theorem refinding (p : Text) (t1 t2 : List Text)
    (h1 : formatNPath false p = .ok t1) (h2 : formatNPath false p = .ok t2) : t1 = t2 := by
  rw [h1] at h2; injection h2

/-! ## Non-vacuity: the hypotheses above are met by non-trivial inputs. -/

example : parseNPath false "services.\"foo.bar\".\"a\\\"b\"".toList =
    .ok [⟨"services".toList, false⟩, ⟨"foo.bar".toList, true⟩, ⟨"a\"b".toList, true⟩] := by decide +kernel
example : formatAttrName false ⟨"${x}\n".toList, true⟩ = "\"\\${x}\\n\"".toList :=
  eq_toList (by decide +kernel)
example : renderSeg "foo.bar".toList = "\"foo.bar\"".toList := eq_toList (by decide +kernel)
example : sameName "foo-bar".toList "\"foo-bar\"".toList = true := by decide +kernel
example : sameName "\"a\\nb\"".toList "\"a\nb\"".toList = true := by decide +kernel
example : sameName "\"a.b\"".toList "a.b".toList = false := by decide +kernel
example : sameName "\"${x}\"".toList "\"\\${x}\"".toList = false := by decide +kernel

end Nima.C12
