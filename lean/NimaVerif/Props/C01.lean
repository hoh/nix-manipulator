import NimaVerif.Lemmas.Trivia
import NimaVerif.Lemmas.FragParse
import NimaVerif.Lemmas.FragSafe
import NimaVerif.Lemmas.Text
/-!
# C01 — a comment never absorbs code (trivia algebra)

Theorems about `Model/Trivia.lean` (the transliteration of `expressions/trivia.py`, `comment.py`):
whatever `format_trivia` emits is empty or closed by a line break, every comment it emits is
directly followed by a line break, and `apply_trailing_trivia` leaves a comment open at the end of
its output in exactly one decidable situation — the obligation the construct renderers inherit.
All statements are over every trivia list, comment, text and indentation. SPEC notions are in
`Model/TriviaSpec.lean`. The construct renderers are modelled for the
container fragment only (`section Fragment` at the end of this file); the others are observed by the harness.
-/
namespace Nima.C01

/-! ## `format_trivia` closes every comment -/

/-- The output of `format_trivia` on a comma-free list is empty or ends with a line break: code
    written after it starts on a fresh line. -/
theorem formatTrivia_newline_terminated (ts : List Trivia) (i : Nat) (h : CommaFree ts) :
    formatTrivia ts i = [] ∨ endsWithNL (formatTrivia ts i) = true :=
  formatTrivia_nil_or_nl_all ts i

/-- The same for EVERY trivia list, `,` sentinels of formals included (there the output is not a
    flatMap: a sentinel looks at its successor and at what was written before). -/
theorem formatTrivia_newline_terminated_all (ts : List Trivia) (i : Nat) :
    formatTrivia ts i = [] ∨ endsWithNL (formatTrivia ts i) = true :=
  formatTrivia_nil_or_nl_all ts i

/-- It is empty exactly when the list consists of line-break markers only. -/
theorem formatTrivia_empty_iff (ts : List Trivia) (i : Nat) (h : CommaFree ts) :
    formatTrivia ts i = [] ↔ ts.all (· == .linebreak) = true :=
  formatTrivia_eq_nil_iff ts i h

/-- Every comment token `format_trivia` writes is immediately followed by a line break: in the piece
    decomposition of the output, whatever follows a comment piece starts with the piece `"\n"`. -/
theorem formatTrivia_comment_closed (ts : List Trivia) (i : Nat) (h : CommaFree ts) :
    formatTrivia ts i = piecesText (triviaPieces i ts) ∧
    ∀ (pre : List Piece) (tok : Text) (post : List Piece),
      triviaPieces i ts = pre ++ .cmt tok :: post → ∃ post', post = .ws ['\n'] :: post' := by
  refine ⟨?_, ?_⟩
  · rw [formatTrivia_eq_flatMap ts i h, piecesText_triviaPieces]
  · intro pre tok post he
    exact cmtClosed_after _ (cmtClosed_triviaPieces i ts) pre tok post he

/-- A comment never ends in a line break itself and is never empty, so the closing line break is
    the formatter's: line comments whose text has no line break (as tree-sitter delivers them) and
    all block comments. -/
theorem comment_rendering_open (c : Comment) (i : Nat) (h : c.tokenLike = true) :
    c.rebuild i ≠ [] ∧ endsWithNL (c.rebuild i) = false :=
  ⟨rebuild_ne_nil c i h, rebuild_not_endsWithNL c i h⟩

/-! ## `apply_trailing_trivia`: exact output and the obligation it leaves -/

/-- The already rendered text is only ever extended, never inspected or trimmed. -/
theorem trailing_extends (rebuilt : Text) (after : List Trivia) (i : Nat) :
    applyTrailingTrivia rebuilt after i = rebuilt ++ applyTrailingTrivia [] after i :=
  applyTrailingTrivia_prefix rebuilt after i

/-- Exact output when the last item is a comment `c`: the trailing block ends with the rendering of
    `c` and nothing after it (the line break `format_trivia` put there is trimmed). An inline head
    comment stays on the line after one space; everything else starts on a new line. -/
theorem trailing_last_is_comment (rebuilt : Text) (init : List Trivia) (c : Comment) (i : Nat)
    (h : CommaFree init) (hc : c.tokenLike = true) :
    applyTrailingTrivia rebuilt (init ++ [.comment c]) i =
      match headInline (init ++ [.comment c]) with
      | some (c0, _) =>
        if init.isEmpty then rebuilt ++ ' ' :: c.rebuild 0
        else rebuilt ++ ' ' :: c0.rebuild 0 ++ '\n' :: formatTrivia init.tail i ++ c.rebuild i
      | none => rebuilt ++ '\n' :: formatTrivia init i ++ c.rebuild i :=
  trailing_last_comment rebuilt init c i h hc

/-- Exact output when the last item is a layout marker: nothing is trimmed. -/
theorem trailing_last_is_layout (rebuilt : Text) (init : List Trivia) (t : Trivia)
    (ht : t.isLayout = true) (i : Nat) :
    applyTrailingTrivia rebuilt (init ++ [t]) i =
      match headInline (init ++ [t]) with
      | some (c0, rest) => rebuilt ++ ' ' :: c0.rebuild 0 ++ nlBlock (formatTrivia rest i)
      | none => rebuilt ++ nlBlock (formatTrivia (init ++ [t]) i) :=
  trailing_last_layout rebuilt init t ht i

/-- THE OBLIGATION. The text `apply_trailing_trivia` appends is non-empty and not closed by a line
    break — i.e. the output ends inside a comment line — exactly when `leavesOpenComment after`:
    the last item of `after` is a comment, or `after` is an inline comment followed by line-break
    markers only. This is the precise, decidable condition under which a construct renderer must
    emit a line break before writing more code. -/
theorem trailing_open_comment_iff (after : List Trivia) (i : Nat) (h : CommaFree after)
    (hc : TokenLikeTrivia after) :
    (applyTrailingTrivia [] after i ≠ [] ∧ endsWithNL (applyTrailingTrivia [] after i) = false) ↔
      leavesOpenComment after = true :=
  trailing_open_iff after i h (fun c hm => hc (.comment c) hm)

/-- In that situation the appended text ends with the rendering of a comment of `after`. -/
theorem trailing_open_ends_with_comment (after : List Trivia) (i : Nat) (h : CommaFree after)
    (hc : TokenLikeTrivia after) (ho : leavesOpenComment after = true) :
    ∃ c pre, Trivia.comment c ∈ after ∧ applyTrailingTrivia [] after i = pre ++ c.rebuild i :=
  trailing_open_suffix after i h (fun c hm => hc (.comment c) hm) ho

/-- Otherwise the appended text is empty or closed by a line break: code may follow directly. -/
theorem trailing_closed_otherwise (after : List Trivia) (i : Nat) (h : CommaFree after)
    (hc : TokenLikeTrivia after) (ho : leavesOpenComment after = false) :
    applyTrailingTrivia [] after i = [] ∨ endsWithNL (applyTrailingTrivia [] after i) = true := by
  have hiff := trailing_open_iff after i h (fun c hm => hc (.comment c) hm)
  by_cases h0 : applyTrailingTrivia [] after i = []
  · exact Or.inl h0
  · right
    cases he : endsWithNL (applyTrailingTrivia [] after i) with
    | true => rfl
    | false => rw [hiff.mp ⟨h0, he⟩] at ho; simp at ho

/-- "Appending code directly after the trailing trivia never puts it inside a line comment" is
    therefore false as a statement about `apply_trailing_trivia` alone: -/
def trailing_always_closed_full : Prop :=
  ∀ (after : List Trivia) (i : Nat), CommaFree after → TokenLikeTrivia after →
    applyTrailingTrivia [] after i = [] ∨ endsWithNL (applyTrailingTrivia [] after i) = true

/-- witness: one own-line comment after an item; the caller has to close it. (The defect
    `a\n++ b ++ # c\nc` → `… ++ # c c` of DESIGN §12 lives in a construct renderer that does not honour
    this obligation; the trivia algebra itself is not at fault.) -/
theorem cex_trailing_comment_left_open : ¬ trailing_always_closed_full := by
  intro h
  have := h [.comment { text := ['c'] }] 0 (by decide +kernel) (by decide +kernel)
  revert this; decide +kernel

/-! ## Examples (non-vacuity) -/

/-- a trivia list with a blank line, an inline comment and a block comment -/
def sampleTrivia : List Trivia :=
  [.emptyLine, .comment { text := "c".toList, inline := true }, .linebreak,
   .comment { text := "a\nb".toList, kind := .block false (some 3) }]

example : CommaFree sampleTrivia ∧ TokenLikeTrivia sampleTrivia := by decide +kernel
example : formatTrivia sampleTrivia 2 = "\n# c\n  /* a\n     b */\n".toList := Nima.eq_toList rfl
example : formatTrivia [.comma, .comment { text := "c".toList, inline := true }, .linebreak, .comma] 2
    = "  , # c\n  ,\n".toList := Nima.eq_toList rfl
example : leavesOpenComment sampleTrivia = true := by decide +kernel
example : applyTrailingTrivia "x = 1;".toList sampleTrivia 2 = "x = 1;\n\n# c\n  /* a\n     b */".toList := Nima.eq_toList rfl
example : applyTrailingTrivia "x = 1;".toList [.comment { text := "c".toList, inline := true }, .linebreak] 2
    = "x = 1; # c".toList := Nima.eq_toList rfl
example : leavesOpenComment [.comment { text := "c".toList, inline := true }, .linebreak] = true := by decide +kernel
example : leavesOpenComment [.comment { text := "c".toList }, .emptyLine] = false := by decide +kernel
example : applyTrailingTrivia "x".toList [.comment { text := "c".toList }, .emptyLine] 2 = "x\n  # c\n\n".toList := Nima.eq_toList rfl

section Fragment
open Nima.Frag

/-! ## Container fragment (L3–L5): the whole round trip

`Model/Cst.lean` (input: concrete-syntax trees with explicit gaps), `Model/FromCst.lean`
(`NixSourceCode.from_cst`, `AttributeSet.from_cst`, `Binding.from_cst`, `NixList.from_cst`,
`Parenthesis.from_cst`, `FunctionCall.from_cst`, `WithStatement.from_cst`, `Assertion.from_cst`,
`Select.from_cst`, `FunctionDefinition.from_cst`, `UnaryExpression.from_cst`, `BinaryExpression.from_cst`,
`IfExpression.from_cst`, `HasAttrExpression.from_cst`, `parse_delimited_sequence`)
and `Model/Rebuild.lean` (`rebuild` of the same classes, string level and piece level) model the parse
side and the render side for files made of attribute sets with plain single-segment names, lists,
parenthesised expressions `( e )`, function applications `f x` / `f x y`, `with e; body`,
`assert e; body`, selects `e.a.b` / `e.a or d`, lambdas `x: body`, unary `!e` / `-e`, binary operators `a + b` (not `//` / `++` with the operator on a line of its own),
`if c then a else b`, has-attr `e ? a.b` and leaf
values, nested to any depth, with
arbitrary whitespace and line / one-line block comments in every gap (inside parentheses and between
function and argument too; the three gaps of a `with` / `assert` itself — after the keyword and around
its `;` —, the gaps around the `.` / `or` of a select, around the `:` of a lambda, the five gaps of an `if` (around
its condition, `then`, `else`) and the two around the `?` of a has-attr hold whitespace only:
`Cst.wf`). The statements below are about EVERY such tree
(structural induction), tied to the implementation by `fragment_correspondence`. -/

/-- The piece list the theorems speak about is the output text, cut into pieces. -/
theorem frag_output_is_pieces (s : Src) : concat s.rebuildP = s.rebuild := concat_srcRebuildP s

/-- `File.parse` never raises on a well-formed file of the fragment. -/
theorem frag_parse_total (f : File) (hwf : f.wf = true) : ∃ s, f.parse = .ok s := by
  obtain ⟨s, hp, _, _⟩ := file_parse_spec false f hwf (fun h => by cases h)
  exact ⟨s, hp⟩

/-- ROUND TRIP PRESERVES THE CODE-TOKEN SEQUENCE: the token pieces of the rebuilt file are the code
    tokens of the input, in order — for every well-formed file of the fragment that does not start
    with whitespace (the inputs on which the model is the implementation, see `File.noLeadingWs`). -/
theorem frag_tokens_preserved (f : File) (s : Src) (hwf : f.wf = true) (_hws : f.noLeadingWs = true)
    (hp : f.parse = .ok s) : toks s.rebuildP = f.codeTokens := by
  obtain ⟨hok, hl⟩ := file_parse_ok false hwf (fun h => by cases h) hp
  have h1 := (srcRebuildP_lex s hok).1
  show toksL (lexOf s.rebuildP) = toksL f.items.lex
  rw [h1, ← toksL_proj_false, hl, toksL_proj_false, items_toks_lexM]

/-- Token and comment pieces of the output are never empty and never end in a line break: the
    whitespace cuts of the renderer (`rstrip("\n")`, `[:-1]`) only ever remove whitespace it wrote. -/
theorem frag_pieces_solid (f : File) (s : Src) (hwf : f.wf = true) (hp : f.parse = .ok s) :
    ∀ p ∈ s.rebuildP, p.solid := by
  exact (srcRebuildP_lex s (file_parse_ok false hwf (fun h => by cases h) hp).1).2


/-- A COMMENT NEVER ABSORBS CODE. In the rebuilt file, whatever is written after a line-comment
    piece (`# …`) is nothing at all or starts with a line break — so the comment token tree-sitter
    reads from the output text ends where the piece ends and no code token is inside it. For every
    well-formed file of the fragment. (`safeGo` is the scan that decides it; it also says that no
    token or comment follows an open line comment directly.) -/
theorem frag_safe (f : File) (s : Src) (hwf : f.wf = true) (_hws : f.noLeadingWs = true) (hp : f.parse = .ok s) :
    safeGo false s.rebuildP = true ∧
    ∀ (pre post : List FP) (c : Text), s.rebuildP = pre ++ .cmt c :: post → isLineTok c = true →
      concat post = [] ∨ startsWithNL (concat post) = true := by
  have h := file_safe f s hwf hp
  exact ⟨h, fun pre post c he hl => safeGo_spec false _ pre post c h he hl⟩

/-- In the model, a name is single-segment when the model's fuel version of the attrpath splitter
    says so; that version is `Model/AttrPath.lean: splitAttrpath` (the transliteration C12 is about). -/
theorem frag_name_check_is_splitter (t : Text) : splitAttrpathF t = splitAttrpath t := splitAttrpathF_eq t

/-! ### Examples (non-vacuity) -/

/-- `# h⏎{ a = 1; # e⏎}⏎` -/
def fragSample : File :=
  { items := .cmt [] "# h".toList (.elem "\n".toList
      (.set false [] (.bind " ".toList "a".toList [] " ".toList [] " ".toList (.leaf .int "1".toList) [] []
        (.cmt " ".toList "# e".toList .nil)) "\n".toList) .nil),
    endGap := "\n".toList }

example : fragSample.flatten = "# h\n{ a = 1; # e\n}\n".toList := Nima.eq_toList rfl
example : fragSample.wf = true ∧ fragSample.noLeadingWs = true := by decide +kernel
example : fragSample.roundtrip = .ok "# h\n{\n  a = 1; # e\n}\n".toList := Nima.eq_ok_toList (by decide +kernel)
example : fragSample.codeTokens = ["{", "a", "=", "1", ";", "}"].map String.toList := Nima.eq_map_toList rfl

/-- `f /* a */ (g # c⏎ x) [ 1 ]`: a curried call whose first argument is a parenthesised call with a
    line comment between function and argument -/
def callSample : File :=
  { items := .elem []
      (.app (.app (.leaf .ident "f".toList) [(" ".toList, "/* a */".toList)] " ".toList
          (.paren (.elem [] (.app (.leaf .ident "g".toList) [(" ".toList, "# c".toList)] "\n ".toList
            (.leaf .ident "x".toList)) .nil) []))
        [] " ".toList (.list (.elem " ".toList (.leaf .int "1".toList) .nil) " ".toList)) .nil,
    endGap := [] }

example : callSample.flatten = "f /* a */ (g # c\n x) [ 1 ]".toList := Nima.eq_toList rfl
example : callSample.wf = true ∧ callSample.noLeadingWs = true := by decide +kernel
example : callSample.roundtrip = .ok "f /* a */ (g # c\n x) [ 1 ]".toList := Nima.eq_ok_toList (by decide +kernel)
example : callSample.codeTokens = ["f", "(", "g", "x", ")", "[", "1", "]"].map String.toList := Nima.eq_map_toList rfl

/-- `{ a = f (⏎⏎    x⏎  ) y; }`: a multi-line parenthesis (blank line after `(`) as an argument -/
def parenSample : File :=
  { items := .elem [] (.set false [] (.bind " ".toList "a".toList [] " ".toList [] " ".toList
      (.app (.app (.leaf .ident "f".toList) [] " ".toList
          (.paren (.elem "\n\n    ".toList (.leaf .ident "x".toList) .nil) "\n  ".toList))
        [] " ".toList (.leaf .ident "y".toList)) [] [] .nil) " ".toList) .nil,
    endGap := [] }

example : parenSample.flatten = "{ a = f (\n\n    x\n  ) y; }".toList := Nima.eq_toList rfl
example : parenSample.wf = true ∧ parenSample.noLeadingWs = true := by decide +kernel
example : parenSample.roundtrip = .ok "{\n  a = f (\n\n    x\n  ) y;\n}".toList := Nima.eq_ok_toList (by decide +kernel)

/-- `with a;⏎⏎{ x = with (f b) ; [⏎ c ]; }`: an absorbable body on its own line after a blank line, a
    `with` as a binding value whose body is a multi-line list -/
def withSample : File :=
  { items := .elem []
      (.kw true [] " ".toList (.leaf .ident "a".toList) [] [] [] "\n\n".toList
        (.set false [] (.bind " ".toList "x".toList [] " ".toList [] " ".toList
          (.kw true [] " ".toList (.paren (.elem [] (.app (.leaf .ident "f".toList) [] " ".toList (.leaf .ident "b".toList)) .nil) [])
            [] " ".toList [] " ".toList
            (.list (.elem "\n ".toList (.leaf .ident "c".toList) .nil) " ".toList))
          [] [] .nil) " ".toList)) .nil,
    endGap := [] }

example : withSample.flatten = "with a;\n\n{ x = with (f b) ; [\n c ]; }".toList := Nima.eq_toList rfl
example : withSample.wf = true ∧ withSample.noLeadingWs = true := by decide +kernel
example : withSample.codeTokens =
    ["with", "a", ";", "{", "x", "=", "with", "(", "f", "b", ")", ";", "[", "c", "]", ";", "}"].map String.toList := Nima.eq_map_toList rfl

/-- `assert⏎  (f a);⏎⏎with e; [ b ]`: a condition on its own line, a blank line in front of the body -/
def assertSample : File :=
  { items := .elem []
      (.kw false [] "\n  ".toList
        (.paren (.elem [] (.app (.leaf .ident "f".toList) [] " ".toList (.leaf .ident "a".toList)) .nil) [])
        [] [] [] "\n\n".toList
        (.kw true [] " ".toList (.leaf .ident "e".toList) [] [] [] " ".toList
          (.list (.elem " ".toList (.leaf .ident "b".toList) .nil) " ".toList))) .nil,
    endGap := [] }

example : assertSample.flatten = "assert\n  (f a);\n\nwith e; [ b ]".toList := Nima.eq_toList rfl
example : assertSample.wf = true ∧ assertSample.noLeadingWs = true := by decide +kernel
example : assertSample.codeTokens =
    ["assert", "(", "f", "a", ")", ";", "with", "e", ";", "[", "b", "]"].map String.toList := Nima.eq_map_toList rfl

/-- `f (g x).a.b⏎  ."c d" {}.y`: selects on a parenthesised call and on a set, `.` on its own line -/
def selectSample : File :=
  { items := .elem []
      (.app (.app (.leaf .ident "f".toList) [] " ".toList
          (.sel (.sel (.paren (.elem [] (.app (.leaf .ident "g".toList) [] " ".toList (.leaf .ident "x".toList)) .nil) [])
              [] [] [] ["a".toList, "b".toList]) [] "\n  ".toList [] ["\"c d\"".toList]))
        [] " ".toList (.sel (.set false [] .nil []) [] [] [] ["y".toList])) .nil,
    endGap := [] }

example : selectSample.flatten = "f (g x).a.b\n  .\"c d\" {}.y".toList := Nima.eq_toList rfl
example : selectSample.wf = true ∧ selectSample.noLeadingWs = true := by decide +kernel
example : selectSample.codeTokens =
    ["f", "(", "g", "x", ")", ".", "a", ".", "b", ".", "\"c d\"", "{", "}", ".", "y"].map String.toList := Nima.eq_map_toList rfl
example : selectSample.roundtrip = .ok "f (g x).a.b\n  .\"c d\" { }.y".toList := Nima.eq_ok_toList (by decide +kernel)

/-- `[ a.b or c (f x).y⏎    or { } ]`: selects with defaults as list elements, `or` on its own line -/
def selectOrSample : File :=
  { items := .elem []
      (.list (.elem " ".toList (.selOr (.leaf .ident "a".toList) [] [] [] ["b".toList] [] " ".toList " ".toList
            (.leaf .ident "c".toList))
          (.elem " ".toList (.selOr (.paren (.elem [] (.app (.leaf .ident "f".toList) [] " ".toList (.leaf .ident "x".toList)) .nil) [])
            [] [] [] ["y".toList] [] "\n    ".toList " ".toList (.set false [] .nil " ".toList)) .nil)) " ".toList) .nil,
    endGap := [] }

example : selectOrSample.flatten = "[ a.b or c (f x).y\n    or { } ]".toList := Nima.eq_toList rfl
example : selectOrSample.wf = true ∧ selectOrSample.noLeadingWs = true := by decide +kernel
example : selectOrSample.codeTokens =
    ["[", "a", ".", "b", "or", "c", "(", "f", "x", ")", ".", "y", "or", "{", "}", "]"].map String.toList := Nima.eq_map_toList rfl

/-- `self : super:⏎⏎⏎  { a = x: x.b; }`: curried lambdas, two blank lines in front of the body, a lambda
    as a binding value -/
def lambdaSample : File :=
  { items := .elem []
      (.lam "self".toList [] " ".toList [] " ".toList
        (.lam "super".toList [] [] [] "\n\n\n  ".toList
          (.set false [] (.bind " ".toList "a".toList [] " ".toList [] " ".toList
            (.lam "x".toList [] [] [] " ".toList (.sel (.leaf .ident "x".toList) [] [] [] ["b".toList])) [] [] .nil)
            " ".toList))) .nil,
    endGap := [] }

example : lambdaSample.flatten = "self : super:\n\n\n  { a = x: x.b; }".toList := Nima.eq_toList rfl
example : lambdaSample.wf = true ∧ lambdaSample.noLeadingWs = true := by decide +kernel
example : lambdaSample.codeTokens =
    ["self", ":", "super", ":", "{", "a", "=", "x", ":", "x", ".", "b", ";", "}"].map String.toList := Nima.eq_map_toList rfl
example : lambdaSample.roundtrip = .ok "self: super:\n\n\n{ a = x: x.b; }".toList := Nima.eq_ok_toList (by decide +kernel)

/-- `assert !f x; -⏎  (a.b)`: unary operators over a call and over a parenthesised select -/
def unarySample : File :=
  { items := .elem []
      (.kw false [] " ".toList (.un ['!'] [] [] (.app (.leaf .ident "f".toList) [] " ".toList (.leaf .ident "x".toList)))
        [] [] [] " ".toList
        (.un ['-'] [] "\n  ".toList (.paren (.elem [] (.sel (.leaf .ident "a".toList) [] [] [] ["b".toList]) .nil) []))) .nil,
    endGap := [] }

example : unarySample.flatten = "assert !f x; -\n  (a.b)".toList := Nima.eq_toList rfl
example : unarySample.wf = true ∧ unarySample.noLeadingWs = true := by decide +kernel
example : unarySample.codeTokens =
    ["assert", "!", "f", "x", ";", "-", "(", "a", ".", "b", ")"].map String.toList := Nima.eq_map_toList rfl

/-- `a // b //⏎  { } ++ [ ]⏎  == !c`: operators of several kinds, the right operand / the operator on a new line -/
def binarySample : File :=
  { items := .elem []
      (.bin (.bin (.leaf .ident "a".toList) [] " ".toList "//".toList [] " ".toList
          (.bin (.leaf .ident "b".toList) [] " ".toList "//".toList [] "\n  ".toList
            (.bin (.set false [] .nil " ".toList) [] " ".toList "++".toList [] " ".toList (.list .nil " ".toList))))
        [] "\n  ".toList "==".toList [] " ".toList (.un ['!'] [] [] (.leaf .ident "c".toList))) .nil,
    endGap := [] }

example : binarySample.flatten = "a // b //\n  { } ++ [ ]\n  == !c".toList := Nima.eq_toList rfl
example : binarySample.wf = true ∧ binarySample.noLeadingWs = true := by decide +kernel
example : binarySample.codeTokens =
    ["a", "//", "b", "//", "{", "}", "++", "[", "]", "==", "!", "c"].map String.toList := Nima.eq_map_toList rfl

/-- full statement (false): the text the round trip writes determines the code tokens of the tree it was
    written from — i.e. re-lexing the output gives the tokens back (the theorems above speak about the
    PIECES of the output, not about the lexer's reading of their concatenation) -/
def frag_output_determines_tokens_full : Prop :=
  ∀ (f1 f2 : File), f1.wf = true → f2.wf = true → f1.noLeadingWs = true → f2.noLeadingWs = true →
    f1.roundtrip = f2.roundtrip → f1.codeTokens = f2.codeTokens

/-- `- ./p.nix` -/
def minusPathFile : File :=
  { items := .elem [] (.un "-".toList [] " ".toList (.leaf .path "./p.nix".toList)) .nil, endGap := "\n".toList }
/-- `-./p.nix`: one path token -/
def fusedPathFile : File :=
  { items := .elem [] (.leaf .path "-./p.nix".toList) .nil, endGap := "\n".toList }

/-- NEW FINDING `C01-fragment-unary-minus-path-fused`: `UnaryExpression.rebuild` (expressions/unary.py) writes
    the operator directly in front of an operand that follows it on the same line; for `-` in front of a
    path literal that does not start with `<` the two tokens `-`, `./p.nix` become the ONE path token
    `-./p.nix` (`- ./p.nix` -> `-./p.nix`; Nix's path syntax allows `-` in a path component): the
    unary minus disappears from the program. The pieces of the output are still `-` and `./p.nix`
    (`frag_tokens_preserved`), but two different trees of the fragment are written as the same text.
    Decidable exclusion where the output is re-read: `Cst.fusesMinus` in `Cst.cf` (C06). -/
theorem cex_unary_minus_path_fused : ¬ frag_output_determines_tokens_full := by
  intro h
  have := h minusPathFile fusedPathFile (by decide +kernel) (by decide +kernel) (by decide +kernel) (by decide +kernel)
    (by decide +kernel)
  revert this; decide +kernel

example : minusPathFile.flatten = "- ./p.nix\n".toList := Nima.eq_toList rfl
example : minusPathFile.roundtrip = .ok "-./p.nix\n".toList := Nima.eq_ok_toList (by decide +kernel)
example : fusedPathFile.roundtrip = .ok "-./p.nix\n".toList := Nima.eq_ok_toList (by decide +kernel)
example : minusPathFile.items.cf = false ∧ fusedPathFile.items.cf = true := by decide +kernel

/-- `if a ? b.c then⏎  [ x ]⏎else { }`: `if` with a has-attr condition, the consequence on its own line -/
def ifSample : File :=
  { items := .elem []
      (.ite [] " ".toList (.has (.leaf .ident "a".toList) [] " ".toList [] " ".toList ["b".toList, "c".toList])
        [] " ".toList [] "\n  ".toList (.list (.elem " ".toList (.leaf .ident "x".toList) .nil) " ".toList)
        [] "\n".toList [] " ".toList (.set false [] .nil " ".toList)) .nil,
    endGap := [] }

example : ifSample.flatten = "if a ? b.c then\n  [ x ]\nelse { }".toList := Nima.eq_toList rfl
example : ifSample.wf = true ∧ ifSample.noLeadingWs = true := by decide +kernel
example : ifSample.codeTokens =
    ["if", "a", "?", "b", ".", "c", "then", "[", "x", "]", "else", "{", "}"].map String.toList := Nima.eq_map_toList rfl
example : ifSample.roundtrip = .ok "if a ? b.c then\n  [ x ]\nelse { }".toList := Nima.eq_ok_toList (by decide +kernel)

end Fragment

end Nima.C01
