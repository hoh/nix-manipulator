import NimaVerif.Model.Gate
import NimaVerif.Lemmas.Edit
import NimaVerif.Lemmas.CliEdit
import NimaVerif.Gen.Gate
import NimaVerif.Gen.Cli
/-!
# C07 — sources with syntax errors are passed through untouched and never edited

`hasError` is tree-sitter's verdict, delivered with the tree (trusted, part of the parser contract).
Everything after the gate is decision logic and is proved for all texts, paths and values.
-/
namespace Nima.C07
-- name tokens are compared by spelling in this file (see `NameCmp` in Model/Edit.lean)
attribute [local instance] NameCmp.spelled

/-- Translator tie: the gate has the shape the model assumes (statement order in `from_cst`,
    `RawExpression.rebuild`, `NixSourceCode.rebuild`, value checks first in `set_value`,
    no `case RawExpression()` in target resolution). -/
theorem tie_gate : Gen.gateShape = some expectedGateShape := rfl

/-! Translator ties for the section "Through the command line": the programs of the three
sub-commands in `cli/main.py` are the ones `Cli.cli` interprets (the same ties as `C16.tie_*`). -/
theorem tie_cli_test : Gen.cliTest = some Cli.testProg := rfl
theorem tie_cli_set : Gen.cliSet = some Cli.setProg := rfl
theorem tie_cli_rm : Gen.cliRm = some Cli.rmProg := rfl

/-- Rebuilding a source with a syntax error returns the input byte for byte — including leading
    and trailing whitespace: the gate precedes all trivia code. -/
theorem passthrough (text : Text) (structured : Source) (other : TopExpr → Text)
    (renderTrailing : Text → Payload → Text) :
    (fromCstTop true text structured).rebuild other renderTrailing = text := by
  simp [fromCstTop, Source.rebuild, TopExpr.rebuild]

theorem flagged (text : Text) (structured : Source) :
    (fromCstTop true text structured).containsError = true ∧
    (fromCstTop true text structured).noTarget = some .raw := by
  simp [fromCstTop, Source.noTarget]

/-- `set` on a raw document is refused with ValueError whatever the path and the value, and the
    document is left as it was. -/
theorem set_refused (d : Doc) (h : d.noTarget = some .raw) (p : Text) (v : ValueArg) :
    setValue p v d = (.error .value, d) := by
  cases v with
  | empty => rfl
  | invalid => rfl
  | one n => rw [setValue_one, dispatch_eq, route_of_noTarget h (by decide)]

/-- `rm` on a raw document is refused with ValueError, document unchanged. -/
theorem rm_refused (d : Doc) (h : d.noTarget = some .raw) (p : Text) :
    removeValue p d = (.error .value, d) := by
  rw [removeValue_eq, dispatch_eq, route_of_noTarget h (by decide)]

/-- A VALUE that is not exactly one well-formed expression is refused whatever the document, and
    the document is left as it was. -/
theorem bad_value_refused (p : Text) (d : Doc) :
    setValue p .empty d = (.error .value, d) ∧ setValue p .invalid d = (.error .value, d) :=
  ⟨rfl, rfl⟩

/-- The whole chain for an erroneous text: flagged, passed through, not editable. -/
theorem erroneous_text (text : Text) (structured : Source) (d : Doc)
    (hd : d.noTarget = (fromCstTop true text structured).noTarget) (p : Text) (v : ValueArg) :
    (setValue p v d).1 = .error .value ∧ (setValue p v d).2 = d ∧
    (removeValue p d).1 = .error .value ∧ (removeValue p d).2 = d := by
  have h : d.noTarget = some .raw := by rw [hd]; exact (flagged text structured).2
  rw [set_refused d h p v, rm_refused d h p]
  exact ⟨rfl, rfl, rfl, rfl⟩

/-! ## Through the command line

The gate composed with the command-line interpreter of `Model/Cli.lean` (the programs of `test`,
`set`, `rm` are re-extracted from `cli/main.py` on every run and proved equal to the model's in
`C16.tie_*`). `Cli.editLib` (`Lemmas/CliEdit.lean`) is ANY library whose two edit entry points are the modelled `setValue` /
`removeValue` on the edit code's view `docOf` of a parsed source, with any reading `classify` of the
VALUE argument and any rendering `render` of an edited document (may raise); its `parse`,
`containsError`, `rebuild` are arbitrary. The statements hold for every text, both input channels,
every NPATH and VALUE. -/
section CommandLine
open Cli
variable {σ : Type}

/-- `nima test` on a source the parser flags: `Fail`, exit status 1, no traceback — whatever the
    rest of the library does, on either channel. -/
theorem cli_test_fails (lib : Lib σ) (inv : Inv) (t : Text) (s : σ) (hc : inv.content = .ok t)
    (hp : lib.parse t = .ok s) (he : lib.containsError s = true) :
    cli lib .test inv = failRes := by
  rw [cli_test_eq, hc]
  simp [testClosed, hp, he]

/-- `nima set` on a source that is one raw expression: nothing on stdout, exit status 1, ValueError
    — for every NPATH and VALUE, and the rendering of an edited document is never reached. -/
theorem cli_set_refused (base : Lib σ) (docOf : σ → Doc) (classify : Text → ValueArg)
    (render : Doc → Except Err Text) (inv : Inv) (t : Text) (s : σ) (hc : inv.content = .ok t)
    (hp : base.parse t = .ok s) (hraw : (docOf s).noTarget = some .raw) :
    cli (editLib base docOf classify render) .set inv = tracebackRes .value := by
  rw [cli_set_model base docOf classify render inv t s hc hp, set_refused (docOf s) hraw]
  rfl

/-- `nima rm` likewise. -/
theorem cli_rm_refused (base : Lib σ) (docOf : σ → Doc) (classify : Text → ValueArg)
    (render : Doc → Except Err Text) (inv : Inv) (t : Text) (s : σ) (hc : inv.content = .ok t)
    (hp : base.parse t = .ok s) (hraw : (docOf s).noTarget = some .raw) :
    cli (editLib base docOf classify render) .rm inv = tracebackRes .value := by
  rw [cli_rm_model base docOf classify render inv t s hc hp, rm_refused (docOf s) hraw]
  rfl

/-- A VALUE that is not exactly one well-formed expression (empty, several, or erroneous) makes
    `nima set` end silently with ValueError whatever the document and the path. -/
theorem cli_bad_value_refused (base : Lib σ) (docOf : σ → Doc) (classify : Text → ValueArg)
    (render : Doc → Except Err Text) (inv : Inv) (t : Text) (s : σ) (hc : inv.content = .ok t)
    (hp : base.parse t = .ok s) (hv : classify inv.value = .empty ∨ classify inv.value = .invalid) :
    cli (editLib base docOf classify render) .set inv = tracebackRes .value := by
  rw [cli_set_model base docOf classify render inv t s hc hp]
  rcases hv with hv | hv <;> rw [hv]
  · rw [(bad_value_refused inv.npath (docOf s)).1]; rfl
  · rw [(bad_value_refused inv.npath (docOf s)).2]; rfl

/-- The whole chain for a text tree-sitter flags, seen from the shell: the library's parse is the
    gate (`fromCstTop true`), so the three sub-commands answer `Fail`/1, silence/1/ValueError,
    silence/1/ValueError; in particular no byte of the erroneous source, edited or not, reaches
    stdout through `set` / `rm`. -/
theorem cli_erroneous_text (base : Lib σ) (docOf : σ → Doc) (classify : Text → ValueArg)
    (render : Doc → Except Err Text) (inv : Inv) (t : Text) (s : σ) (structured : Source)
    (hc : inv.content = .ok t) (hp : base.parse t = .ok s)
    (hflag : base.containsError s = (fromCstTop true t structured).containsError)
    (hview : (docOf s).noTarget = (fromCstTop true t structured).noTarget) :
    cli (editLib base docOf classify render) .test inv = failRes ∧
    cli (editLib base docOf classify render) .set inv = tracebackRes .value ∧
    cli (editLib base docOf classify render) .rm inv = tracebackRes .value := by
  have hraw : (docOf s).noTarget = some .raw := by rw [hview]; exact (flagged t structured).2
  have he : base.containsError s = true := by rw [hflag]; exact (flagged t structured).1
  exact ⟨cli_test_fails (editLib base docOf classify render) inv t s hc hp he,
    cli_set_refused base docOf classify render inv t s hc hp hraw,
    cli_rm_refused base docOf classify render inv t s hc hp hraw⟩

/-- Non-vacuity: a concrete library (the parse IS the gate on a flagged text) and invocation. -/
def gateLib : Lib Source :=
  { parse := fun t => .ok (fromCstTop true t ⟨[], [], false⟩)
    containsError := fun s => s.containsError
    rebuild := fun s => .ok (s.rebuild (fun _ => []) (fun t _ => t))
    setValue := fun _ _ _ => .ok []
    removeValue := fun _ _ => .ok [] }

example : cli (editLib gateLib (fun s => { noTarget := s.noTarget }) (fun _ => .one (.atom []))
      (fun _ => .ok [])) .set { chan := .file, raw := .ok "{ a = ; }".toList, npath := ['a'], value := ['1'] }
    = tracebackRes .value :=
  cli_set_refused gateLib _ _ _ _ "{ a = ; }".toList _ rfl rfl rfl

example : cli gateLib .test { chan := .stdin, raw := .ok "{ a = ; }".toList } = failRes := by decide +kernel

end CommandLine

-- non-vacuity: a source with a syntax error, leading and trailing white space kept
example : (fromCstTop true "  { a = ; }\n\n".toList ⟨[], [], false⟩).rebuild (fun _ => []) (fun t _ => t)
    = "  { a = ; }\n\n".toList := by decide +kernel

end Nima.C07
