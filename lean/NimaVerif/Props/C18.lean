import NimaVerif.Lemmas.Trivia
import NimaVerif.Lemmas.FragNFParse
import NimaVerif.Lemmas.FragFlat
import NimaVerif.Gen.Trivia
import NimaVerif.Lemmas.Text
/-!
# C18 — rebuilt text is in the formatter's spacing normal form (trivia algebra)

Theorems about `Model/Trivia.lean`, the transliteration of `expressions/trivia.py`, `comment.py`,
`layout.py` that every construct renderer shares. All statements quantify over every gap text,
every layout, every trivia list and every comment (unbounded). SPEC notions (`NormalSep`, `Piece`,
`TriviaLine`, …) are defined in `Model/TriviaSpec.lean`. The construct renderers are modelled for the
container fragment only (`section Fragment` at the end of this file); the others are observed by the harness.
-/
namespace Nima.C18

/-! ## Translator ties -/

/-- the source text of `_EMPTY_LINE_RE` the model's `hasEmptyLineRe` transliterates -/
def emptyLineReSource : String := "\\n[ \\t]*\\n"
/-- `_GAP_WHITESPACE_BYTES` (sorted) -/
def gapBlankBytes : List Nat := [9, 32]

theorem tie_empty_line_re : Gen.emptyLineRe = some emptyLineReSource := by decide
theorem tie_gap_blank_bytes : Gen.gapBlankBytes = some gapBlankBytes := by decide

/-- The model's blank class is the byte table's. -/
theorem gap_blank_bytes_model (c : Char) : isGapBlank c = gapBlankBytes.contains c.toNat := by
  have h32 : c = ' ' ↔ c.toNat = 32 :=
    ⟨fun h => by rw [h]; rfl, fun h => by rw [← Char.ofNat_toNat c, h]⟩
  have h9 : c = '\t' ↔ c.toNat = 9 :=
    ⟨fun h => by rw [h]; rfl, fun h => by rw [← Char.ofNat_toNat c, h]⟩
  by_cases h1 : c = ' '
  · subst h1; rfl
  · by_cases h2 : c = '\t'
    · subst h2; rfl
    · have n1 : ¬ c.toNat = 32 := fun h => h1 (h32.mpr h)
      have n2 : ¬ c.toNat = 9 := fun h => h2 (h9.mpr h)
      simp [isGapBlank, gapBlankBytes, h1, h2, n1, n2]

/-- The model of the regex search has the regex's meaning: some line break, blanks, line break. -/
theorem empty_line_re_meaning (s : Text) :
    hasEmptyLineRe s = true ↔
      ∃ a b m : Text, (∀ c ∈ b, isGapBlank c = true) ∧ s = a ++ '\n' :: b ++ '\n' :: m :=
  hasEmptyLineRe_iff s

/-! ## The two blank-line detectors are the same function -/

/-- the early exits of `gap_has_empty_line` are redundant -/
theorem gap_has_empty_line_is_regex (g : Text) : gapHasEmptyLine g = hasEmptyLineRe g :=
  gapHasEmptyLine_eq_re g

/-- `_gap_has_empty_line_offsets` (byte scanner; used by `append_gap_trivia_from_offsets` and the
    sequence parser) and `gap_has_empty_line` (regex; used by `Layout.from_gap`) agree on every text. -/
theorem empty_line_impls_agree (g : Text) : gapHasEmptyLineOffsets g = gapHasEmptyLine g := by
  rw [gapHasEmptyLineOffsets_eq_re, gapHasEmptyLine_eq_re]

/-! ## Separators are in normal form -/

theorem normalSep_nil : NormalSep [] := Or.inl rfl
theorem normalSep_space : NormalSep [' '] := Or.inr (Or.inl rfl)
theorem normalSep_nl (k : Nat) : NormalSep ('\n' :: spaces k) := Or.inr (Or.inr ⟨k, Or.inl rfl⟩)
theorem normalSep_nlnl (k : Nat) : NormalSep ('\n' :: '\n' :: spaces k) := Or.inr (Or.inr ⟨k, Or.inr rfl⟩)

/-- `NormalSep` is decidable: it is the Boolean test `isNormalSep`. -/
theorem normalSep_decidable (s : Text) : NormalSep s ↔ isNormalSep s = true := normalSep_iff s

/-- What normal form excludes: only spaces and line breaks (no tab, no CR), at most two line breaks
    (one blank line), and no blank before a line break (no trailing white space). -/
theorem normalSep_clean (s : Text) (h : NormalSep s) :
    (∀ c ∈ s, c = ' ' ∨ c = '\n') ∧ s.count '\n' ≤ 2 ∧
    (∀ a b : Text, s = a ++ ' ' :: b → containsNL b = false) := by
  have tail : ∀ (p : Text), ' ' ∉ p → ∀ (k : Nat) (a b : Text), p ++ spaces k = a ++ ' ' :: b → containsNL b = false :=
    fun p hp k a b h => containsNL_of_sublist (after_space_sublist p hp h) (containsNL_spaces k)
  rcases h with rfl | rfl | ⟨k, rfl | rfl⟩
  · exact ⟨by simp, by simp, fun a b h => by simp at h⟩
  · exact ⟨by simp, by decide, tail [] (by simp) 1⟩
  · refine ⟨fun c hc => ?_, by rw [List.count_cons_self, count_nl_spaces]; omega, tail ['\n'] (by decide) k⟩
    rcases List.mem_cons.mp hc with rfl | hc
    · exact Or.inr rfl
    · exact Or.inl (mem_spaces hc)
  · refine ⟨fun c hc => ?_, by rw [List.count_cons_self, List.count_cons_self, count_nl_spaces]; omega,
      tail ['\n', '\n'] (by decide) k⟩
    rcases List.mem_cons.mp hc with rfl | hc
    · exact Or.inr rfl
    · rcases List.mem_cons.mp hc with rfl | hc
      · exact Or.inr rfl
      · exact Or.inl (mem_spaces hc)
/-- `separator_from_layout` (default `inline_sep`) only writes normal-form separators, for every
    layout and indentation. -/
theorem separator_normal (l : Layout) (i : Nat) : NormalSep (separatorFromLayout l i) := by
  unfold separatorFromLayout
  cases l.onNewline
  · exact normalSep_space
  · cases l.blankLine
    · exact normalSep_nl _
    · exact normalSep_nlnl _

/-- Whatever the input gap (tabs, runs of spaces, CRLF, five blank lines, arbitrary text), the
    separator rendered from its classification is in normal form. -/
theorem separator_of_gap_normal (g : Text) (i : Nat) :
    NormalSep (separatorFromLayout (Layout.fromGap g) i) := separator_normal _ i

/-- `separator_from_layout_with_comments` (default `inline_sep`): the white space between the
    rendered comment block `cs` and the next token is in normal form — the separator itself when
    `cs` does not end in a line break, the closing line break of `cs` plus the separator when it does. -/
theorem separator_with_comments_normal (l : Layout) (cs : Text) (includeIndent : Bool) :
    (endsWithNL cs = false → NormalSep (separatorFromLayoutWithComments l cs [' '] includeIndent)) ∧
    (endsWithNL cs = true → NormalSep ('\n' :: separatorFromLayoutWithComments l cs [' '] includeIndent)) := by
  unfold separatorFromLayoutWithComments
  have hne : endsWithNL cs = true → cs.isEmpty = false := by
    intro h; cases cs with
    | nil => simp at h
    | cons x xs => rfl
  cases l.onNewline
  · -- same line
    constructor
    · intro he
      simp only [Bool.false_eq_true, if_false, he, Bool.or_false]
      split
      · split
        · exact normalSep_nil
        · exact normalSep_space
      · exact normalSep_space
    · intro he
      simp only [Bool.false_eq_true, if_false, he, Bool.or_true, hne he, Bool.not_false, if_true]
      exact normalSep_nl 0
  · -- on a new line: either way the text is a line break, an optional second one and an optional indentation
    have key : ∀ (bl inc : Bool) (k : Nat),
        NormalSep ('\n' :: (if bl then ['\n'] else []) ++ (if inc then spaces k else [])) := by
      intro bl inc k
      cases bl <;> cases inc
      · exact normalSep_nl 0
      · exact normalSep_nl k
      · exact normalSep_nlnl 0
      · exact normalSep_nlnl k
    simp only [if_true]
    constructor <;> intro he <;> simp only [he, Bool.false_eq_true, if_false, if_true, List.nil_append, List.cons_append]
    · exact key _ _ _
    · exact key _ _ _

/-- `format_interstitial_trivia_with_separator` (default `inline_sep`): the white space between
    the rendered trivia and the next token is in normal form, whatever the items, the layout and the
    options. -/
theorem interstitial_separator_normal (items : List Trivia) (l : Layout) (i : Nat) (inlineNL includeIndent dropBlank : Bool)
    (strip : Option Text) :
    let r := formatInterstitialTriviaWithSeparator items l i inlineNL [' '] includeIndent dropBlank strip
    (endsWithNL r.1 = false → NormalSep r.2) ∧ (endsWithNL r.1 = true → NormalSep ('\n' :: r.2)) := by
  simp only [formatInterstitialTriviaWithSeparator]
  exact separator_with_comments_normal _ _ _

/-! ## `format_trivia` only writes line breaks and exact indentation runs around comment tokens -/

/-- For a comma-free trivia list, the output of `format_trivia` is the concatenation of pieces that
    form whole lines: an empty line, or an indentation run of exactly the effective indent (`i`,
    or 0 for a comment flagged inline), one comment token, one line break. So every character
    outside the comment tokens is a line break or part of an indentation run at a line start. -/
theorem formatTrivia_ws (ts : List Trivia) (i : Nat) (h : CommaFree ts) :
    formatTrivia ts i = piecesText (triviaPieces i ts) ∧
    ∃ lines : List (List Piece), triviaPieces i ts = lines.flatten ∧ ∀ ln ∈ lines, TriviaLine i ln := by
  refine ⟨?_, triviaPieces_lines i ts h⟩
  rw [formatTrivia_eq_flatMap ts i h, piecesText_triviaPieces]

/-- all comments of the list are line comments as tree-sitter delivers them -/
def LineTrivia (ts : List Trivia) : Prop :=
  ∀ c, Trivia.comment c ∈ ts → c.kind = .line ∧ containsNL c.text = false

theorem line_str_shape (c : Comment) (hnl : containsNL c.text = false) :
    ∃ r, c.str = '#' :: r ∧ containsNL r = false := by
  rw [str_line_of_no_nl c hnl]
  split
  · exact ⟨'!' :: c.text, rfl, by rw [containsNL_cons, hnl]; rfl⟩
  · split
    · exact ⟨[], rfl, rfl⟩
    · split
      · exact ⟨' ' :: c.text, rfl, by rw [containsNL_cons, hnl]; rfl⟩
      · exact ⟨c.text, rfl, hnl⟩

/-- Character-level form for line comments: the output is a sequence of `\n`-terminated lines, each
    empty or exactly `k` spaces (`k = i`, or `0` for an inline-flagged comment) followed by `#…`. -/
theorem formatTrivia_ws_lines (ts : List Trivia) (i : Nat) (h : CommaFree ts) (hl : LineTrivia ts) :
    ∃ lines : List Text, formatTrivia ts i = lines.flatMap (· ++ ['\n']) ∧
      ∀ ln ∈ lines, ln = [] ∨ ∃ k r, (k = 0 ∨ k = i) ∧ ln = spaces k ++ '#' :: r ∧ containsNL r = false := by
  rw [formatTrivia_eq_flatMap ts i h]
  induction ts with
  | nil => exact ⟨[], rfl, by simp⟩
  | cons t ts ih =>
    obtain ⟨lines, he, hw⟩ := ih (commaFree_cons h) (fun c hc => hl c (List.mem_cons_of_mem _ hc))
    rw [List.flatMap_cons, he]
    cases t with
    | emptyLine =>
      refine ⟨[] :: lines, by simp [itemText], ?_⟩
      intro ln hm
      rcases List.mem_cons.mp hm with rfl | hm
      · exact Or.inl rfl
      · exact hw ln hm
    | linebreak => exact ⟨lines, by simp [itemText], hw⟩
    | comma => exact absurd List.mem_cons_self h
    | comment c =>
      obtain ⟨hk, hnl⟩ := hl c List.mem_cons_self
      obtain ⟨r, hr, hrnl⟩ := line_str_shape c hnl
      have htok : c.token (c.effIndent i) = '#' :: r := by simp [Comment.token, hk, hr]
      refine ⟨(spaces (c.effIndent i) ++ '#' :: r) :: lines, ?_, ?_⟩
      · simp [itemText, rebuild_eq_token, htok]
      · intro ln hm
        rcases List.mem_cons.mp hm with rfl | hm
        · refine Or.inr ⟨c.effIndent i, r, ?_, rfl, hrnl⟩
          unfold Comment.effIndent; split <;> simp
        · exact hw ln hm

/-! ## Examples (non-vacuity) -/

/-- a hostile gap: tab, space, CRLF, blank line, three spaces -/
def hostileGap : Text := "\t \r\n\n   ".toList

example : Layout.fromGap hostileGap = { onNewline := true, blankLine := true, indent := some 3 } := by decide +kernel
example : separatorFromLayout (Layout.fromGap hostileGap) 2 = "\n\n   ".toList := eq_toList rfl
example : gapHasEmptyLineOffsets hostileGap = true ∧ gapHasEmptyLine hostileGap = true := by decide +kernel
example : NormalSep (separatorFromLayout (Layout.fromGap hostileGap) 2) := by decide +kernel
example : ¬ NormalSep hostileGap := by decide +kernel
/-- five blank lines collapse to one -/
example : separatorFromLayout (Layout.fromGap "\n\n\n\n\n\n  ".toList) 0 = "\n\n  ".toList := eq_toList rfl

/-- a trivia list with a blank line, an inline comment and a block comment -/
def sampleTrivia : List Trivia :=
  [.emptyLine, .comment { text := "c".toList, inline := true }, .linebreak,
   .comment { text := "a\nb".toList, kind := .block false (some 3) }]

example : CommaFree sampleTrivia := by decide +kernel
example : formatTrivia sampleTrivia 2 = "\n# c\n  /* a\n     b */\n".toList := eq_toList rfl
example : triviaPieces 2 sampleTrivia =
    [.ws "\n".toList, .ws [], .cmt "# c".toList, .ws "\n".toList,
     .ws "  ".toList, .cmt "/* a\n     b */".toList, .ws "\n".toList] := by decide +kernel

section Fragment
open Nima.Frag

/-! ## Container fragment (L3–L5): the output of the whole round trip is in spacing normal form

Same models as `Props/C01.lean` (section Fragment). `summ` reads a piece list as: leading
whitespace, first token, "every whitespace run between two neighbouring tokens/comments is an
acceptable separator for the second one" (`sepOk`: `""`, `" "`, or one line break / one blank line
followed by an indentation run; nothing at all in front of `;`), trailing whitespace. -/

/-- SPACING NORMAL FORM. For every well-formed file of the fragment without `assert` and with at
    most one blank line between the colon of a lambda and its body (`File.basic`: containers,
    parentheses, function calls, `with e; body`, select `e.a.b`, `or default`, lambda `x: body`, unary and
    binary operators, `if c then a else b`, has-attr `e ? a.b`, any nesting — the spacing proof has not been extended to `assert e; body`, whose
    trailing trivia are written between its `;` and its body; no counterexample is known there, the
    decidable conclusion is evaluated on every sample of every run; the lambda clause is needed:
    `cex_blank_lines_after_colon`) in which no one-line container holds
    a comment in front of an item, no comment stands between `(` and a value on the same line, no comment
    touches the function of a call whose argument is on the same line, and at most one blank line stands
    in front of / after a binary operator (`Src.beforeFlatB`: the items of a container without a line
    break, the value of a parenthesis whose leading gap has no line break and the argument of a call whose
    gap has no line break have empty leading trivia; the two gaps of a binary operator hold at most two
    line breaks; see `cex_block_comment_after_opener`, `cex_comment_after_open_paren`,
    `cex_comment_touching_function`, `cex_blank_lines_around_operator`), the rebuilt file has
    no whitespace before its first token, every separator is in the formatter's normal form, `;`
    is attached, and the file ends with at most one blank line. -/
theorem frag_spacing_nf (f : File) (s : Src) (hwf : f.wf = true) (_hws : f.noLeadingWs = true)
    (hbasic : f.basic = true) (hp : f.parse = .ok s) (hclean : s.beforeFlatB = true) :
    (summ s.rebuildP).fileOk = true :=
  file_nf_flat f s hwf hbasic hp hclean

/-- the same with the exclusion as the render-side induction uses it (`inlineCleanB` additionally
    asks that every item's trailing trivia in a one-line container ends with a comment, which
    `Lemmas/FragFlat.lean` proves for everything `Cst.parse` builds) -/
theorem frag_spacing_nf_clean (f : File) (s : Src) (hwf : f.wf = true) (_hws : f.noLeadingWs = true)
    (hbasic : f.basic = true) (hp : f.parse = .ok s) (hclean : s.inlineCleanB = true) :
    (summ s.rebuildP).fileOk = true :=
  file_nf f s hwf hbasic hp (src_inlineClean hclean)

/-- what `fileOk` says, in terms of the pieces: for any two neighbouring tokens/comments `p`, `q`
    of the output with only whitespace pieces `W` between them, `concat W` is a `NormalSep`, and it
    is empty when `q` is `;`; nothing is written before the first token. (`fileOk` also bounds the
    trailing whitespace — `""`, one line break or one blank line —, which this statement does not restate.) -/
theorem frag_spacing_meaning (ps : List FP) (h : (summ ps).fileOk = true) :
    (∀ (pre W post : List FP) (p q : FP), ps = pre ++ [p] ++ W ++ q :: post → p.isWs = false → q.isWs = false →
        W.all FP.isWs = true → NormalSep (concat W) ∧ (q = .tok [';'] → concat W = [])) ∧
    (∀ (W post : List FP) (q : FP), ps = W ++ q :: post → W.all FP.isWs = true → q.isWs = false → concat W = []) := by
  cases hs : summ ps with
  | blank w =>
    refine ⟨fun pre W post p q hps hp _ _ => ?_, fun W post q hps hW hq => ?_⟩
    · exfalso
      obtain ⟨l1, f1, i1, h1⟩ := summ_lexLast pre p hp
      rw [hps, List.append_assoc, summ_append, h1] at hs
      cases hx : summ (W ++ q :: post) <;> rw [hx] at hs <;> cases hs
    · exfalso
      obtain ⟨x, i2, t2, _, h2⟩ := summ_lexHead q hq post
      rw [hps, summ_append, summ_allWs W hW, h2] at hs
      cases hs
  | lexy l f i t =>
    rw [hs] at h
    simp only [Summ.fileOk, Bool.and_eq_true, List.isEmpty_iff] at h
    obtain ⟨⟨hl, hi⟩, _⟩ := h
    subst hl; subst hi
    refine ⟨fun pre W post p q hps hp hq hW => ?_, fun W post q hps hW hq => summ_lead_spec hs W post q hps hW hq⟩
    obtain ⟨x, hx, hsep⟩ := summ_inner_spec hs pre W post p q hps hp hq hW
    unfold sepOk at hsep
    simp only [Bool.and_eq_true, Bool.or_eq_true, bne_iff_ne, ne_eq, List.isEmpty_iff] at hsep
    refine ⟨(normalSep_iff _).mpr hsep.1, fun hq' => ?_⟩
    subst hq'
    simp only [FP.lex?] at hx; injection hx with hx; subst hx
    rcases hsep.2 with h1 | h1
    · exact absurd rfl h1
    · exact h1

/-- full statement (false): without the exclusion -/
def frag_spacing_nf_full : Prop :=
  ∀ (f : File) (s : Src), f.wf = true → f.noLeadingWs = true → f.parse = .ok s → (summ s.rebuildP).fileOk = true

/-- `{ /* c */ a = 1; }`: the comment after `{` becomes leading trivia of the first binding, the set
    stays on one line (no line break in the source), and the binding is written `inline` after
    its own-line rendering of the comment: `{   /* c */⏎a = 1; }` — three spaces, and the binding
    at column 0 (open finding `C18-spacing-space-run-attrset_expression`;
    `expressions/trivia.py:parse_delimited_sequence` / `set.py` one-line branch). -/
def openerCommentFile : File :=
  { items := .elem [] (.set false [] (.cmt " ".toList "/* c */".toList
      (.bind " ".toList "a".toList [] " ".toList [] " ".toList (.leaf .int "1".toList) [] [] .nil)) " ".toList) .nil,
    endGap := [] }

theorem cex_block_comment_after_opener : ¬ frag_spacing_nf_full := by
  intro h
  have := h openerCommentFile _ (by decide +kernel) (by decide +kernel) rfl
  revert this; decide +kernel

example : openerCommentFile.flatten = "{ /* c */ a = 1; }".toList := eq_toList rfl
example : openerCommentFile.roundtrip = .ok "{   /* c */\na = 1; }".toList := eq_ok_toList rfl
example : (match openerCommentFile.parse with | .ok s => s.beforeFlatB | _ => true) = false := by decide +kernel

/-- the spacing statement for the GROWN fragment (parentheses, calls) under the container exclusion
    alone (`beforeFlatG`: `beforeFlatB` carried through parentheses and calls) — false -/
def frag_spacing_nf_grown_full : Prop :=
  ∀ (f : File) (s : Src), f.wf = true → f.noLeadingWs = true → f.parse = .ok s → s.beforeFlatG = true →
    (summ s.rebuildP).fileOk = true

/-- `[⏎  ( /* c */ x)⏎]`: the comment after `(` becomes leading trivia of the value, the parenthesis
    stays on one line, and the value is rendered `inline` after the own-line rendering of the comment
    at the parenthesis' indentation: `(  /* c */⏎x)` — an indentation run after `(`, the value at
    column 0 (open finding `C18-spacing-space-run-parenthesized_expression`, the parenthesis analogue
    of `cex_block_comment_after_opener`; `expressions/parenthesis.py: rebuild` renders
    `value.rebuild(indent, inline=True)` and `add_trivia` writes `format_trivia(before, indent)`).
    Hence the clause of `beforeFlatB` for parentheses: "the value of a parenthesis whose leading gap
    has no line break has no leading trivia". -/
def parenCommentFile : File :=
  { items := .elem [] (.list (.elem "\n  ".toList (.paren (.cmt " ".toList "/* c */".toList
      (.elem " ".toList (.leaf .ident "x".toList) .nil)) []) .nil) "\n".toList) .nil,
    endGap := [] }

theorem cex_comment_after_open_paren : ¬ frag_spacing_nf_grown_full := by
  intro h
  have := h parenCommentFile _ (by decide +kernel) (by decide +kernel) rfl (by decide +kernel)
  revert this; decide +kernel

example : parenCommentFile.flatten = "[\n  ( /* c */ x)\n]".toList := eq_toList rfl
example : parenCommentFile.roundtrip = .ok "[\n  (  /* c */\nx)\n]".toList := eq_ok_toList rfl
example : (match parenCommentFile.parse with | .ok s => s.beforeFlatB | _ => true) = false := by decide +kernel

/-- the spacing statement under `beforeFlatB` without its clause for calls (`beforeFlatP`) — false -/
def frag_spacing_nf_nocall_full : Prop :=
  ∀ (f : File) (s : Src), f.wf = true → f.noLeadingWs = true → f.parse = .ok s → s.beforeFlatP = true →
    (summ s.rebuildP).fileOk = true

/-- `{⏎  a = f/* c */ x;⏎}`: a comment that touches the function is not an end-of-line comment of the
    function (`start_byte > function_node.end_byte` fails) and becomes leading trivia of the argument;
    the argument stays on the function's line and is rendered `inline` after the own-line rendering of
    the comment at the call's indentation: `a = f   /* c */⏎x;` — an indentation run after the
    separating space, the argument at column 0 (`expressions/function/call.py: from_cst` /
    `rebuild`). Hence the clause of `beforeFlatB` for calls: "the argument of a call whose gap has no
    line break has no leading trivia". -/
def callCommentFile : File :=
  { items := .elem [] (.set false [] (.bind "\n  ".toList "a".toList [] " ".toList [] " ".toList
      (.app (.leaf .ident "f".toList) [([], "/* c */".toList)] " ".toList (.leaf .ident "x".toList)) [] [] .nil)
      "\n".toList) .nil,
    endGap := [] }

theorem cex_comment_touching_function : ¬ frag_spacing_nf_nocall_full := by
  intro h
  have := h callCommentFile _ (by decide +kernel) (by decide +kernel) rfl (by decide +kernel)
  revert this; decide +kernel

example : callCommentFile.flatten = "{\n  a = f/* c */ x;\n}".toList := eq_toList rfl
example : callCommentFile.roundtrip = .ok "{\n  a = f   /* c */\nx;\n}".toList := eq_ok_toList rfl
example : (match callCommentFile.parse with | .ok s => s.beforeFlatB | _ => true) = false := by decide +kernel

/-- `a⏎⏎⏎  + b`: `BinaryExpression.from_cst` counts the line breaks of the gap in front of the operator
    (`gap_line_info`) and `rebuild` writes as many — two blank lines stay (the same after the operator).
    Same root cause as the open finding `C18-spacing-blank-lines-binary_expression`. Hence the clause
    of `beforeFlatB` for binary operators (`beforeFlatG` carries `beforeFlatB` through them without it). -/
def binBlankFile : File :=
  { items := .elem [] (.bin (.leaf .ident "a".toList) [] "\n\n\n  ".toList "+".toList [] " ".toList (.leaf .ident "b".toList)) .nil,
    endGap := "\n".toList }

theorem cex_blank_lines_around_operator : ¬ frag_spacing_nf_grown_full := by
  intro h
  have := h binBlankFile _ (by decide +kernel) (by decide +kernel) rfl (by decide +kernel)
  revert this; decide +kernel

example : binBlankFile.flatten = "a\n\n\n  + b\n".toList := eq_toList rfl
example : binBlankFile.roundtrip = .ok "a\n\n\n+ b\n".toList := eq_ok_toList rfl
example : binBlankFile.basic = true ∧ (match binBlankFile.parse with | .ok s => s.beforeFlatB | _ => true) = false := by decide +kernel

/-- the spacing statement without `File.basic` (`beforeFlatB` keeps `assert` out by itself) — false -/
def frag_spacing_nf_nobasic_full : Prop :=
  ∀ (f : File) (s : Src), f.wf = true → f.noLeadingWs = true → f.parse = .ok s → s.beforeFlatB = true →
    (summ s.rebuildP).fileOk = true

/-- `x:⏎⏎⏎  y`: `FunctionDefinition.from_cst` (`_collect_colon_trivia`) turns the first line break after
    the colon into `breaks_after_semicolon` and every further one into a blank-line marker in front of
    the body, and `rebuild` writes them all — two blank lines stay. Same root cause as the open finding
    `C18-spacing-blank-lines-function_expression`. Hence the lambda clause of `File.basic`: at most two
    line breaks between the colon and the body. -/
def lamBlankFile : File :=
  { items := .elem [] (.lam "x".toList [] [] [] "\n\n\n  ".toList (.leaf .ident "y".toList)) .nil, endGap := "\n".toList }

theorem cex_blank_lines_after_colon : ¬ frag_spacing_nf_nobasic_full := by
  intro h
  have := h lamBlankFile _ (by decide +kernel) (by decide +kernel) rfl (by decide +kernel)
  revert this; decide +kernel

example : lamBlankFile.flatten = "x:\n\n\n  y\n".toList := eq_toList rfl
example : lamBlankFile.roundtrip = .ok "x:\n\n\ny\n".toList := eq_ok_toList rfl
example : lamBlankFile.basic = false := by decide +kernel

/-- `with` in the three layouts of its body (absorbed set, forced line break, inline), satisfying the hypotheses -/
def withNfSample : File :=
  { items := .elem [] (.list
      (.elem "\n  ".toList (.paren (.elem [] (.kw true [] "  ".toList (.leaf .ident "a".toList) [] " ".toList [] "   ".toList
          (.set false [] (.bind "\n".toList "x".toList [] " ".toList [] " ".toList (.leaf .int "1".toList) [] [] .nil) "\n".toList)) .nil) [])
      (.elem "\n  ".toList (.paren (.elem [] (.kw true [] "\n\n     ".toList (.leaf .ident "b".toList) [] [] [] "\n\n\n ".toList
          (.leaf .ident "y".toList)) .nil) [])
      (.elem "\n  ".toList (.paren (.elem [] (.kw true [] " ".toList (.leaf .ident "c".toList) [] [] [] "\t".toList
          (.leaf .ident "z".toList)) .nil) []) .nil))) "\n".toList) .nil,
    endGap := "\n".toList }

example : withNfSample.flatten =
    "[\n  (with  a ;   {\nx = 1;\n})\n  (with\n\n     b;\n\n\n y)\n  (with c;\tz)\n]\n".toList := eq_toList rfl
example : withNfSample.roundtrip =
    .ok "[\n  (with a; {\n    x = 1;\n  })\n  (with\n\n     b;\n\n  y)\n  (with c; z)\n]\n".toList := eq_ok_toList rfl
example : withNfSample.wf = true ∧ withNfSample.noLeadingWs = true ∧ withNfSample.basic = true := by decide +kernel
example : (match withNfSample.parse with | .ok s => s.beforeFlatB | _ => false) = true := by decide +kernel

/-- select, `or`, lambda, unary and binary operators in non-canonical layouts, satisfying the hypotheses -/
def opsSample : File :=
  { items := .elem [] (.set false [] (.bind "\n  ".toList "a".toList [] " ".toList [] " ".toList
      (.lam "x".toList [] [] [] "  ".toList
        (.bin (.un "!".toList [] " ".toList (.selOr (.leaf .ident "x".toList) [] [] [] ["b".toList, "c".toList] [] "  ".toList " ".toList
            (.leaf .ident "d".toList)))
          [] "\n\n      ".toList "+".toList [] "\t".toList (.un "-".toList [] [] (.sel (.leaf .ident "y".toList) [] " ".toList [] ["e".toList]))))
      [] [] .nil) "\n".toList) .nil,
    endGap := "\n".toList }

example : opsSample.flatten = "{\n  a = x:  ! x.b.c  or d\n\n      +\t-y .e;\n}\n".toList := eq_toList rfl
example : opsSample.roundtrip = .ok "{\n  a = x: !x.b.c or d\n\n  + -y.e;\n}\n".toList := eq_ok_toList rfl
example : opsSample.wf = true ∧ opsSample.noLeadingWs = true ∧ opsSample.basic = true := by decide +kernel
example : (match opsSample.parse with | .ok s => s.beforeFlatB | _ => false) = true := by decide +kernel

/-- parentheses and calls in many layouts, with comments, satisfying the hypotheses -/
def grownSample : File :=
  { items := .elem [] (.set false [] (.bind "\n  ".toList "a".toList [] " ".toList [] " ".toList
      (.app (.app (.leaf .ident "f".toList) [(" ".toList, "/* c */".toList)] " ".toList
          (.paren (.elem "\n\n      ".toList (.leaf .ident "x".toList) (.cmt " ".toList "# e".toList .nil)) "\n   ".toList))
        [("\n".toList, "# d".toList)] "\n\n\t".toList (.paren (.elem [] (.list .nil []) .nil) " ".toList)) [] [] .nil)
      "\n".toList) .nil,
    endGap := [] }

example : grownSample.flatten = "{\n  a = f /* c */ (\n\n      x # e\n   )\n# d\n\n\t([] );\n}".toList := eq_toList rfl
example : grownSample.roundtrip = .ok "{\n  a = f /* c */ (\n\n      x # e\n  )\n\n # d\n\n ([ ]);\n}".toList := eq_ok_toList rfl
example : grownSample.wf = true ∧ grownSample.noLeadingWs = true ∧ grownSample.basic = true := by decide +kernel
example : (match grownSample.parse with | .ok s => s.beforeFlatB | _ => false) = true := by decide +kernel

/-- a file with comments in many gaps that satisfies the hypotheses -/
def fragSample : File :=
  { items := .cmt [] "# h".toList (.elem "\n\n\n".toList
      (.set false [] (.bind "\n\t".toList "a".toList [(" ".toList, "/* n */".toList)] "  ".toList
          [] "\n\n      ".toList (.list (.elem " ".toList (.leaf .int "1".toList) .nil) "\t".toList) [] " ".toList
        (.cmt " ".toList "# e".toList (.cmt "\n\n\n".toList "# o".toList .nil))) "\n\n\n".toList) .nil),
    endGap := "\n\n\n".toList }

example : fragSample.flatten = "# h\n\n\n{\n\ta /* n */  =\n\n      [ 1\t] ; # e\n\n\n# o\n\n\n}\n\n\n".toList := eq_toList rfl
example : fragSample.wf = true ∧ fragSample.noLeadingWs = true ∧ fragSample.basic = true := by decide +kernel
example : (match fragSample.parse with | .ok s => s.beforeFlatB | _ => false) = true := by decide +kernel
example : fragSample.roundtrip = .ok "# h\n\n{\n  a =\n      /* n */\n\n      [ 1 ]; # e\n\n  # o\n\n}\n\n".toList := eq_ok_toList rfl

/-- `if a  ?⏎ b.c⏎⏎⏎then⏎  [ x ]⏎else { }`: `if` and has-attr are inside the spacing theorem -/
def ifNfSample : File :=
  { items := .elem []
      (.ite [] " ".toList (.has (.leaf .ident "a".toList) [] "  ".toList [] "\n ".toList ["b".toList, "c".toList])
        [] "\n\n\n".toList [] "\n  ".toList (.list (.elem " ".toList (.leaf .ident "x".toList) .nil) " ".toList)
        [] "\n".toList [] " ".toList (.set false [] .nil " ".toList)) .nil,
    endGap := [] }

example : ifNfSample.flatten = "if a  ?\n b.c\n\n\nthen\n  [ x ]\nelse { }".toList := eq_toList rfl
example : ifNfSample.wf = true ∧ ifNfSample.noLeadingWs = true ∧ ifNfSample.basic = true := by decide +kernel
example : (match ifNfSample.parse with | .ok s => s.beforeFlatB | _ => false) = true := by decide +kernel
example : ifNfSample.roundtrip = .ok "if a ?\n b.c\n\nthen\n  [ x ]\nelse { }".toList := eq_ok_toList rfl

end Fragment

end Nima.C18
