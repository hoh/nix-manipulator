import NimaVerif.Lemmas.Registry
import NimaVerif.Lemmas.Scope
import NimaVerif.Gen.Registry
/-!
# C10 — identifier resolution follows Nix lexical scoping or fails explicitly

* `implResolve` (Model/Resolve.lean) is the transliteration of the code: `parse(text)[k1]…[kn].value`.
* `specResolve` (Model/ResolveSpec.lean) is the SPEC: Nix's lexical scoping, `agrees` the comparison.
* `Registry` (Model/Registry.lean) is the `_CONTEXTS` state machine, `absAnswers` its SPEC (contexts
  keyed by the objects themselves).
-/
namespace Nima.C10
open Nima Nima.Scope

/-! ## Translator ties -/

theorem tie_registry_validate : Gen.registryValidateGet = some Registry.currentCfg.validateGet := rfl
theorem tie_registry_guard : Gen.registryGuardCallback = some Registry.currentCfg.guardCallback := rfl
theorem tie_registry_shape :
    Gen.registryKeyIsId = some true ∧ Gen.registryWeakCallback = some true ∧
    Gen.registryPopsStale = some true ∧ Gen.registryClearPopsId = some true := ⟨rfl, rfl, rfl, rfl⟩
theorem tie_chain_order : Gen.scopeChainOrder = some chainOrder := rfl
theorem tie_innermost_first : Gen.resolveInnermostFirst = some true := rfl

/-! ## Registry: the address-keyed, weak-reference-validated table behaves like a map keyed by the
objects themselves, for every history of allocations (with address reuse), deaths (with or without
the callback), stores, gets and clears. -/

theorem registry_inv_init : Registry.Inv Registry.init := Registry.inv_init

theorem registry_inv_step (s : Registry.Reg) (op : Registry.Op) (h : Registry.Inv s) :
    Registry.Inv (Registry.step Registry.currentCfg s op) := Registry.inv_step s op h

/-- every reachable state satisfies the invariant; in particular (`keyed`) every entry whose weak
    reference is alive is keyed by the id of the object it refers to -/
theorem registry_inv_reachable (ops : List Registry.Op) :
    Registry.Inv (Registry.run Registry.currentCfg Registry.init ops) :=
  Registry.inv_run _ ops Registry.inv_init

/-- `get o` returns the context last stored FOR `o` — never one stored for a dead object that had
    the same id -/
theorem registry_get_last_stored (ops : List Registry.Op) :
    Registry.answers Registry.currentCfg Registry.init ops = Registry.absAnswers {} ops :=
  Registry.answers_refine _ _ ops Registry.inv_init Registry.refines_init

/-- an object created at a reused address starts without a context, whatever happened before -/
theorem registry_new_object_clean (ops : List Registry.Op) (a : Nat) :
    Registry.answers Registry.currentCfg Registry.init (ops ++ [.alloc a, .get (Registry.absRun {} ops).next])
      = Registry.answers Registry.currentCfg Registry.init ops ++ [none] := by
  rw [registry_get_last_stored, registry_get_last_stored, Registry.absAnswers_append,
    Registry.abs_new_object_clean _ (Registry.absInv_run _ ops Registry.absInv_init)]

/-- without the validation in `_get_context` a lost callback lets a new object at a reused address
    see the context of the dead one: the validation is what the isolation rests on -/
theorem cex_registry_without_validation :
    Registry.answers ⟨false, true⟩ Registry.init
        [.alloc 7, .store 0 5, .freeQuiet 0, .alloc 7, .get 1] = [some 5] ∧
    Registry.absAnswers {} [.alloc 7, .store 0 5, .freeQuiet 0, .alloc 7, .get 1] = [none] := by
  decide +kernel


/-! ## Resolver: the full statement, and where the code violates it

`ResolveFull`: for every program and path, with enough fuel on both sides, the code's outcome agrees
with Nix's scoping (`agrees`: the same defining value, or `ResolutionError` where Nix has no value,
or no route on either side; running out of fuel — `RecursionError` — never agrees, so the statement
contains "in bounded time"). It is FALSE of the code; each `cex_*` theorem below proves the negation
on a witness that is replayed on the real code on every run (known_findings.json). -/

def ResolveFull : Prop :=
  ∀ prog path, ∃ N, ∀ k, agrees (implResolve (N + k) prog path) (specResolve (N + k) prog path) = true

def nm (s : String) : Text := s.toList
def key (s : String) : Step := .key s.toList

/-- a witness refutes the full statement as soon as the two sides are stable and disagree; the
    stable outcomes are handed back with the refutation, which is the shape of the `cex_*` theorems -/
theorem refutes (prog : Expr) (path : List Step) (c : Nat) (o : Outcome) (s : SpecOutcome)
    (hi : ∀ n, implResolve (n + c) prog path = o) (hs : ∀ n, specResolve (n + c) prog path = s)
    (hd : agrees o s = false) :
    (∀ n, implResolve (n + c) prog path = o) ∧ (∀ n, specResolve (n + c) prog path = s) ∧
      ¬ ResolveFull := by
  refine ⟨hi, hs, fun h => ?_⟩
  obtain ⟨N, hN⟩ := h prog path
  have := hN c
  rw [hi N, hs N, hd] at this
  cases this

/-! The runs below are evaluated by `rfl` with the surplus fuel `n` left open (no step looks at it).
`with_unfolding_all` is there because the elaborator gets through such a run several times faster at
that transparency than at the default one. -/

/-- `let a = 1; in with { a = 2; }; { x = a; }` : the `with` environment shadows the enclosing `let` -/
def wWithLet : Expr :=
  .letE [.bind 10 (nm "a") (.lit 1)]
    (.withE 20 (.set 21 false [.bind 22 (nm "a") (.lit 2)])
      (.set 30 false [.bind 31 (nm "x") (.ref 32 (nm "a"))]))

theorem cex_with_let :
    (∀ n, implResolve (n + 6) wWithLet [key "x"] = .bound 2) ∧
    (∀ n, specResolve (n + 6) wWithLet [key "x"] = .bound 1) ∧ ¬ ResolveFull :=
  refutes wWithLet [key "x"] 6 _ _ (fun _ => by with_unfolding_all rfl) (fun _ => by with_unfolding_all rfl) (by decide)

/-- `with { a = b; b = 6; }; { x = a; }` : the bindings of a plain `with` environment see each other -/
def wWithEnvRec : Expr :=
  .withE 20 (.set 21 false [.bind 22 (nm "a") (.ref 23 (nm "b")), .bind 24 (nm "b") (.lit 6)])
    (.set 30 false [.bind 31 (nm "x") (.ref 32 (nm "a"))])

theorem cex_with_env_recursive :
    (∀ n, implResolve (n + 6) wWithEnvRec [key "x"] = .bound 6) ∧
    (∀ n, specResolve (n + 6) wWithEnvRec [key "x"] = .error .unbound) ∧ ¬ ResolveFull :=
  refutes wWithEnvRec [key "x"] 6 _ _ (fun _ => by with_unfolding_all rfl) (fun _ => by with_unfolding_all rfl) (by decide)

/-- `let a = 6; in { x = let a = 1; in a; }` : the let layers carried by the identifier itself are ignored -/
def wLetOnIdent : Expr :=
  .letE [.bind 10 (nm "a") (.lit 6)]
    (.set 20 false [.bind 21 (nm "x") (.letE [.bind 22 (nm "a") (.lit 1)] (.ref 23 (nm "a")))])

theorem cex_let_on_identifier :
    (∀ n, implResolve (n + 6) wLetOnIdent [key "x"] = .bound 6) ∧
    (∀ n, specResolve (n + 6) wLetOnIdent [key "x"] = .bound 1) ∧ ¬ ResolveFull :=
  refutes wLetOnIdent [key "x"] 6 _ _ (fun _ => by with_unfolding_all rfl) (fun _ => by with_unfolding_all rfl) (by decide)

/-- `let c = 1; in rec { inherit c; }` asked for `c`: the rec set is in the chain twice -/
def wInhRecKey : Expr :=
  .letE [.bind 10 (nm "c") (.lit 1)] (.set 20 true [.inh 21 [nm "c"]])

theorem cex_inherit_in_rec_by_key :
    (∀ n, implResolve (n + 6) wInhRecKey [key "c"] = .fail (.res .cycleInherit)) ∧
    (∀ n, specResolve (n + 6) wInhRecKey [key "c"] = .bound 1) ∧ ¬ ResolveFull :=
  refutes wInhRecKey [key "c"] 6 _ _ (fun _ => by with_unfolding_all rfl) (fun _ => by with_unfolding_all rfl) (by decide)

/-- `({ x, a ? 5 }: x) { x = a; }` : the parameter scope (with its defaults) leaks into the argument -/
def wFormalsLeak : Expr :=
  .app 1 (.paren 2 (.lamP 3 [.req (nm "x"), .opt (nm "a") (.lit 5)] (.ref 4 (nm "x"))))
    (.set 6 false [.bind 7 (nm "x") (.ref 8 (nm "a"))])

theorem cex_formals_leak :
    (∀ n, implResolve (n + 6) wFormalsLeak [key "x"] = .bound 5) ∧
    (∀ n, specResolve (n + 6) wFormalsLeak [key "x"] = .error .unbound) ∧ ¬ ResolveFull :=
  refutes wFormalsLeak [key "x"] 6 _ _ (fun _ => by with_unfolding_all rfl) (fun _ => by with_unfolding_all rfl) (by decide)

/-- `let a = b; in let b = 8; in rec { k = { x = a; }; }` : the document-level rec set is asked for
    its scopes twice, the let layers are duplicated and an outer layer sees an inner one -/
def wDocRecDup : Expr :=
  .letE [.bind 10 (nm "a") (.ref 11 (nm "b"))]
    (.letE [.bind 12 (nm "b") (.lit 8)]
      (.set 20 true [.bind 21 (nm "k") (.set 30 false [.bind 31 (nm "x") (.ref 32 (nm "a"))])]))

theorem cex_document_rec_duplicates_lets :
    (∀ n, implResolve (n + 6) wDocRecDup [key "k", key "x"] = .bound 8) ∧
    (∀ n, specResolve (n + 6) wDocRecDup [key "k", key "x"] = .error .unbound) ∧ ¬ ResolveFull :=
  refutes wDocRecDup [key "k", key "x"] 6 _ _ (fun _ => by with_unfolding_all rfl) (fun _ => by with_unfolding_all rfl) (by decide)

/-! `{ a ? 4 }: { x = a; }`, `let b = 1; in f { x = b; }`, `let c = 4; in ({ y = c; })` : the route of
`_resolve_target_set` through a lambda, a call or parentheses drops the scopes it computed -/
def wLambdaRoute : Expr :=
  .lamP 1 [.opt (nm "a") (.lit 4)] (.set 5 false [.bind 6 (nm "x") (.ref 7 (nm "a"))])
def wCallRoute : Expr :=
  .letE [.bind 10 (nm "b") (.lit 1)]
    (.app 2 (.ref 3 (nm "f")) (.set 5 false [.bind 6 (nm "x") (.ref 7 (nm "b"))]))
def wParenRoute : Expr :=
  .letE [.bind 10 (nm "c") (.lit 4)] (.paren 2 (.set 5 false [.bind 6 (nm "y") (.ref 7 (nm "c"))]))

theorem cex_routes_drop_scopes :
    (∀ n, implResolve (n + 6) wLambdaRoute [key "x"] = .fail (.res .noContext)) ∧
    (∀ n, specResolve (n + 6) wLambdaRoute [key "x"] = .bound 4) ∧
    (∀ n, implResolve (n + 6) wCallRoute [key "x"] = .fail (.res .noContext)) ∧
    (∀ n, specResolve (n + 6) wCallRoute [key "x"] = .bound 1) ∧
    (∀ n, implResolve (n + 6) wParenRoute [key "y"] = .fail (.res .noContext)) ∧
    (∀ n, specResolve (n + 6) wParenRoute [key "y"] = .bound 4) ∧ ¬ ResolveFull :=
  have lam := refutes wLambdaRoute [key "x"] 6 _ _ (fun _ => by with_unfolding_all rfl) (fun _ => by with_unfolding_all rfl) (by decide)
  ⟨lam.1, lam.2.1, fun _ => by with_unfolding_all rfl, fun _ => by with_unfolding_all rfl, fun _ => by with_unfolding_all rfl, fun _ => by with_unfolding_all rfl, lam.2.2⟩

/-! ### Unbounded recursion: `{ inherit (a) a; }` asked for `a`

`_resolve_inherited_binding` resolves the source identifier through `from_expression.value`, a NESTED
resolution with fresh `visited` sets, which meets the same `inherit (a) a;` again: no measure
decreases. For EVERY fuel the model runs out of it (CPython: `RecursionError`), while Nix's answer is
plain: `a` is unbound. -/

def wLoopItems : List Item := [.inhFrom 2 [nm "a"] (.ref 3 (nm "a"))]
def wLoop : Expr := .set 1 false wLoopItems

theorem loop_core (f : Nat) (st : St) :
    (resolveId f st (nm "a") [wLoopItems] [] []).1 = .err .fuel := by
  induction f generalizing st with
  | zero => rfl
  | succ f ih =>
    have h := ih (st.set 3 [wLoopItems])
    have hstep : resolveId (f + 1) st (nm "a") [wLoopItems] [] [] =
        (match resolveId f (st.set 3 [wLoopItems]) (nm "a") [wLoopItems] [] [] with
         | (.err e, st1) => (RR.err e, st1)
         | (.ok source _, st1) =>
           match source.core with
           | .set sid _ items =>
             resolveId f (st1.set sid ([wLoopItems] ++ [items])) (nm "a") ([wLoopItems] ++ [items]) [] [2]
           | _ => (.err (.res .inheritSrc), st1)) := by
      show scan (resolveId f) (nm "a") [] [] st [wLoopItems] = _
      simp only [scan, wLoopItems, findBind, findQuoted, findInherit, nm, resolveInherited, valueOfWith,
        Expr.core]
      rfl
    rw [hstep]
    cases hr : resolveId f (st.set 3 [wLoopItems]) (nm "a") [wLoopItems] [] [] with
    | mk r st1 =>
      rw [hr] at h
      simp only at h
      subst h
      rfl

theorem cex_inherit_loop :
    (∀ f, implResolve (f + 1) wLoop [key "a"] = .fail .fuel) ∧
    (∀ n, specResolve (n + 4) wLoop [key "a"] = .error .unbound) ∧ ¬ ResolveFull := by
  have hi : ∀ f, implResolve (f + 1) wLoop [key "a"] = .fail .fuel := by
    intro f
    have h1 : runSteps (f + 1) wLoop {} .root [key "a"] =
        (.ok (.at (.ref (inhCopyId 2) (nm "a"))), ({} : St).set (inhCopyId 2) [wLoopItems]) := rfl
    have h2 : valueOfWith (resolveId (f + 1)) (({} : St).set (inhCopyId 2) [wLoopItems])
          (.ref (inhCopyId 2) (nm "a")) =
        resolveId (f + 1) (({} : St).set (inhCopyId 2) [wLoopItems]) (nm "a") [wLoopItems] [] [] := rfl
    unfold implResolve implTraverse
    rw [h1]
    simp only [h2]
    have h := loop_core (f + 1) (({} : St).set (inhCopyId 2) [wLoopItems])
    cases hr : resolveId (f + 1) (({} : St).set (inhCopyId 2) [wLoopItems]) (nm "a") [wLoopItems] [] [] with
    | mk r st1 =>
      rw [hr] at h
      simp only at h
      subst h
      rfl
  have hs : ∀ n, specResolve (n + 4) wLoop [key "a"] = .error .unbound :=
    fun _ => by with_unfolding_all rfl
  exact ⟨hi, hs, (refutes wLoop [key "a"] 4 _ _ (fun n => hi (n + 3)) hs (by decide)).2.2⟩

/-! ## What is proved: inside the fragment the full statement holds

`InFragment prog path` (Model/ScopeFragment.lean, decidable): the program is built from let layers
(any number, around anything but a bare reference), `rec` and plain attribute sets, `inherit`
clauses, references and literals — nested to ANY depth, the same name bound at any number of
levels, reference chains and cycles included — and the path consists of keys written without quotes
(`keysBare`: a quoted key is read as a name token by the code and as a name by the SPEC, see
`quoted_key_finds_bare_binding` below). Excluded, each with its counterexample theorem above: `with` (`cex_with_let`, `cex_with_env_recursive`),
`inherit (s) x` (`cex_inherit_loop`), lambdas / calls / parentheses on the route
(`cex_formals_leak`, `cex_routes_drop_scopes`), let layers on an identifier
(`cex_let_on_identifier`), and inside the fragment the two side conditions
`recInheritKey` (`cex_inherit_in_rec_by_key`) and `letOnRecTop` (`cex_document_rec_duplicates_lets`). -/

/-- Lookup, over environments of any depth: the code's walk over the scope chain (`resolveId`, any
    store, any visited sets) and Nix's rule (innermost lexical binder wins, `inherit` designates the
    enclosing scope, chains are followed, a revisited item is a cycle) name the same value or both
    fail, whenever neither runs out of fuel. -/
theorem lookup_follows_lexical_scoping (fi fL fR : Nat) (st : St) (E : Env) (name : Text)
    (vis ivis : List Nat) (hE : EnvOK E)
    (hi : (resolveId fi st name (flat E) vis ivis).1 ≠ .err .fuel)
    (hs : specFollow fL fR E name vis ivis ≠ .fail .fuel) :
    RelR (resolveId fi st name (flat E) vis ivis).1 (specFollow fL fR E name vis ivis) :=
  lookup_agree fi fL fR st E name vis ivis hE hi hs

/-- Bounded time, over environments of any depth: with more fuel than there are unvisited items in
    the chain, `_resolve_identifier` does not run out of it — unbound names and cycles end in
    `ResolutionError`, never in `RecursionError`. -/
theorem lookup_bounded (f : Nat) (st : St) (E : Env) (name : Text) (vis ivis : List Nat)
    (hE : EnvOK E) (hf : remE vis ivis E < f) :
    (resolveId f st name (flat E) vis ivis).1 ≠ .err .fuel :=
  resolveId_terminates f st E name vis ivis hE hf

/-- … and so does the reference resolver (the spec is not vacuous on the fragment). -/
theorem spec_settles_partial (prog : Expr) (path : List Step) (h : InFragment prog path = true) :
    ∃ M, ∀ fs, M ≤ fs → Settled (specResolve fs prog path) :=
  spec_settles prog path h

/-- C10 inside the fragment, whole traversals, fuels independent: whenever the reference resolver
    settles, the code — given fuel beyond a bound that depends on the input only — agrees with it. -/
theorem resolve_partial_settled (prog : Expr) (path : List Step) (h : InFragment prog path = true) :
    ∃ N, ∀ F fs, N ≤ F → Settled (specResolve fs prog path) →
      agrees (implResolve F prog path) (specResolve fs prog path) = true :=
  Scope.resolve_partial_settled prog path h

/-- C10 inside the fragment, in the shape of `ResolveFull`. -/
theorem resolve_partial (prog : Expr) (path : List Step) (h : InFragment prog path = true) :
    ∃ N, ∀ k, agrees (implResolve (N + k) prog path) (specResolve (N + k) prog path) = true :=
  resolve_partial_fuel prog path h

/-- bounded time and explicit failure inside the fragment: beyond the bound the traversal never ends
    in `RecursionError` -/
theorem resolve_bounded_partial (prog : Expr) (path : List Step) (h : InFragment prog path = true) :
    ∃ N, ∀ k, implResolve (N + k) prog path ≠ .fail .fuel ∧ implResolve (N + k) prog path ≠ .nav .fuel := by
  obtain ⟨N, hN⟩ := resolve_partial prog path h
  refine ⟨N, fun k => ⟨fun hk => ?_, fun hk => ?_⟩⟩
  · have := hN k; rw [hk] at this; cases hs : specResolve (N + k) prog path <;> rw [hs] at this <;> cases this
  · have := hN k; rw [hk] at this; cases hs : specResolve (N + k) prog path <;> rw [hs] at this <;> cases this

/-! ### Non-vacuity: the hypothesis of `resolve_partial` holds of programs with the same name bound
at three and more levels, through let layers, rec and plain sets and inherit clauses. -/

/-- `let a = 1; in { k = rec { a = 2; j = let a = 3; in { x = a; m = { a = 4; y = a; }; };
     z = a; i = { inherit a; }; }; }` -/
def wShadow : Expr :=
  .letE [.bind 10 (nm "a") (.lit 1)]
    (.set 20 false [.bind 21 (nm "k")
      (.set 30 true [
        .bind 31 (nm "a") (.lit 2),
        .bind 32 (nm "j") (.letE [.bind 33 (nm "a") (.lit 3)]
          (.set 40 false [
            .bind 41 (nm "x") (.ref 42 (nm "a")),
            .bind 43 (nm "m") (.set 50 false [.bind 51 (nm "a") (.lit 4), .bind 52 (nm "y") (.ref 53 (nm "a"))])])),
        .bind 34 (nm "z") (.ref 35 (nm "a")),
        .bind 36 (nm "i") (.set 60 false [.inh 61 [nm "a"]])])])

example : InFragment wShadow [key "k", key "j", key "x"] = true := by decide +kernel
example : InFragment wShadow [key "k", key "j", key "m", key "y"] = true := by decide +kernel
example : InFragment wShadow [key "k", key "z"] = true := by decide +kernel
example : InFragment wShadow [key "k", key "i", key "a"] = true := by decide +kernel

/-- innermost let wins over rec set over outer let; a plain set binds nothing; `inherit` in a plain
    set designates the enclosing (rec) scope — on both sides -/
theorem shadowing_examples :
    (∀ n, implResolve (n + 9) wShadow [key "k", key "j", key "x"] = .bound 3 ∧
          specResolve (n + 9) wShadow [key "k", key "j", key "x"] = .bound 3) ∧
    (∀ n, implResolve (n + 9) wShadow [key "k", key "j", key "m", key "y"] = .bound 3 ∧
          specResolve (n + 9) wShadow [key "k", key "j", key "m", key "y"] = .bound 3) ∧
    (∀ n, implResolve (n + 9) wShadow [key "k", key "z"] = .bound 2 ∧
          specResolve (n + 9) wShadow [key "k", key "z"] = .bound 2) ∧
    (∀ n, implResolve (n + 9) wShadow [key "k", key "i", key "a"] = .bound 2 ∧
          specResolve (n + 9) wShadow [key "k", key "i", key "a"] = .bound 2) :=
  ⟨fun _ => ⟨by with_unfolding_all rfl, by with_unfolding_all rfl⟩, fun _ => ⟨by with_unfolding_all rfl, by with_unfolding_all rfl⟩,
    fun _ => ⟨by with_unfolding_all rfl, by with_unfolding_all rfl⟩, fun _ => ⟨by with_unfolding_all rfl, by with_unfolding_all rfl⟩⟩

/-! ### Keys are name tokens: `doc["\"a\""]` and `doc["a"]` reach the same binding

Since the repair f0e98da `AttributeSet.__getitem__` compares what the key and the binding's name token
DENOTE (`_same_attr_name`, `sameName`; `findBindKey` in the model), no longer their spelling; the
scan of `_resolve_identifier` over the scope chain (`Scope.get_binding`, `findBind`) still compares by
spelling. The SPEC `specResolve` takes a key for the attribute's name as the set writes it
(`keyInSet`), so a QUOTED key is no attribute of `{ a = …; }` there: on such a path the code reaches
the binding Nix calls `a` and the two sides differ by the reading of the key, not by scoping. Quoted
keys are therefore outside `InFragment` (`keysBare`); on bare keys and bare names the two comparisons
coincide (`Scope.sameName_of_bare`, `Scope.findBindKey_eq_findBind`), which is what `resolve_partial`
uses. -/

/-- `let b = 1; in { a = b; }` -/
def wBareBinding : Expr :=
  .letE [.bind 10 (nm "b") (.lit 1)] (.set 20 false [.bind 21 (nm "a") (.ref 22 (nm "b"))])
/-- `let b = 1; in { "a" = b; }` -/
def wQuotedBinding : Expr :=
  .letE [.bind 10 (nm "b") (.lit 1)] (.set 20 false [.bind 21 (nm "\"a\"") (.ref 22 (nm "b"))])

/-- a quoted key finds the bare binding and a bare key the quoted binding (the code, both ways), where
    the comparison by spelling finds nothing (the SPEC's reading of the key: no such attribute); the
    quoted key is outside the fragment, the bare key on the bare binding inside -/
theorem quoted_key_finds_bare_binding :
    (∀ n, implResolve (n + 6) wBareBinding [key "\"a\""] = .bound 1) ∧
    (∀ n, implResolve (n + 6) wBareBinding [key "a"] = .bound 1) ∧
    (∀ n, implResolve (n + 6) wQuotedBinding [key "a"] = .bound 1) ∧
    (∀ n, implResolve (n + 6) wQuotedBinding [key "\"a\""] = .bound 1) ∧
    (∀ n, specResolve (n + 6) wBareBinding [key "\"a\""] = .nav .key) ∧
    (∀ n, specResolve (n + 6) wBareBinding [key "a"] = .bound 1) ∧
    agrees (.bound 1) (.nav .key) = false ∧
    InFragment wBareBinding [key "\"a\""] = false ∧ InFragment wBareBinding [key "a"] = true ∧
    InFragment wQuotedBinding [key "a"] = false :=
  ⟨fun _ => by with_unfolding_all rfl, fun _ => by with_unfolding_all rfl, fun _ => by with_unfolding_all rfl, fun _ => by with_unfolding_all rfl, fun _ => by with_unfolding_all rfl, fun _ => by with_unfolding_all rfl,
    by decide +kernel, by decide +kernel, by decide +kernel, by decide +kernel⟩

/-- `doc["\"a\""]` on `{ a = 1; }` and `doc["a"]` on `{ "a" = 1; }` find the binding (its value is no
    identifier: `notIdent`); a name that differs is still a `KeyError`. These two inputs are replayed on
    the real code on every run (harness/props/c10.py `witnesses`). -/
theorem quoted_key_on_literal :
    (∀ n, implResolve (n + 3) (.set 1 false [.bind 2 (nm "a") (.lit 3)]) [key "\"a\""] = .nav .notIdent) ∧
    (∀ n, implResolve (n + 3) (.set 1 false [.bind 2 (nm "\"a\"") (.lit 3)]) [key "a"] = .nav .notIdent) ∧
    (∀ n, implResolve (n + 3) (.set 1 false [.bind 2 (nm "a") (.lit 3)]) [key "\"b\""] = .nav .key) ∧
    (∀ n, specResolve (n + 3) (.set 1 false [.bind 2 (nm "a") (.lit 3)]) [key "\"a\""] = .nav .key) :=
  ⟨fun _ => by with_unfolding_all rfl, fun _ => by with_unfolding_all rfl, fun _ => by with_unfolding_all rfl, fun _ => by with_unfolding_all rfl⟩

/-- the exclusions are real: the witnesses of the `cex_*` theorems are outside the fragment (of the
    three routes of `cex_routes_drop_scopes`, the one through a lambda) -/
theorem witnesses_outside_fragment :
    InFragment wWithLet [key "x"] = false ∧ InFragment wWithEnvRec [key "x"] = false ∧
    InFragment wLetOnIdent [key "x"] = false ∧ InFragment wInhRecKey [key "c"] = false ∧
    InFragment wFormalsLeak [key "x"] = false ∧ InFragment wDocRecDup [key "k", key "x"] = false ∧
    InFragment wLambdaRoute [key "x"] = false ∧ InFragment wLoop [key "a"] = false := by decide +kernel

end Nima.C10
