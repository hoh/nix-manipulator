import NimaVerif.Lemmas.NameAgree
import NimaVerif.Lemmas.EditOps
/-!
# C05 — a successful edit yields exactly the requested attribute change

SPEC: `Model/AttrTree.lean` (`denote`, `specSet`, `specRemove`, `renderedTree`).
The theorems relate `setValue` / `removeValue` of `Model/Edit.lean` to that spec, for every document,
path text and value in the stated class.
-/
namespace Nima.C05
-- name tokens are compared by spelling in this file (see `NameCmp` in Model/Edit.lean)
attribute [local instance] NameCmp.spelled
open Nima Node

/-- "the value now at the path is not a reference": neither an identifier-valued binding nor an
    inherited name. Such values make `set` write through the reference (C11). -/
def NoRefAt (t : AttrTree) (names : List Text) : Prop :=
  ∀ nm, treeAt t names ≠ some (.leaf (.ident nm))

theorem set_plain_refines (d : Doc) (hw : WF d) (p seg : Text) (v : Node)
    (hp : formatNPath currentAnchor p = .ok [seg])
    (hroot : findAttrpathRoot d.target.setValues seg = none)
    (hnoref : NoRefAt (denote d.target) [seg]) :
    ∃ d', setValue p (.one v) d = (.ok (), d') ∧
      specSet (denote d.target) [seg] v = some (denote d'.target) := by
  obtain ⟨c, vs, o, m, r, ht⟩ := (isSet_iff _).mp hw.isSet
  have hfin := finalOK_of_noref d.target d.target [] seg hw.keys rfl hw.isSet hnoref
  obtain ⟨d', e, _, _, hd⟩ := finalSet_denote d.target d.target true [] seg v d hw.ids hw.keys rfl hw.isSet hfin.1 hfin.2
  refine ⟨d', ?_, ?_⟩
  · rw [setValue_unscoped p v d hw.editable (formatNPath_unscoped p _ hp),
      setValueInAttrset_single true v hp hw.isSet hroot, e]
  · rw [hd, ht]; simp [specSet, specSetK, AttrTree.kids]

theorem set_nested_explicit_refines (d : Doc) (hw : WF d) (p : Text) (seg0 seg1 : Text) (rest : List Text) (v : Node)
    (hp : formatNPath currentAnchor p = .ok (seg0 :: seg1 :: rest))
    (hroot : findAttrpathRoot d.target.setValues seg0 = none)
    (hplain : ∀ k ∈ (seg0 :: seg1 :: rest).dropLast, plainKey k = true)
    (hfresh : FreshFor d.target d.next (2 * (rest.length + 1)))
    (hnoref : NoRefAt (denote d.target) (seg0 :: seg1 :: rest))
    (d' : Doc) (hrun : setValue p (.one v) d = (.ok (), d')) :
    specSet (denote d.target) (seg0 :: seg1 :: rest) v = some (denote d'.target) := by
  obtain ⟨c, vs, o, m, r, ht⟩ := (isSet_iff _).mp hw.isSet
  obtain ⟨final, hlast, hsplit⟩ := getLast_split (seg0 :: seg1 :: rest) (by simp)
  rw [setValue_unscoped p v d hw.editable (formatNPath_unscoped p _ hp),
    setValueInAttrset_nested true v hp hw.isSet hroot hlast] at hrun
  have hlen : (seg0 :: seg1 :: rest).dropLast.length = rest.length + 1 := by simp
  generalize (seg0 :: seg1 :: rest).dropLast = init at *
  cases hwk : resolveParentWalk true d.target init d with
  | mk res d1 =>
    cases res with
    | error e => rw [EditM.bind_error _ _ _ _ _ hwk] at hrun; cases hrun
    | ok parent =>
      rw [EditM.bind_ok _ _ _ _ _ hwk] at hrun
      have hinv : Inv d.target d.next (2 * init.length) := ⟨hw.ids, hw.keys, by rw [hlen]; exact hfresh⟩
      have hfin : ∀ par, subAt d.target ([] ++ init) = some par → FinalOK par final := by
        intro par hpar
        cases hs : par.isSet with
        | true =>
          refine finalOK_of_noref d.target par init final hw.keys (by simpa using hpar) hs ?_
          rw [hsplit]; exact hnoref
        | false =>
          have : par.setValues = [] := by cases par <;> simp_all [isSet, setValues]
          exact ⟨fun b hb => by simp [this, findBinding_spelled] at hb, by simp [this, inheritMentions]⟩
      obtain ⟨_, Y, hY, hd⟩ := nested_set_refines d.target true final v _ d d.target [] parent d1 d'
        hinv rfl hw.isSet hplain hfin hwk hrun
      rw [hsplit, ht, denote_set, AttrTree.kids_node] at hY
      rw [hd, ht, graft_nil, denote_set, specSet, hY]
      rfl

theorem rm_plain_refines (d : Doc) (hw : WF d) (p seg : Text)
    (hp : formatNPath currentAnchor p = .ok [seg])
    (hroot : findAttrpathRoot d.target.setValues seg = none)
    (hex : (findBinding d.target.setValues seg).isSome = true) :
    ∃ d', removeValue p d = (.ok (), d') ∧
      specRemove (denote d.target) [seg] false = some (denote d'.target) := by
  obtain ⟨c, vs, o, m, r, ht⟩ := (isSet_iff _).mp hw.isSet
  rw [removeValue_unscoped p d hw.editable (formatNPath_unscoped p _ hp), removeValueInAttrset_single hp hroot]
  cases hf : findBinding d.target.setValues seg with
  | none => simp [hf] at hex
  | some b =>
    obtain ⟨i, ne, val, bf, af, pre, post, rfl, hvs, hpre⟩ := findBinding_split _ _ _ hf
    refine ⟨d.updSet c (delItemFn i), setDelItem_existing d hf rfl (by rw [ht]; rfl), ?_⟩
    rw [ht] at hf
    simp only [Doc.updSet_target]
    rw [denote_del_at d.target hw.ids hw.keys [] c vs o m r (by rw [ht]; rfl) seg _ hf i rfl _ (delItemFn_isDel i),
      ht, graft_nil, denote_set, specRemove, specRemoveK_single,
      if_pos ((Kids.lookup_isSome_iff _ _).mpr (findBinding_key_mem vs seg _ hf))]
    rfl

theorem rm_nested_explicit_refines (d : Doc) (hw : WF d) (p : Text) (seg0 seg1 : Text) (rest : List Text)
    (hp : formatNPath currentAnchor p = .ok (seg0 :: seg1 :: rest))
    (hroot : findAttrpathRoot d.target.setValues seg0 = none)
    (hplain : ∀ k ∈ (seg0 :: seg1 :: rest).dropLast, plainKey k = true)
    (d' : Doc) (hrun : removeValue p d = (.ok (), d')) :
    specRemove (denote d.target) (seg0 :: seg1 :: rest) false = some (denote d'.target) := by
  obtain ⟨c, vs, o, m, r, ht⟩ := (isSet_iff _).mp hw.isSet
  obtain ⟨final, hlast, hsplit⟩ := getLast_split (seg0 :: seg1 :: rest) (by simp)
  rw [removeValue_unscoped p d hw.editable (formatNPath_unscoped p _ hp),
    removeValueInAttrset_nested hp hroot hlast] at hrun
  generalize (seg0 :: seg1 :: rest).dropLast = init at *
  cases hwk : resolveParentWalk false d.target init d with
  | mk res d1 =>
    obtain ⟨e1, e2⟩ := resolveParentWalk_false init _ d res d1 hplain hwk
    subst e1
    cases res with
    | error e => rw [EditM.bind_error _ _ _ _ _ hwk] at hrun; cases hrun
    | ok parent =>
      rw [EditM.bind_ok _ _ _ _ _ hwk] at hrun
      obtain ⟨hsub, hps⟩ := e2 parent rfl
      obtain ⟨pc, pvs, po, pm, pr, rfl⟩ := (isSet_iff parent).mp (hps hw.isSet)
      cases hf : findBinding (Node.set pc pvs po pm pr).setValues final with
      | none => rw [setDelItem_missing _ hf] at hrun; cases hrun
      | some b =>
        obtain ⟨i, ne, val, bf, af, pre, post, rfl, hvs, hpre⟩ := findBinding_split _ _ _ hf
        rw [setDelItem_existing d1 hf rfl rfl] at hrun
        injection hrun with _ hrun
        subst hrun
        simp only [Doc.updSet_target]
        rw [denote_del_at d1.target hw.ids hw.keys init pc pvs po pm pr hsub final _ hf i rfl _ (delItemFn_isDel i)]
        have htp := treeAt_denote init d1.target _ hw.keys hsub
        rw [ht] at htp ⊢
        rw [← hsplit]
        exact specRemove_graft final init _ _ htp
          ((Kids.lookup_isSome_iff _ _).mpr (findBinding_key_mem pvs final _ hf))

theorem set_attrpath_root_refused (d : Doc) (hw : WF d) (p seg : Text) (v : Node)
    (hp : formatNPath currentAnchor p = .ok [seg])
    (hroot : (findAttrpathRoot d.target.setValues seg).isSome = true) :
    setValue p (.one v) d = (.error .value, d) := by
  rw [setValue_unscoped p v d hw.editable (formatNPath_unscoped p _ hp),
    setValueInAttrset_single_root true v hp hw.isSet hroot]
  rfl

theorem set_attrpath_leaf_refines (d : Doc) (hw : WF d) (p : Text) (segs : List Text) (v : Node)
    (hp : formatNPath currentAnchor p = .ok segs)
    (hleaf : (findAttrpathLeaf d.target segs).isSome = true) :
    ∃ d', setValue p (.one v) d = (.ok (), d') ∧
      specSet (denote d.target) segs v = some (denote d'.target) := by
  obtain ⟨c, vs, o, m, r, ht⟩ := (isSet_iff _).mp hw.isSet
  cases hl : findAttrpathLeaf d.target segs with
  | none => simp [hl] at hleaf
  | some leaf =>
    obtain ⟨st, par0, hwalk, hlast⟩ := findAttrpathLeaf_some _ _ _ hl
    obtain ⟨hlen, hch⟩ := walk_chain _ _ _ _ _ hw.keys hw.isSet hwalk
    have hne : segs ≠ [] := by intro e; simp [e] at hlen
    obtain ⟨par, i, final, val, bf, af, h1, h2, h3, h4, h5⟩ := chain_last false segs _ st hne hch hw.isSet
    rw [hlast] at h1
    injection h1 with h1; injection h1 with h1a h1b
    subst h1a h1b
    refine ⟨d.updBind i v, ?_, ?_⟩
    · rw [setValue_unscoped p v d hw.editable (formatNPath_unscoped p _ hp),
        setValueInAttrset_leaf true v hp hw.isSet hl rfl]
      rfl
    · simp only [Doc.updBind_target]
      have htp := treeAt_denote _ d.target _ hw.keys h3
      obtain ⟨pc, pvs, po, pm, pr, rfl⟩ := (isSet_iff par0).mp h4
      rw [denote_updBind_at v segs.dropLast d.target _ final _ i hw.ids hw.keys h3 h5 rfl,
        graft_append _ [final] _ _ _ htp, denote_set, graft_single]
      conv => lhs; rw [h2]
      rw [ht] at htp ⊢
      exact specSet_graft v final _ _ _ htp

theorem set_attrpath_new_refines (d : Doc) (hw : WF d) (p : Text) (seg0 seg1 : Text) (rest : List Text) (v : Node)
    (hp : formatNPath currentAnchor p = .ok (seg0 :: seg1 :: rest))
    (hroot : (findAttrpathRoot d.target.setValues seg0).isSome = true)
    (hleaf : findAttrpathLeaf d.target (seg0 :: seg1 :: rest) = none)
    (hfresh : FreshFor d.target d.next (2 * rest.length))
    (d' : Doc) (hrun : setValue p (.one v) d = (.ok (), d')) :
    specSet (denote d.target) (seg0 :: seg1 :: rest) v = some (denote d'.target) := by
  obtain ⟨c, i, s2, vs2, m2, r2, bf, af, final, cur, d1, _, hfb, hfam2, hsplit, hwk, hfa⟩ :=
    setValue_family_ok d hw p seg0 seg1 rest v hp hroot hleaf d' hrun
  have hst : subAt d.target [seg0] = some (.set s2 vs2 [] m2 r2) := by simp [subAt, stepInto, hfb, bindValue?]
  have hlen : (seg1 :: rest).dropLast.length = rest.length := by simp
  generalize (seg1 :: rest).dropLast = middle at *
  obtain ⟨_, Y, hY, hd⟩ := attr_set_refines c (seg0 :: seg1 :: rest) final v middle d _ [seg0] cur d1 d'
    ⟨hw.ids, hw.keys, by rw [hlen]; exact hfresh⟩ hst rfl hfam2 hwk hfa
  -- on the spec side `set` descends through `seg0` first
  obtain ⟨c', vs, o, m, r, ht⟩ := (isSet_iff _).mp hw.isSet
  have hkeys := hw.keys
  rw [ht] at hfb hkeys
  have hl := lookup_of_findBinding vs seg0 i true _ bf af (by simpa [KeysOK] using hkeys) hfb
  rw [denote_set, AttrTree.kids_node] at hY
  rw [hd, ht, denote_set, graft_single, specSet, ← hsplit,
    specSetK_node v _ _ seg0 (middle ++ [final]) (by simp) hl, hY]
  rfl

theorem rm_attrpath_refines (d : Doc) (hw : WF d) (hcoh : Coh d.target) (p : Text) (segs : List Text)
    (hp : formatNPath currentAnchor p = .ok segs)
    (hleaf : (findAttrpathLeaf d.target segs).isSome = true) :
    ∃ d', removeValue p d = (.ok (), d') ∧
      specRemove (denote d.target) segs true = some (denote d'.target) := by
  obtain ⟨c, vs, o, m, r, ht⟩ := (isSet_iff _).mp hw.isSet
  cases hl : findAttrpathLeaf d.target segs with
  | none => simp [hl] at hleaf
  | some leaf =>
    obtain ⟨st, par0, hwalk, hlast⟩ := findAttrpathLeaf_some _ _ _ hl
    obtain ⟨hlen, hch⟩ := walk_chain _ _ _ _ _ hw.keys hw.isSet hwalk
    have hne : segs ≠ [] := by intro e; simp [e] at hlen
    obtain ⟨par, lid, final, val, bf, af, h1, h2, h3, h4, h5⟩ := chain_last false segs _ st hne hch hw.isSet
    rw [hlast] at h1
    injection h1 with h1; injection h1 with h1a h1b
    subst h1a h1b
    obtain ⟨tr, htl, hloc, hsti⟩ := chain_ids segs d.target st hne hch hw.isSet hw.fam
    obtain ⟨pc, pvs, po, pm, pr, rfl⟩ := (isSet_iff par0).mp h4
    simp only [setValues] at h5
    -- the state after the two removals
    have hT1 := denote_del_at d.target hw.ids hw.keys segs.dropLast pc pvs po pm pr h3 final _ h5 lid rfl _
      (eraseV_isDel lid)
    obtain ⟨htp, hpn⟩ := located d.target hw.keys _ _ _ _ _ _ h3
    generalize hd2 : ((d.updSet pc (eraseV lid)).updSet c (eraseEntryFn lid)) = d2
    have ht2 : d2.target = updSet c (eraseEntryFn lid) (updSet pc (eraseV lid) d.target) := by rw [← hd2]; rfl
    have hden2 : denote d2.target =
        graft segs.dropLast (.node (Kids.erase final (denoteL pvs))) (denote d.target) := by
      rw [ht2, (denote_updSet_orderOnly c _ (eraseEntryFn_orderOnly lid) _).1, hT1]
    have hsetT1 : (updSet pc (eraseV lid) d.target).isSet = true :=
      isSet_updSet_shrinks pc _ (eraseV_shrinks lid) _ hw.isSet
    obtain ⟨c1, vs1, o1, m1, r1, hT1e⟩ := (isSet_iff _).mp hsetT1
    have hc1 : c = c1 := by
      have := setSid_updSet_shrinks pc _ (eraseV_shrinks lid) d.target
      rw [hT1e, ht] at this; simpa [setSid?] using this.symm
    subst hc1
    have hloc2 : Loc d2.target segs.dropLast tr := by
      have hl1 := Loc_updSet_end pc _ (eraseV_shrinks lid) segs.dropLast d.target _ tr hw.ids hloc h3 rfl
      rw [ht2, hT1e]
      rw [hT1e] at hl1
      refine Loc_top_congr _ _ _ _ ?_ ?_ hl1
      · simp [updSet, eraseEntryFn, setSid?]
      · simp [updSet, eraseEntryFn, setValues]
    obtain ⟨d', e1, _, _, hd'⟩ := prune_loop st.dropLast.reverse tr.reverse segs.dropLast d2 hsti
      (by simp [htl])
      (by rw [ht2]; exact (hw.ids.sublist (vIds_updSet_shrinks pc _ (eraseV_shrinks lid) _)).sublist
            (vIds_updSet_shrinks c _ (eraseEntryFn_shrinks lid) _))
      (by unfold KeysOK; rw [hden2]
          exact nodup_graft _ _ _ _ htp hw.keys (by simpa using AttrTree.nodupL_erase final _ hpn))
      (by rw [ht2]; exact coh_updSet c _ (eraseEntryFn_shrinks lid) _ (coh_updSet pc _ (eraseV_shrinks lid) _ hcoh))
      (by rw [← hd2]; simp [Doc.updSet, hw.scratch])
      (by rw [ht2]; exact isSet_updSet_shrinks c _ (eraseEntryFn_shrinks lid) _ hsetT1)
      (by simpa using hloc2)
    refine ⟨d', ?_, ?_⟩
    · rw [removeValue_unscoped p d hw.editable (formatNPath_unscoped p _ hp),
        removeValueInAttrset_leaf hp hleaf,
        removeAttrpathValue_eq d.target segs st _ _ c pc lid d (walk_rr _ _ _ _ hwalk) hlast
          (by rw [ht]; rfl) rfl rfl, hd2]
      exact e1
    · rw [hd', hden2, ht]
      rw [ht] at htp
      simp only [denote_set] at htp ⊢
      conv => lhs; rw [h2]
      simp only [specRemove]
      rw [specRemoveK_prune final segs.dropLast _ _ htp (by
        rw [lookup_of_findBinding pvs final lid false val bf af hpn h5]; rfl)]
      rfl

theorem set_fresh_goes_last (d : Doc) (hw : WF d) (p seg : Text) (v : Node)
    (hp : formatNPath currentAnchor p = .ok [seg])
    (hroot : findAttrpathRoot d.target.setValues seg = none)
    (hnew : seg ∉ Kids.keys (denote d.target).kids) :
    ∃ d', setValue p (.one v) d = (.ok (), d') ∧
      d'.target.setValues = d.target.setValues ++ [.bind d.next seg false v [] []] ∧
      d'.target.setOrder = (if d.target.setOrder.isEmpty then []
        else d.target.setOrder ++ [.bind d.next seg false v [] []]) ∧
      (denote d'.target).kids = (denote d.target).kids ++ [(seg, denote v)] := by
  obtain ⟨c, vs, o, m, r, ht⟩ := (isSet_iff _).mp hw.isSet
  rw [ht] at hroot hnew
  simp only [denote_set, AttrTree.kids_node] at hnew
  have hnone : findBinding (Node.set c vs o m r).setValues seg = none := by
    cases hf : findBinding (Node.set c vs o m r).setValues seg with
    | none => rfl
    | some b => exact absurd (findBinding_key_mem vs seg b hf) hnew
  obtain ⟨d', e, _, _, htd⟩ := setSetItem_fresh (Node.set c vs o m r) seg v c d hnone rfl
  refine ⟨d', ?_, ?_⟩
  · rw [setValue_unscoped p v d hw.editable (formatNPath_unscoped p _ hp),
      setValueInAttrset_single true v hp hw.isSet (by rw [ht]; exact hroot), finalSet, ht, hnone]
    exact e
  · rw [htd, ht]
    simp only [updSet, if_true, Function.comp, appendValueFn, appendOrderFn, setValues, setOrder]
    cases o with
    | nil => simp
    | cons a b => simp

/-- A new leaf under an attrpath root is written in attrpath form: an `_AttrpathEntry` for the whole path
    is appended to the target's `attrpath_order` — iff that order is in use (non-empty). -/
theorem set_attrpath_entry_appended (d : Doc) (hw : WF d) (p : Text) (seg0 seg1 : Text) (rest : List Text) (v : Node)
    (hp : formatNPath currentAnchor p = .ok (seg0 :: seg1 :: rest))
    (hroot : (findAttrpathRoot d.target.setValues seg0).isSome = true)
    (hnew : treeAt (denote d.target) (seg0 :: seg1 :: rest) = none)
    (d' : Doc) (hrun : setValue p (.one v) d = (.ok (), d')) :
    ∃ bid final, (seg0 :: seg1 :: rest).getLast? = some final ∧
      d'.target.setOrder.length =
        (if d.target.setOrder.isEmpty then 0 else d.target.setOrder.length + 1) ∧
      (d.target.setOrder.isEmpty = false →
        d'.target.setOrder.getLast? =
          some (.entry (seg0 :: seg1 :: rest) (.bind bid final false v [] []) none none)) := by
  have hleaf : findAttrpathLeaf d.target (seg0 :: seg1 :: rest) = none := by
    cases hl : findAttrpathLeaf d.target (seg0 :: seg1 :: rest) with
    | none => rfl
    | some leaf =>
      obtain ⟨t, ht⟩ := findAttrpathLeaf_treeAt d.target hw.keys hw.isSet _ leaf hl
      rw [ht] at hnew; cases hnew
  obtain ⟨c, i, s2, vs2, m2, r2, bf, af, final, cur, d1, hc, hfb, _, hsplit, hwk, hfa⟩ :=
    setValue_family_ok d hw p seg0 seg1 rest v hp hroot hleaf d' hrun
  have hst : subAt d.target [seg0] = some (.set s2 vs2 [] m2 r2) := by simp [subAt, stepInto, hfb, bindValue?]
  have hrvn := nodup_treeAt _ _ _ (treeAt_denote _ d.target _ hw.keys hst) hw.keys
  obtain ⟨hcs, hsid1, hlen1⟩ := setAttrpathWalk_ok _ _ d d1 cur rfl hwk
  obtain ⟨cc, cvs, co, cm, cr, rfl⟩ := (isSet_iff cur).mp hcs
  rcases finalAttr_run _ _ _ _ _ _ _ _ _ _ _ _ hfa with ⟨h, _⟩ | ⟨bi, bval, bbf, baf, hbm, _, _⟩ | ⟨_, _, rfl⟩
  · cases h
  · -- an explicit binding `final` where the loop ended would be read by Nix at the path
    exfalso
    rcases setAttrpathWalk_origin _ _ d d1 _ rfl hrvn hwk with he | ⟨_, hsub⟩
    · rw [setValues] at he; rw [he] at hbm; cases hbm
    · have hsubT : subAt d.target ([seg0] ++ (seg1 :: rest).dropLast) = some (.set cc cvs co cm cr) := by
        rw [subAt_append, hst]; exact hsub
      have hn := nodup_treeAt _ _ _ (treeAt_denote _ d.target _ hw.keys hsubT) hw.keys
      rw [denote_set, AttrTree.nodup_node] at hn
      have := treeAt_of_findBinding d.target hw.keys _ _ hsubT rfl final bi false bval bbf baf
        (findBinding_of_mem cvs final bi false bval bbf baf hn hbm)
      rw [List.append_assoc, hsplit, List.singleton_append, hnew] at this
      cases this
  · -- the new leaf: `values.append` somewhere below the target, then the entry on the target's own order
    refine ⟨d1.next, final, by rw [List.getLast?_cons_cons, ← hsplit, List.getLast?_concat], ?_⟩
    obtain ⟨hsid2, hlen2⟩ := shape_updSet_appendValueFn cc (.bind d1.next final false v [] []) d1.target
    simp only [Doc.updSet_target]
    rw [setOrder_updSet_appendOrderFn c _ _ (hsid2.trans (hsid1.trans hc))]
    have hlen := hlen2.trans hlen1
    generalize (updSet cc (appendValueFn (.bind d1.next final false v [] [])) d1.target).setOrder = o2 at hlen ⊢
    generalize d.target.setOrder = o at hlen ⊢
    cases o2 with
    | nil => cases o with
      | nil => simp
      | cons a b => cases hlen
    | cons a2 b2 => cases o with
      | nil => cases hlen
      | cons a b => simp [getLast_cons_snoc, ← hlen]

/-- SPEC sanity: `set` keeps attribute names unique -/
theorem specSet_nodup (t t' : AttrTree) (names : List Text) (v : Node) (ht : t.nodup = true)
    (hv : (denote v).nodup = true) (h : specSet t names v = some t') : t'.nodup = true := by
  cases t with
  | leaf x => simp [specSet] at h
  | node kids =>
    simp only [specSet, Option.map_eq_some_iff] at h
    obtain ⟨k', hk, rfl⟩ := h
    simpa using specSetK_nodup v hv names kids k' (by simpa using ht) hk

/-- SPEC sanity: `rm` keeps attribute names unique -/
theorem specRemove_nodup (t t' : AttrTree) (names : List Text) (prune : Bool) (ht : t.nodup = true)
    (h : specRemove t names prune = some t') : t'.nodup = true := by
  cases t with
  | leaf x => simp [specRemove] at h
  | node kids =>
    simp only [specRemove, Option.map_eq_some_iff] at h
    obtain ⟨k', hk, rfl⟩ := h
    simpa using specRemoveK_nodup prune names kids k' (by simpa using ht) hk

/-- Names stay unique across every successful edit the refinement theorems cover (one clause of `WF`). -/
theorem keys_preserved (t : Node) (t' : Node) (hk : KeysOK t)
    (h : (∃ names v, (denote v).nodup = true ∧ specSet (denote t) names v = some (denote t')) ∨
         (∃ names prune, specRemove (denote t) names prune = some (denote t'))) : KeysOK t' := by
  rcases h with ⟨names, v, hv, h⟩ | ⟨names, prune, h⟩
  · exact specSet_nodup _ _ names v hk hv h
  · exact specRemove_nodup _ _ names prune hk h

/-! ## What the text shows

`renderedTree` reads the items `AttributeSet.rebuild` renders (`attrpath_order` when non-empty, `values`
otherwise). Where it equals `denote`, the refinement theorems above speak about the text as well. -/

/-- For sets that do not use `attrpath_order` (built through the API) and whose attrpath families are
    non-empty and hold only bindings, the rendered attributes are exactly what `denote` reads. -/
theorem rendered_eq_denote_values (n : Node) (h : valuesMode n = true) : renderedTree n = denote n :=
  (rendered_eq_denote_aux n h).1

/-! ## Counterexamples (open known findings) -/

private def A (s : String) : Node := .atom s.toList

/-- `{ b = { a.p = 1; a.q = 2; }; }` exactly as the parser builds it: the nested set `b` holds the merged
    attrpath root `a` (`nested = true`) in `values` and two `_AttrpathEntry` items in `attrpath_order`. -/
def docNestedFamily : Doc :=
  let leafP : Node := .bind 5 "p".toList false (A "1") [] []
  let leafQ : Node := .bind 6 "q".toList false (A "2") [] []
  let famA : Node := .bind 3 "a".toList true (.set 4 [leafP, leafQ] [] true false) [] []
  let setB : Node := .set 2 [famA]
    [.entry ["a".toList, "p".toList] leafP (some []) (some []),
     .entry ["a".toList, "q".toList] leafQ (some []) (some [])] true false
  let bindB : Node := .bind 1 "b".toList false setB [] []
  { target := .set 0 [bindB] [bindB] true false, next := 7 }

theorem docNestedFamily_wf : WF docNestedFamily :=
  ⟨rfl, rfl, by decide, by decide, rfl, rfl⟩

/-- FULL statement "what the text shows follows what Nix is meant to read": false of the code. -/
def rendered_follows_full : Prop :=
  ∀ (d : Doc) (p : Text) (d' : Doc), WF d → renderedTree d.target = denote d.target →
    removeValue p d = (.ok (), d') → renderedTree d'.target = denote d'.target

/-- Open finding C05-nested-attrpath-family: `rm b.a.p` succeeds, `values` change as specified, but the
    nested set still renders its (unchanged) `attrpath_order`: the text is what it was. -/
theorem cex_nested_family :
    let d := docNestedFamily
    let d' := (removeValue "b.a.p".toList d).2
    (removeValue "b.a.p".toList d).1 = .ok () ∧
    specRemove (denote d.target) ["b".toList, "a".toList, "p".toList] false = some (denote d'.target) ∧
    renderedTree d.target = denote d.target ∧
    renderedTree d'.target = renderedTree d.target ∧
    renderedTree d'.target ≠ denote d'.target := by
  have h1 : (removeValue "b.a.p".toList docNestedFamily).1 = .ok () := by decide +kernel
  -- the state after the removal: `p` is gone from the `values` of `a`, not from the `attrpath_order` of `b`
  have hT : (removeValue "b.a.p".toList docNestedFamily).2.target =
      (let leafP : Node := .bind 5 "p".toList false (A "1") [] []
       let leafQ : Node := .bind 6 "q".toList false (A "2") [] []
       let famA : Node := .bind 3 "a".toList true (.set 4 [leafQ] [] true false) [] []
       let setB : Node := .set 2 [famA]
         [.entry ["a".toList, "p".toList] leafP (some []) (some []),
          .entry ["a".toList, "q".toList] leafQ (some []) (some [])] true false
       let bindB : Node := .bind 1 "b".toList false setB [] []
       .set 0 [bindB] [bindB] true false) := rfl
  -- what the text shows afterwards, and what Nix is meant to read
  have e1 : renderedTree (removeValue "b.a.p".toList docNestedFamily).2.target =
      .node [("b".toList, .node [("a".toList, .node [("p".toList, .leaf (A "1")), ("q".toList, .leaf (A "2"))])])] := by
    rw [hT]; rfl
  have e2 : denote (removeValue "b.a.p".toList docNestedFamily).2.target =
      .node [("b".toList, .node [("a".toList, .node [("q".toList, .leaf (A "2"))])])] := by
    rw [hT]; rfl
  refine ⟨h1, ?_, rfl, e1.trans rfl, ?_⟩
  · exact Eq.trans rfl (congrArg some e2.symm)
  · rw [e1, e2]; simp

theorem cex_rendered_follows : ¬ rendered_follows_full := fun h =>
  cex_nested_family.2.2.2.2 <|
    h docNestedFamily "b.a.p".toList (removeValue "b.a.p".toList docNestedFamily).2 docNestedFamily_wf
      cex_nested_family.2.2.1 (EditM.eq_ok_snd cex_nested_family.1)

/-- `{ inherit v; }` -/
def docInherit : Doc :=
  let inh : Node := .inherit 1 ["v".toList]
  { target := .set 0 [inh] [inh] true false, next := 2 }

theorem docInherit_wf : WF docInherit := ⟨rfl, rfl, by decide, by decide, rfl, rfl⟩

/-- FULL statement of `set_plain_refines`, excluding only identifier-valued *bindings*: false. -/
def set_plain_full : Prop :=
  ∀ (d : Doc) (p seg : Text) (v : Node), WF d → formatNPath currentAnchor p = .ok [seg] →
    findAttrpathRoot d.target.setValues seg = none →
    (∀ b, findBinding d.target.setValues seg = some b → ∀ val, b.bindValue? = some val → isIdentNode val = false) →
    ∃ d', setValue p (.one v) d = (.ok (), d') ∧ specSet (denote d.target) [seg] v = some (denote d'.target)

/-- Open finding C05-inherit-duplicate: `set v 7` on `{ inherit v; }` appends a binding next
    to the inherit clause; the result defines `v` twice. -/
theorem cex_inherit_duplicate :
    let d' := (setValue "v".toList (.one (A "7")) docInherit).2
    (setValue "v".toList (.one (A "7")) docInherit).1 = .ok () ∧
    (denote d'.target).nodup = false ∧
    specSet (denote docInherit.target) ["v".toList] (A "7") ≠ some (denote d'.target) := by
  have h2 : (denote (setValue "v".toList (.one (A "7")) docInherit).2.target).nodup = false := by
    decide +kernel
  refine ⟨by decide +kernel, h2, fun h => ?_⟩
  -- `specSet` keeps names unique
  have h3 := specSet_nodup _ _ _ _ (by decide +kernel) (by decide +kernel) h
  exact Bool.false_ne_true (h2.symm.trans h3)

theorem cex_set_plain_full : ¬ set_plain_full := by
  intro h
  obtain ⟨d', e, hs⟩ := h docInherit "v".toList "v".toList (A "7") docInherit_wf (by decide +kernel)
    (by decide +kernel) (fun b hb => by cases (show (none : Option Node) = some b from hb))
  have : d' = (setValue "v".toList (.one (A "7")) docInherit).2 := by rw [e]
  rw [this] at hs
  exact cex_inherit_duplicate.2.2 hs

/-! ## The refusal clause -/

inductive Op where | set | rm
deriving DecidableEq

/-- The documented reasons for which `set` / `rm` refuse an editable document, a well-formed path and a
    well-formed value. Nothing here mentions the wrappers around the target set. -/
inductive DocumentedReason (d : Doc) (op : Op) (segs : List Text) : Err → Prop
  /-- `rm` of a key that no binding defines (KeyError) -/
  | rmMissingKey : op = .rm → bindAt d.target segs = none → DocumentedReason d op segs .key
  /-- a value on the way is not an attribute set (ValueError) -/
  | nonSetOnPath (j : Nat) (lf : Node) : 0 < j → j < segs.length →
      treeAt (denote d.target) (segs.take j) = some (.leaf lf) → DocumentedReason d op segs .value
  /-- the path starts at an attrpath root: overwriting / removing the root as a whole, or an explicit
      binding mixed into the attrpath family (ValueError; KeyError for `rm`) -/
  | attrpathFamily (e : Err) : (findAttrpathRoot d.target.setValues (segs.headD [])).isSome = true →
      (e = .value ∨ (op = .rm ∧ e = .key)) → DocumentedReason d op segs e
  /-- `@…@name` asks for more enclosing `let` layers than the document has (ValueError) -/
  | missingScopeLayer (depth : Nat) : depth > (collectScopeLayers d).length → DocumentedReason d op segs .value

/-- `set` refuses an editable document only for a documented reason. -/
theorem refusal_set (d : Doc) (hw : WF d) (p : Text) (segs : List Text) (v : Node)
    (hp : formatNPath currentAnchor p = .ok segs) (hplain : ∀ k ∈ segs.dropLast, plainKey k = true)
    (e : Err) (d' : Doc) (hrun : setValue p (.one v) d = (.error e, d')) :
    DocumentedReason d .set segs e := by
  cases hl : findAttrpathLeaf d.target segs with
  | some leaf =>
    obtain ⟨d2, e2, _⟩ := set_attrpath_leaf_refines d hw p segs v hp (by rw [hl]; rfl)
    rw [e2] at hrun; cases hrun
  | none =>
  rw [setValue_unscoped p v d hw.editable (formatNPath_unscoped p _ hp)] at hrun
  cases segs with
  | nil => exact absurd rfl (formatNPath_ne_nil p _ hp)
  | cons seg0 rest =>
  cases hr : findAttrpathRoot d.target.setValues seg0 with
  | some root =>
    -- under an attrpath root every refusal is a ValueError
    refine .attrpathFamily e (by simp [hr]) (Or.inl ?_)
    cases rest with
    | nil =>
      rw [setValueInAttrset_single_root true v hp hw.isSet (by rw [hr]; rfl)] at hrun
      exact EditM.throw_eq_error hrun
    | cons seg1 rest2 =>
      obtain ⟨c, vs, o, m, r, ht⟩ := (isSet_iff _).mp hw.isSet
      rw [setValueInAttrset_family true v hp (by rw [ht]; rfl) hl hr] at hrun
      by_cases hv : ∃ s vs o m r, root.bindValue? = some (.set s vs o m r)
      · obtain ⟨s2, vs2, o2, m2, r2, hv⟩ := hv
        obtain ⟨final, hlast, _⟩ := getLast_split (seg1 :: rest2) (by simp)
        rw [setAttrpathValue_set c v hv hlast] at hrun
        rcases setAttrpathWalk_res (seg1 :: rest2).dropLast (.set s2 vs2 o2 m2 r2) d rfl with
          ⟨cur, d1, ew, hcs, _⟩ | ⟨d1, ew⟩
        · rw [EditM.bind_ok _ _ _ _ _ ew] at hrun
          obtain ⟨cc, cvs, co, cm, cr, rfl⟩ := (isSet_iff cur).mp hcs
          rcases finalAttr_run _ _ _ _ _ _ _ _ _ _ _ _ hrun with ⟨h, _⟩ | ⟨_, _, _, _, _, h, _⟩ | ⟨_, h, _⟩
          · injection h
          · cases h
          · cases h
        · rw [EditM.bind_error _ _ _ _ _ ew] at hrun
          injection hrun with h _; injection h with h; exact h.symm
      · rw [setAttrpathValue_nonset c _ v hv] at hrun
        exact EditM.throw_eq_error hrun
  | none =>
    cases rest with
    | nil =>
      exfalso
      rw [setValueInAttrset_single true v hp hw.isSet hr] at hrun
      obtain ⟨d2, e2⟩ := finalSet_ok d.target d.target true seg0 v d hw.isSet
      rw [e2] at hrun; cases hrun
    | cons seg1 rest2 =>
      obtain ⟨final, hlast, _⟩ := getLast_split (seg0 :: seg1 :: rest2) (by simp)
      rw [setValueInAttrset_nested true v hp hw.isSet hr hlast] at hrun
      cases hwk : resolveParentWalk true d.target (seg0 :: seg1 :: rest2).dropLast d with
      | mk res d1 =>
        cases res with
        | error e1 =>
          rw [EditM.bind_error _ _ _ _ _ hwk] at hrun
          injection hrun with h1 _; injection h1 with h1; subst h1
          rcases resolveParentWalk_dropLast_fail true _ _ d d1 e1 hplain hw.isSet hw.keys hwk with
            ⟨rfl, j, lf, hj0, hj, htr⟩ | ⟨hc, _⟩
          · exact .nonSetOnPath j lf hj0 hj htr
          · cases hc
        | ok parent =>
          exfalso
          rw [EditM.bind_ok _ _ _ _ _ hwk] at hrun
          obtain ⟨d2, e2⟩ := finalSet_ok d.target parent true final v d1
            (resolveParentWalk_isSet true _ _ d d1 parent hw.isSet hwk)
          rw [e2] at hrun; cases hrun

/-- `rm` refuses an editable document only for a documented reason. -/
theorem refusal_rm (d : Doc) (hw : WF d) (hcoh : Coh d.target) (p : Text) (segs : List Text)
    (hp : formatNPath currentAnchor p = .ok segs) (hplain : ∀ k ∈ segs.dropLast, plainKey k = true)
    (e : Err) (d' : Doc) (hrun : removeValue p d = (.error e, d')) :
    DocumentedReason d .rm segs e := by
  cases hl : (findAttrpathLeaf d.target segs).isSome with
  | true =>
    obtain ⟨d2, e2, _⟩ := rm_attrpath_refines d hw hcoh p segs hp hl
    rw [e2] at hrun; cases hrun
  | false =>
  rw [removeValue_unscoped p d hw.editable (formatNPath_unscoped p _ hp)] at hrun
  cases segs with
  | nil => exact absurd rfl (formatNPath_ne_nil p _ hp)
  | cons seg0 rest =>
  cases hr : findAttrpathRoot d.target.setValues seg0 with
  | some root =>
    refine .attrpathFamily e (by simp [hr]) ?_
    cases rest with
    | nil =>
      rw [removeValueInAttrset_single_root hp (by rw [hr]; rfl)] at hrun
      exact Or.inr ⟨rfl, EditM.throw_eq_error hrun⟩
    | cons seg1 rest2 =>
      rw [removeValueInAttrset_family hp (by rw [hr]; rfl)] at hrun
      unfold removeAttrpathValue at hrun
      rcases walk_true_res d.target (seg0 :: seg1 :: rest2) false with ⟨st, h1, h2⟩ | ⟨h1, _⟩ | ⟨h1, _⟩
      · -- a stack would have given a leaf
        exfalso
        obtain ⟨_, hch⟩ := walk_chain _ _ _ _ _ hw.keys hw.isSet h2
        obtain ⟨par, i, final, val, bf, af, g1, _⟩ := chain_last false _ _ st (by simp) hch hw.isSet
        simp [findAttrpathLeaf, h2, g1] at hl
      · rw [h1] at hrun
        exact Or.inr ⟨rfl, EditM.throw_eq_error hrun⟩
      · rw [h1] at hrun
        exact Or.inl (EditM.throw_eq_error hrun)
  | none =>
    cases rest with
    | nil =>
      rw [removeValueInAttrset_single hp hr] at hrun
      cases hf : findBinding d.target.setValues seg0 with
      | some b =>
        exfalso
        obtain ⟨i, ne, val, bf, af, _, _, rfl, _, _⟩ := findBinding_split _ _ _ hf
        obtain ⟨c, vs, o, m, r, ht⟩ := (isSet_iff _).mp hw.isSet
        rw [setDelItem_existing d hf rfl (by rw [ht]; rfl)] at hrun
        cases hrun
      | none =>
        rw [setDelItem_missing _ hf] at hrun
        injection hrun with h1 _; injection h1 with h1; subst h1
        exact .rmMissingKey rfl hf
    | cons seg1 rest2 =>
      obtain ⟨final, hlast, hsplit⟩ := getLast_split (seg0 :: seg1 :: rest2) (by simp)
      rw [removeValueInAttrset_nested hp hr hlast] at hrun
      cases hwk : resolveParentWalk false d.target (seg0 :: seg1 :: rest2).dropLast d with
      | mk res d1 =>
        cases res with
        | error e1 =>
          rw [EditM.bind_error _ _ _ _ _ hwk] at hrun
          injection hrun with h1 _; injection h1 with h1; subst h1
          rcases resolveParentWalk_dropLast_fail false _ _ d d1 e1 hplain hw.isSet hw.keys hwk with
            ⟨rfl, j, lf, hj0, hj, htr⟩ | ⟨_, rfl, hb⟩
          · exact .nonSetOnPath j lf hj0 hj htr
          · exact .rmMissingKey rfl (by rw [← hsplit]; exact hb final)
        | ok parent =>
          rw [EditM.bind_ok _ _ _ _ _ hwk] at hrun
          obtain ⟨_, e2⟩ := resolveParentWalk_false _ _ d (.ok parent) d1 hplain hwk
          obtain ⟨hsub, hps⟩ := e2 parent rfl
          cases hf : findBinding parent.setValues final with
          | some b =>
            exfalso
            obtain ⟨i, ne, val, bf, af, _, _, rfl, _, _⟩ := findBinding_split _ _ _ hf
            obtain ⟨pc, pvs, po, pm, pr, rfl⟩ := (isSet_iff parent).mp (hps hw.isSet)
            rw [setDelItem_existing d1 hf rfl rfl] at hrun
            cases hrun
          | none =>
            rw [setDelItem_missing _ hf] at hrun
            injection hrun with h1 _; injection h1 with h1; subst h1
            exact .rmMissingKey rfl (by rw [← hsplit, bindAt_snoc _ final _ parent hsub]; exact hf)

/-- A scope selector that reaches beyond the outermost `let` layer is refused (and the only layer `set`
    creates by itself is the first one of a document that has none). -/
theorem refusal_scope_set (d : Doc) (hed : d.noTarget = none) (p rest : Text) (depth : Nat) (v : Node)
    (hs : splitScopeNpath p = .ok (some (depth, rest)))
    (hnc : ¬ ((collectScopeLayers d).isEmpty = true ∧ depth = 1))
    (hd : depth > (collectScopeLayers d).length) (segs : List Text) :
    setValue p (.one v) d = (.error .value, d) ∧ DocumentedReason d .set segs .value := by
  refine ⟨?_, .missingScopeLayer depth hd⟩
  have hnc' : ((collectScopeLayers d).isEmpty && depth == 1) = false := by
    cases h1 : (collectScopeLayers d).isEmpty <;> cases h2 : (depth == 1) <;> simp_all
  rw [setValue_one, dispatch_eq, route_of_layer hed hs]
  simp only [setScoped, hnc', Bool.false_eq_true, if_false, hd, if_true]

theorem refusal_scope_rm (d : Doc) (hed : d.noTarget = none) (p rest : Text) (depth : Nat)
    (hs : splitScopeNpath p = .ok (some (depth, rest)))
    (hd : depth > (collectScopeLayers d).length) (segs : List Text) :
    removeValue p d = (.error .value, d) ∧ DocumentedReason d .rm segs .value := by
  refine ⟨?_, .missingScopeLayer depth hd⟩
  rw [removeValue_eq, dispatch_eq, route_of_layer hed hs]
  simp only [removeScoped, hd, if_true]

/-! ## Non-vacuity: a document with an explicit binding, an explicit nested set and a top-level attrpath
family meets the hypotheses of every theorem above. -/

/-- `{ a = 1; b = { c = 2; }; x.y = 3; }` as the parser builds it -/
def docEx : Doc :=
  let leafY : Node := .bind 8 "y".toList false (.atom "3".toList) [] []
  let famX : Node := .bind 6 "x".toList true (.set 7 [leafY] [] true false) [] []
  let bindC : Node := .bind 5 "c".toList false (.atom "2".toList) [] []
  let bindB : Node := .bind 3 "b".toList false (.set 4 [bindC] [bindC] false false) [] []
  let bindA : Node := .bind 2 "a".toList false (.atom "1".toList) [] []
  { target := .set 1 [bindA, bindB, famX]
      [bindA, bindB, .entry ["x".toList, "y".toList] leafY (some []) (some [])] true false, next := 9 }

theorem docEx_wf : WF docEx := ⟨rfl, rfl, by decide, by decide, rfl, rfl⟩

theorem docEx_coh : Coh docEx.target := by
  intro a ha b hb h
  simp only [docEx, occS, occSL, List.mem_cons, List.mem_append, List.not_mem_nil, or_false,
    List.append_nil, List.nil_append] at ha hb
  rcases ha with rfl | (rfl | rfl) | rfl <;> rcases hb with rfl | (rfl | rfl) | rfl <;>
    first | rfl | (simp [setSid?] at h)

example : ∃ d', setValue "a".toList (.one (.atom "5".toList)) docEx = (.ok (), d') ∧
    specSet (denote docEx.target) ["a".toList] (.atom "5".toList) = some (denote d'.target) :=
  set_plain_refines docEx docEx_wf "a".toList "a".toList _ (by decide +kernel) (by decide +kernel) (by
    intro nm h
    have h' : some (AttrTree.leaf (.atom "1".toList)) = some (AttrTree.leaf (.ident nm)) := h
    cases h')

example : (setValue "b.e".toList (.one (.atom "5".toList)) docEx).1 = .ok () := by decide +kernel
example : ∀ d', setValue "b.d.e".toList (.one (.atom "5".toList)) docEx = (.ok (), d') →
    specSet (denote docEx.target) ["b".toList, "d".toList, "e".toList] (.atom "5".toList) =
    some (denote d'.target) :=
  set_nested_explicit_refines docEx docEx_wf "b.d.e".toList "b".toList "d".toList ["e".toList] _ (by decide +kernel) (by decide +kernel)
    (by intro k hk; simp at hk; rcases hk with rfl | rfl <;> exact plainKey_ident _ (by decide))
    (by decide +kernel)
    (by intro nm h; cases (h : (none : Option AttrTree) = some _))

example : (setValue "x.z".toList (.one (.atom "5".toList)) docEx).1 = .ok () := by decide +kernel
example : ∀ d', setValue "x.z".toList (.one (.atom "5".toList)) docEx = (.ok (), d') →
    specSet (denote docEx.target) ["x".toList, "z".toList] (.atom "5".toList) = some (denote d'.target) :=
  set_attrpath_new_refines docEx docEx_wf "x.z".toList "x".toList "z".toList [] _ (by decide +kernel) (by decide +kernel) (by decide +kernel) (by decide +kernel)

example : ∃ d', removeValue "x.y".toList docEx = (.ok (), d') ∧
    specRemove (denote docEx.target) ["x".toList, "y".toList] true = some (denote d'.target) :=
  rm_attrpath_refines docEx docEx_wf docEx_coh "x.y".toList ["x".toList, "y".toList] (by decide +kernel) (by decide +kernel)

example : (removeValue "b.c".toList docEx).1 = .ok () := by decide +kernel
example : ∀ d', removeValue "b.c".toList docEx = (.ok (), d') →
    specRemove (denote docEx.target) ["b".toList, "c".toList] false = some (denote d'.target) :=
  rm_nested_explicit_refines docEx docEx_wf "b.c".toList "b".toList "c".toList [] (by decide +kernel) (by decide +kernel)
    (by intro k hk; simp at hk; subst hk; exact plainKey_ident _ (by decide))

/-- pruning really happens: removing the only leaf of `x` removes `x`; removing the only binding of the
    explicit set `b` leaves `b = { }` -/
example : (denote (removeValue "x.y".toList docEx).2.target).kids.map (·.1) = ["a".toList, "b".toList] := by
  decide +kernel
example : (denote (removeValue "b.c".toList docEx).2.target).kids.map (·.1) =
    ["a".toList, "b".toList, "x".toList] := by decide +kernel

/-- a refusal and its documented reason -/
example : (setValue "a.q".toList (.one (.atom "5".toList)) docEx).1 = .error .value := by decide +kernel
example : ∀ e d', setValue "a.q".toList (.one (.atom "5".toList)) docEx = (.error e, d') →
    DocumentedReason docEx .set ["a".toList, "q".toList] e :=
  refusal_set docEx docEx_wf "a.q".toList ["a".toList, "q".toList] (.atom "5".toList) (by decide +kernel)
    (by intro k hk; simp at hk; subst hk; exact plainKey_ident _ (by decide))

example : ∀ d', setValue "x.z".toList (.one (.atom "5".toList)) docEx = (.ok (), d') →
    ∃ bid final, ["x".toList, "z".toList].getLast? = some final ∧
      d'.target.setOrder.length = (if docEx.target.setOrder.isEmpty then 0 else docEx.target.setOrder.length + 1) ∧
      (docEx.target.setOrder.isEmpty = false → d'.target.setOrder.getLast? =
        some (.entry ["x".toList, "z".toList] (.bind bid final false (.atom "5".toList) [] []) none none)) :=
  set_attrpath_entry_appended docEx docEx_wf "x.z".toList "x".toList "z".toList [] _ (by decide +kernel) (by decide +kernel) (by decide +kernel)

/-! ## For the repaired code (`NameCmp.model`, i.e. lookups through `_same_attr_name`)

Everything above is stated for the name comparison by spelling (`NameCmp.spelled`, declared at the head
of this file). `setValue_model_eq_spelled` / `removeValue_model_eq_spelled` (Lemmas/NameAgree.lean) make
it a statement about the model of the repaired code under the decidable side condition
`NameAgree.noSpellingClash d p`: among the name tokens of the document and the keys of the path no two are
different spellings of one Nix name. The single-operation theorems restated that way (hypotheses about
lookups keep the comparison by spelling, which is the code's on such inputs): -/

theorem repaired_set_is_spelled (p : Text) (v : ValueArg) (d : Doc) (hns : NameAgree.noSpellingClash d p) :
    @setValue NameCmp.model p v d = setValue p v d := NameAgree.setValue_model_eq_spelled p v d hns

theorem repaired_rm_is_spelled (p : Text) (d : Doc) (hns : NameAgree.noSpellingClash d p) :
    @removeValue NameCmp.model p d = removeValue p d := NameAgree.removeValue_model_eq_spelled p d hns

theorem set_plain_refines_repaired (d : Doc) (hw : WF d) (p seg : Text) (v : Node)
    (hp : formatNPath currentAnchor p = .ok [seg])
    (hroot : findAttrpathRoot d.target.setValues seg = none)
    (hnoref : NoRefAt (denote d.target) [seg])
    (hns : NameAgree.noSpellingClash d p) :
    ∃ d', @setValue NameCmp.model p (.one v) d = (.ok (), d') ∧
      specSet (denote d.target) [seg] v = some (denote d'.target) := by
  rw [repaired_set_is_spelled p _ d hns]
  exact set_plain_refines d hw p seg v hp hroot hnoref

theorem set_nested_explicit_refines_repaired (d : Doc) (hw : WF d) (p : Text) (seg0 seg1 : Text) (rest : List Text) (v : Node)
    (hp : formatNPath currentAnchor p = .ok (seg0 :: seg1 :: rest))
    (hroot : findAttrpathRoot d.target.setValues seg0 = none)
    (hplain : ∀ k ∈ (seg0 :: seg1 :: rest).dropLast, plainKey k = true)
    (hfresh : FreshFor d.target d.next (2 * (rest.length + 1)))
    (hnoref : NoRefAt (denote d.target) (seg0 :: seg1 :: rest))
    (d' : Doc) (hrun : @setValue NameCmp.model p (.one v) d = (.ok (), d'))
    (hns : NameAgree.noSpellingClash d p) :
    specSet (denote d.target) (seg0 :: seg1 :: rest) v = some (denote d'.target) := by
  rw [repaired_set_is_spelled p _ d hns] at hrun
  exact set_nested_explicit_refines d hw p seg0 seg1 rest v hp hroot hplain hfresh hnoref d' hrun

theorem rm_plain_refines_repaired (d : Doc) (hw : WF d) (p seg : Text)
    (hp : formatNPath currentAnchor p = .ok [seg])
    (hroot : findAttrpathRoot d.target.setValues seg = none)
    (hex : (findBinding d.target.setValues seg).isSome = true)
    (hns : NameAgree.noSpellingClash d p) :
    ∃ d', @removeValue NameCmp.model p d = (.ok (), d') ∧
      specRemove (denote d.target) [seg] false = some (denote d'.target) := by
  rw [repaired_rm_is_spelled p d hns]
  exact rm_plain_refines d hw p seg hp hroot hex

theorem rm_nested_explicit_refines_repaired (d : Doc) (hw : WF d) (p : Text) (seg0 seg1 : Text) (rest : List Text)
    (hp : formatNPath currentAnchor p = .ok (seg0 :: seg1 :: rest))
    (hroot : findAttrpathRoot d.target.setValues seg0 = none)
    (hplain : ∀ k ∈ (seg0 :: seg1 :: rest).dropLast, plainKey k = true)
    (d' : Doc) (hrun : @removeValue NameCmp.model p d = (.ok (), d'))
    (hns : NameAgree.noSpellingClash d p) :
    specRemove (denote d.target) (seg0 :: seg1 :: rest) false = some (denote d'.target) := by
  rw [repaired_rm_is_spelled p d hns] at hrun
  exact rm_nested_explicit_refines d hw p seg0 seg1 rest hp hroot hplain d' hrun

theorem set_attrpath_root_refused_repaired (d : Doc) (hw : WF d) (p seg : Text) (v : Node)
    (hp : formatNPath currentAnchor p = .ok [seg])
    (hroot : (findAttrpathRoot d.target.setValues seg).isSome = true)
    (hns : NameAgree.noSpellingClash d p) :
    @setValue NameCmp.model p (.one v) d = (.error .value, d) := by
  rw [repaired_set_is_spelled p _ d hns]
  exact set_attrpath_root_refused d hw p seg v hp hroot

theorem set_attrpath_leaf_refines_repaired (d : Doc) (hw : WF d) (p : Text) (segs : List Text) (v : Node)
    (hp : formatNPath currentAnchor p = .ok segs)
    (hleaf : (findAttrpathLeaf d.target segs).isSome = true)
    (hns : NameAgree.noSpellingClash d p) :
    ∃ d', @setValue NameCmp.model p (.one v) d = (.ok (), d') ∧
      specSet (denote d.target) segs v = some (denote d'.target) := by
  rw [repaired_set_is_spelled p _ d hns]
  exact set_attrpath_leaf_refines d hw p segs v hp hleaf

theorem set_attrpath_new_refines_repaired (d : Doc) (hw : WF d) (p : Text) (seg0 seg1 : Text) (rest : List Text) (v : Node)
    (hp : formatNPath currentAnchor p = .ok (seg0 :: seg1 :: rest))
    (hroot : (findAttrpathRoot d.target.setValues seg0).isSome = true)
    (hleaf : findAttrpathLeaf d.target (seg0 :: seg1 :: rest) = none)
    (hfresh : FreshFor d.target d.next (2 * rest.length))
    (d' : Doc) (hrun : @setValue NameCmp.model p (.one v) d = (.ok (), d'))
    (hns : NameAgree.noSpellingClash d p) :
    specSet (denote d.target) (seg0 :: seg1 :: rest) v = some (denote d'.target) := by
  rw [repaired_set_is_spelled p _ d hns] at hrun
  exact set_attrpath_new_refines d hw p seg0 seg1 rest v hp hroot hleaf hfresh d' hrun

theorem rm_attrpath_refines_repaired (d : Doc) (hw : WF d) (hcoh : Coh d.target) (p : Text) (segs : List Text)
    (hp : formatNPath currentAnchor p = .ok segs)
    (hleaf : (findAttrpathLeaf d.target segs).isSome = true)
    (hns : NameAgree.noSpellingClash d p) :
    ∃ d', @removeValue NameCmp.model p d = (.ok (), d') ∧
      specRemove (denote d.target) segs true = some (denote d'.target) := by
  rw [repaired_rm_is_spelled p d hns]
  exact rm_attrpath_refines d hw hcoh p segs hp hleaf

theorem set_fresh_goes_last_repaired (d : Doc) (hw : WF d) (p seg : Text) (v : Node)
    (hp : formatNPath currentAnchor p = .ok [seg])
    (hroot : findAttrpathRoot d.target.setValues seg = none)
    (hnew : seg ∉ Kids.keys (denote d.target).kids)
    (hns : NameAgree.noSpellingClash d p) :
    ∃ d', @setValue NameCmp.model p (.one v) d = (.ok (), d') ∧
      d'.target.setValues = d.target.setValues ++ [.bind d.next seg false v [] []] ∧
      d'.target.setOrder = (if d.target.setOrder.isEmpty then []
        else d.target.setOrder ++ [.bind d.next seg false v [] []]) ∧
      (denote d'.target).kids = (denote d.target).kids ++ [(seg, denote v)] := by
  rw [repaired_set_is_spelled p _ d hns]
  exact set_fresh_goes_last d hw p seg v hp hroot hnew

theorem set_attrpath_entry_appended_repaired (d : Doc) (hw : WF d) (p : Text) (seg0 seg1 : Text) (rest : List Text) (v : Node)
    (hp : formatNPath currentAnchor p = .ok (seg0 :: seg1 :: rest))
    (hroot : (findAttrpathRoot d.target.setValues seg0).isSome = true)
    (hnew : treeAt (denote d.target) (seg0 :: seg1 :: rest) = none)
    (d' : Doc) (hrun : @setValue NameCmp.model p (.one v) d = (.ok (), d'))
    (hns : NameAgree.noSpellingClash d p) :
    ∃ bid final, (seg0 :: seg1 :: rest).getLast? = some final ∧
      d'.target.setOrder.length =
        (if d.target.setOrder.isEmpty then 0 else d.target.setOrder.length + 1) ∧
      (d.target.setOrder.isEmpty = false →
        d'.target.setOrder.getLast? =
          some (.entry (seg0 :: seg1 :: rest) (.bind bid final false v [] []) none none)) := by
  rw [repaired_set_is_spelled p _ d hns] at hrun
  exact set_attrpath_entry_appended d hw p seg0 seg1 rest v hp hroot hnew d' hrun

theorem refusal_set_repaired (d : Doc) (hw : WF d) (p : Text) (segs : List Text) (v : Node)
    (hp : formatNPath currentAnchor p = .ok segs) (hplain : ∀ k ∈ segs.dropLast, plainKey k = true)
    (e : Err) (d' : Doc) (hrun : @setValue NameCmp.model p (.one v) d = (.error e, d'))
    (hns : NameAgree.noSpellingClash d p) :
    DocumentedReason d .set segs e := by
  rw [repaired_set_is_spelled p _ d hns] at hrun
  exact refusal_set d hw p segs v hp hplain e d' hrun

theorem refusal_rm_repaired (d : Doc) (hw : WF d) (hcoh : Coh d.target) (p : Text) (segs : List Text)
    (hp : formatNPath currentAnchor p = .ok segs) (hplain : ∀ k ∈ segs.dropLast, plainKey k = true)
    (e : Err) (d' : Doc) (hrun : @removeValue NameCmp.model p d = (.error e, d'))
    (hns : NameAgree.noSpellingClash d p) :
    DocumentedReason d .rm segs e := by
  rw [repaired_rm_is_spelled p d hns] at hrun
  exact refusal_rm d hw hcoh p segs hp hplain e d' hrun

theorem refusal_scope_set_repaired (d : Doc) (hed : d.noTarget = none) (p rest : Text) (depth : Nat) (v : Node)
    (hs : splitScopeNpath p = .ok (some (depth, rest)))
    (hnc : ¬ ((collectScopeLayers d).isEmpty = true ∧ depth = 1))
    (hd : depth > (collectScopeLayers d).length) (segs : List Text)
    (hns : NameAgree.noSpellingClash d p) :
    @setValue NameCmp.model p (.one v) d = (.error .value, d) ∧ DocumentedReason d .set segs .value := by
  rw [repaired_set_is_spelled p _ d hns]
  exact refusal_scope_set d hed p rest depth v hs hnc hd segs

theorem refusal_scope_rm_repaired (d : Doc) (hed : d.noTarget = none) (p rest : Text) (depth : Nat)
    (hs : splitScopeNpath p = .ok (some (depth, rest)))
    (hd : depth > (collectScopeLayers d).length) (segs : List Text)
    (hns : NameAgree.noSpellingClash d p) :
    @removeValue NameCmp.model p d = (.error .value, d) ∧ DocumentedReason d .rm segs .value := by
  rw [repaired_rm_is_spelled p d hns]
  exact refusal_scope_rm d hed p rest depth hs hd segs

end Nima.C05
