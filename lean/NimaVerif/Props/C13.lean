import NimaVerif.Lemmas.Value
import NimaVerif.Lemmas.Text
import NimaVerif.Gen.Tables
import NimaVerif.Gen.Value
/-!
# C13 — values built programmatically render to Nix that denotes the same value

The property's theorems (helper lemmas live in `Lemmas/DataReader.lean`, `Lemmas/Value.lean`).

* MODEL (`Model/Value.lean`): `Elem`/`PyVal` (the Python values of the property's domain; a dict
  inside a list is not representable, floats are given by their `repr`), `Expr` (what the
  constructed objects hold), `renderElem/renderExpr/renderBinding` (transliteration of
  `coerce_expression`, `_float_literal`, `Primitive`, `FloatExpression`, `NixList`,
  `_coerce_list_item`, `Parenthesis`, `Binding`, `AttributeSet`), and the container contexts `Ctx`
  with `renderCtx` (`Except`-valued: `ValueError` when the object holds an int `coerce_expression`
  refuses — `exprRefused` —, else the text `renderCtxText`).
* SPEC (`Model/DataReader.lean`, `Model/ValueSpec.lean`): `readData`/`readBinding` — how Nix reads a
  text of the data fragment (lexer rules of Nix for INT/FLOAT/ID/strings; a unary minus is accepted
  where an operator expression may stand — binding value, top level, inside parentheses — never
  bare as a list element; a float is the real number its literal denotes, `decValue`);
  `denote`/`expected` — the data a Python value is; `ctxInDomain` — the property's domain; `ctxReadable` — the decidable side
  condition under which the code does keep the value (every value of the domain meets it);
  `dataOutOfRange` — the data the API must refuse.

All statements quantify over every value (unbounded nesting, every string over `Char`, every
integer, every indent and inline flag).
-/
namespace Nima.C13

/-! ## Translator tie: the constants and tables of the model are those of the Python source now -/

theorem tie_escape_table : Gen.escapeTable = some escapeTable := rfl
theorem tie_max_inline_width : Gen.maxInlineListWidth = some maxInlineListWidth := rfl
theorem tie_auto_multiline : Gen.autoMultilineThresholds = some autoMultilineThresholds := rfl
theorem tie_single_binding : Gen.singleBindingCount = some singleBindingCount := rfl
theorem tie_literals :
    Gen.litNull = some litNull ∧ Gen.litTrue = some litTrue ∧ Gen.litFalse = some litFalse ∧
    Gen.stringQuotes = some stringQuotes ∧
    Gen.stringEscapesInterpolation = some stringEscapesInterpolation := ⟨rfl, rfl, rfl, rfl, rfl⟩
theorem tie_coerce_order :
    Gen.coerceOrder = some coerceOrder ∧ Gen.primitiveOrder = some primitiveOrder := ⟨rfl, rfl⟩
/-- `coerce_expression` spells a float through `_float_literal`: `.0` is put in front of the `e` of a
    repr without `.`. -/
theorem tie_float_literal : Gen.floatLiteralRule = some floatLiteralRule := rfl
/-- `coerce_expression` raises `ValueError` for an int with `abs(value) > 2^63 - 1`; the bound of the
    code is the bound of the SPEC reader. -/
theorem tie_int_literal_max : Gen.coerceIntMax = some coerceIntMax ∧ coerceIntMax = nixIntMax := ⟨rfl, rfl⟩
/-- `NixList` renders its items through `_coerce_list_item` (negative number literals in a
    `Parenthesis`), probes them for newlines through plain `coerce_expression`. -/
theorem tie_list_item_paren :
    Gen.negLiteralTests = some negLiteralTests ∧ Gen.listItemCoercers = some listItemCoercers := ⟨rfl, rfl⟩

/-- The model's escaper is the interpreter of the tied table (as in C12). -/
theorem escapeNix_table (interp : Bool) (c : Char) (cs : Text) (r : Text)
    (h : (c, r) ∈ escapeTable) : escapeNix interp (c :: cs) = r ++ escapeNix interp cs :=
  _root_.Nima.escapeNix_table interp c cs r h

/-! ## 1. Strings are preserved character for character -/

/-- Whatever characters a string holds (quotes, backslashes, control characters, `$`…), as long as
    it has no `${`, its rendered literal is read back by Nix as exactly that string. -/
theorem string_roundtrip (s : Text) (h : hasInterp s = false) (indent : Nat) (inline : Bool) :
    readData (renderElem (.str s) indent inline) = some (.str s) := by
  have hl := lex_renderElem (.str s) indent inline (by simp [elemReadable, h]) [] rfl
  simp only [List.append_nil, lexData_nil, Option.map_some] at hl
  simp [readData, hl, toksE, pValue, pElem]

/-! ## 2. Every value of the readable fragment is read back, in every context, at every indent -/

/-- tokens of a readable value parse to its denotation -/
theorem readData_of_lex (t : Text) (x : Expr) (hl : lexData t = some (toksX x))
    (hx : exprReadable x = true) : readData t = some (denoteX x) := by
  have hp := pValue_toksX x ((toksX x).length + 1) [] hx (Nat.le_refl _)
  simp only [List.append_nil] at hp
  simp [readData, hl, hp]

/-- What a binding holds (scalar, list, attribute set built by `from_dict` or modified by item
    assignment), rendered at any indent and inline flag, reads back as its value: element order
    kept, numbers with value and sign, strings character for character. -/
theorem readData_renderExpr (x : Expr) (indent : Nat) (inline : Bool) (hx : exprReadable x = true) :
    readData (renderExpr x indent inline) = some (denoteX x) := by
  have hl := lex_renderExpr x indent inline hx [] rfl
  simp only [List.append_nil, lexData_nil, Option.map_some] at hl
  exact readData_of_lex _ x hl hx

/-- `Binding(name, value).rebuild(indent, inline)` reads back as that name bound to that value. -/
theorem readBinding_renderBinding (k : Text) (x : Expr) (indent : Nat) (inline : Bool)
    (hk : isDataKey k = true) (hx : exprReadable x = true) :
    readBinding (renderBinding k x indent inline) = some (k, denoteX x) := by
  have hl : lexData ('{' :: ' ' :: (renderBinding k x indent inline ++ [' ', '}'])) =
      some (toksX (.aset [(k, x)] false)) := by
    rw [lexData_punct '{' .lbrace, lexData_ws _ _ (by decide), lex_renderBinding k x indent inline _ hk hx,
      lexData_ws _ _ (by decide), lexData_punct '}' .rbrace, lexData_nil]
    simp [toksX, toksBs]
  have hr : exprReadable (.aset [(k, x)] false) = true := by
    simp [exprReadable, bsReadable, keysNodup, hk, hx]
  simp only [readBinding, List.cons_append]
  rw [readData_of_lex _ _ hl hr]
  simp [denoteX, denoteBs]

/-- **The read-back theorem under its decidable side condition.** In every container context of
    the construction API, a value satisfying `ctxReadable` (identifier keys, strings without `${`;
    floats whose spelled literal is a Nix float token denoting the number of the repr — true of every
    Python repr, `float_repr_literal_ok` —, integers within 64 bits) is accepted, and renders to text
    that Nix reads back as exactly that value — negative numbers included, wherever they stand. -/
theorem roundtrip_partial (c : Ctx) (h : ctxReadable c = true) :
    renderCtx c = .ok (renderCtxText c) ∧ readCtx c (renderCtxText c) = some (expected c) := by
  refine ⟨by simp [renderCtx, exprReadable_not_refused _ (ctxExpr_readable c h)], ?_⟩
  have hx := ctxExpr_readable c h
  cases c with
  | fromDict d =>
    simp only [readCtx, renderCtxText, ctxExpr, expected, fromDict_eq] at hx ⊢
    rw [readData_renderExpr _ 0 false hx, denoteX_bindValue]; rfl
  | values d =>
    simp only [readCtx, renderCtxText, ctxExpr, expected, valuesCtor_eq, fromDict_eq] at hx ⊢
    rw [readData_renderExpr _ 0 false hx, denoteX_bindValue]; rfl
  | binding k v =>
    simp only [ctxReadable, Bool.and_eq_true] at h
    simp only [readCtx, renderCtxText, expected]
    rw [readBinding_renderBinding k _ 0 false h.1 (bindValue_readable v h.2), denoteX_bindValue]; rfl
  | list xs =>
    have := readData_renderExpr (.raw (.list xs)) 0 false hx
    simpa [readCtx, renderCtxText, ctxExpr, expected, renderExpr, denoteX, denoteE] using this
  | setItem d k v =>
    simp only [readCtx, renderCtxText, expected]
    rw [readData_renderExpr _ 0 false hx]
    simp only [ctxExpr, fromDict, denoteX_setItem, denoteBs_bindAll]
  | setItemOn d ml k v =>
    simp only [readCtx, renderCtxText, expected]
    rw [readData_renderExpr _ 0 false hx]
    simp only [ctxExpr, denoteX_setItem, denoteBs_bindAll]

/-- Every value of the property's domain meets the side condition (no documented defect is left
    to avoid). -/
theorem domain_readable (c : Ctx) (hd : ctxInDomain c = true) : ctxReadable c = true :=
  ctxInDomain_readable c hd

/-- For the repr of a finite Python float, being a Nix float token is exactly having a `.` (which is
    why the repr itself cannot be written: `1e+16` is not a float token). -/
theorem float_repr_readable_iff_dot (r : Text) (h : isPyFloatRepr r = true) :
    isNixFloat (unsignedRepr r) = (unsignedRepr r).contains '.' :=
  pyFloatRepr_nixFloat_iff_dot r h

/-- The literal every repr of a finite Python float is spelled with (`1e+16` ↦ `1.0e+16`, all others
    unchanged) is a Nix float token with the sign of the repr, denoting the same real number. -/
theorem float_repr_literal_ok (r : Text) (h : isPyFloatRepr r = true) :
    isNixFloat (unsignedRepr (floatLiteral r)) = true ∧
    isNegText (floatLiteral r) = isNegText r ∧
    decValue (unsignedRepr (floatLiteral r)) = decValue (unsignedRepr r) := by
  have := pyFloatRepr_litOk r h
  simpa [floatLitOk, and_assoc] using this

/-- FULL statement of the property's read-back clause: every value of the domain (dicts with
    distinct identifier keys, lists of scalars/lists, strings without `${`, every integer Nix can
    write, booleans, None, every finite float's repr), in every container context, is accepted and
    renders to text that Nix reads back as exactly that value. -/
def RoundTripFull : Prop :=
  ∀ c : Ctx, ctxInDomain c = true → ∃ t, renderCtx c = .ok t ∧ readCtx c t = some (expected c)

/-- **The property on its domain** (with the three documented defects repaired no side condition
    is left: the full statement holds). -/
theorem roundtrip_full : RoundTripFull := fun c hd =>
  ⟨renderCtxText c, roundtrip_partial c (domain_readable c hd)⟩

/-- **Negative numbers as list elements** (repaired defect C13-neg-number-in-list). A list of integers of either sign, at any indent
    and inline flag, reads back as exactly those integers: a negative element is written `(-n)`. -/
theorem neg_in_list_roundtrip (is : List Int) (h : ∀ i ∈ is, i.natAbs ≤ nixIntMax) (indent : Nat)
    (inline : Bool) :
    readData (renderElem (.list (is.map Elem.int)) indent inline) = some (.list (is.map Data.int)) := by
  have hr : elemsReadable (is.map Elem.int) = true := by
    induction is with
    | nil => rfl
    | cons i is ih =>
      simp only [List.map_cons, elemsReadable, elemReadable, Bool.and_eq_true, decide_eq_true_eq]
      exact ⟨h i (by simp), ih (fun j hj => h j (by simp [hj]))⟩
  have hd : ∀ js : List Int, denoteEs (js.map Elem.int) = js.map Data.int := by
    intro js
    induction js with
    | nil => rfl
    | cons j js ih => simp only [List.map_cons, denoteEs, denoteE, ih]
  have := readData_renderExpr (.raw (.list (is.map Elem.int))) indent inline
    (by simpa [exprReadable, elemReadable] using hr)
  simpa [renderExpr, denoteX, denoteE, hd is] using this

/-- The spelling: `NixList([-1]).rebuild()` is `[ (-1) ]`, `[1, -2.5]` is broken over lines with
    the negative float in parentheses; in binding position the minus stays bare. -/
theorem neg_in_list_spelling :
    renderCtx (.list [.int (-1)]) = .ok "[ (-1) ]".toList ∧
    renderCtx (.list [.int 1, .float "-2.5".toList]) = .ok "[\n  1\n  (-2.5)\n]".toList ∧
    renderCtx (.binding "k".toList (.elem (.list [.int (-1)]))) = .ok "k = [ (-1) ];".toList ∧
    renderCtx (.binding "k".toList (.elem (.int (-1)))) = .ok "k = -1;".toList :=
  ⟨eq_ok_toList (by decide +kernel), eq_ok_toList (by decide +kernel), eq_ok_toList (by decide +kernel),
    eq_ok_toList (by decide +kernel)⟩

/-- **Floats whose repr has an exponent and no `.`** (repaired defect C13-float-exponent-no-dot). The
    repr of any finite Python float, as a list element or as a binding value, at any indent and
    inline flag, reads back as a float of the same sign denoting the same number. -/
theorem float_repr_roundtrip (r : Text) (h : isPyFloatRepr r = true) (k : Text) (hk : isDataKey k = true)
    (indent : Nat) (inline : Bool) :
    readData (renderElem (.list [.float r]) indent inline) = some (.list [floatData r]) ∧
    readBinding (renderBinding k (.raw (.float r)) indent inline) = some (k, floatData r) := by
  have hr : elemReadable (.float r) = true := by simpa [elemReadable] using pyFloatRepr_litOk r h
  constructor
  · have := readData_renderExpr (.raw (.list [.float r])) indent inline
      (by simpa [exprReadable, elemReadable, elemsReadable] using hr)
    simpa [renderExpr, denoteX, denoteE, denoteEs] using this
  · have := readBinding_renderBinding k (.raw (.float r)) indent inline hk (by simpa [exprReadable] using hr)
    simpa [denoteX, denoteE] using this

/-- The spelling: `1e+16` is written `1.0e+16`, `1e-07` is written `1.0e-07`, a negative one in a list
    is parenthesised, a repr with a `.` is written as it is; and `1.0e+16` denotes the number of
    `1e+16` (both `1 × 10^16`). -/
theorem float_no_dot_spelling :
    renderCtx (.list [.float "1e+16".toList]) = .ok "[ 1.0e+16 ]".toList ∧
    renderCtx (.binding "a".toList (.elem (.float "1e-07".toList))) = .ok "a = 1.0e-07;".toList ∧
    renderCtx (.list [.float "-5e-324".toList]) = .ok "[ (-5.0e-324) ]".toList ∧
    renderCtx (.list [.float "1.5e+16".toList, .float "0.1".toList]) = .ok "[\n  1.5e+16\n  0.1\n]".toList ∧
    decValue "1.0e+16".toList = decValue "1e+16".toList ∧ decValue "1e+16".toList = ⟨1, 16⟩ :=
  ⟨eq_ok_toList (by decide +kernel), eq_ok_toList (by decide +kernel), eq_ok_toList (by decide +kernel),
    eq_ok_toList (by decide +kernel), by decide +kernel, by decide +kernel⟩

/-! ## 3. Integers Nix cannot write are refused, and nothing else is -/

/-- **Refusal is exact** (repaired defect C13-int-out-of-range). In every container context and for every value
    whatsoever, `rebuild()` raises `ValueError` exactly when the data handed in holds an integer
    whose magnitude exceeds `2^63 - 1` (Nix has no literal for it); otherwise it returns the text. -/
theorem refusal_exact (c : Ctx) :
    (dataOutOfRange (expected c) = true → renderCtx c = .error .value) ∧
    (dataOutOfRange (expected c) = false → renderCtx c = .ok (renderCtxText c)) := by
  have h : exprRefused (ctxExpr c) = dataOutOfRange (expected c) := by
    rw [exprRefused_eq, denoteX_ctxExpr]
  constructor <;> intro hd <;> simp [renderCtx, h, hd]

/-- The former witness: `Binding(name="a", value=2**63).rebuild()` raises `ValueError` (it used to
    return `a = 9223372036854775808;`, which Nix rejects); so does `-2**63` (`-9223372036854775808`
    is the negation of a literal Nix rejects), also deep inside a list inside a set; the largest
    literals are written. -/
theorem int_out_of_range_refused :
    renderCtx (.binding "a".toList (.elem (.int 9223372036854775808))) = .error .value ∧
    renderCtx (.list [.int (-9223372036854775808)]) = .error .value ∧
    renderCtx (.fromDict [("k".toList, .dict [("x".toList, .elem (.list [.int 1, .list [.int (10 ^ 30)]]))])]) = .error .value ∧
    renderCtx (.binding "a".toList (.elem (.int 9223372036854775807))) = .ok "a = 9223372036854775807;".toList ∧
    renderCtx (.list [.int (-9223372036854775807)]) = .ok "[ (-9223372036854775807) ]".toList :=
  ⟨by decide +kernel, by decide +kernel, by decide +kernel, eq_ok_toList (by decide +kernel),
    eq_ok_toList (by decide +kernel)⟩

/-- A value of the domain is never refused. -/
theorem domain_not_refused (c : Ctx) (hd : ctxInDomain c = true) : dataOutOfRange (expected c) = false := by
  have h := (roundtrip_partial c (domain_readable c hd)).1
  cases hb : dataOutOfRange (expected c) with
  | false => rfl
  | true => rw [(refusal_exact c).1 hb] at h; cases h

/-! ## 4. Determinism -/

/-- The outcome (text or refusal) is a function of the value and the context alone (the model has
    no other input); that the implementation has no hidden state either is checked by the correspondence and
    by rendering twice. -/
theorem render_deterministic (c₁ c₂ : Ctx) (h : c₁ = c₂) : renderCtx c₁ = renderCtx c₂ := by
  rw [h]

/-! ## 5. Stability under re-parsing: a necessary condition, violated

`parse` sets `multiline` of a list / attribute set to "the node's text has a newline", and
`rebuild` then honours that flag. So the rendered text can only be a fixed point of
`parse ∘ rebuild` if every container's text has a newline exactly when it was rendered with the
multiline layout. (The full stability statement needs the model of `parse`: C06.) -/

def SetFlagsStable : Prop :=
  ∀ d : List (Text × PyVal), valInDomain (.dict d) = true → d ≠ [] →
    hasNl (renderCtxText (.fromDict d)) = (d.length != singleBindingCount)

/-- `from_dict({"k": [1, 2]})` is built with `multiline = False` yet renders over several lines.
    Open known finding C13-unstable-inline-attrset. -/
theorem cex_stable_inline_set : ¬ SetFlagsStable := by
  intro h
  have := h [("k".toList, .elem (.list [.int 1, .int 2]))] (by decide +kernel) (by simp)
  revert this; decide +kernel

/-- A one-element list holding a two-element list, rendered as a binding value inside a set
    (`indent = 2`, `inline = True`): `_auto_multiline` says "one line" (it probes the item at
    `indent = 0`), the text nevertheless has a newline. Open known finding C13-unstable-inline-list. -/
theorem cex_stable_inline_list :
    autoMultiline 1 (anyItemNl [.list [.int 1, .int 2]]) 2 true = false ∧
    hasNl (renderElem (.list [.list [.int 1, .int 2]]) 2 true) = true := by decide +kernel

/-! ## Non-vacuity: the side condition is met by rich values, the witnesses are in the domain -/

example : ctxReadable (.fromDict [("a".toList, .elem (.int (-5))), ("b".toList, .elem (.list [.float "1.5e+16".toList,
    .str "q\"\\\n$".toList, .list [.bool true, .none]])), ("c".toList, .dict [("x".toList, .dict [])])]) = true := by decide +kernel
example : ctxReadable (.setItem [("a".toList, .elem (.int 1))] "a".toList (.dict [("n".toList, .elem (.float "-0.0".toList))])) = true := by
  decide +kernel
example : renderCtx (.fromDict [("k".toList, .elem (.list [.int 1, .int 2]))]) = .ok "{ k = [\n    1\n    2\n  ]; }".toList := by
  exact eq_ok_toList (by decide +kernel)
example : ctxInDomain (.setItemOn [("a".toList, .elem (.int 1))] true "k".toList (.dict [("x".toList, .elem (.float "1.5e-07".toList))])) = true := by
  decide +kernel
example : ctxInDomain (.list [.float "1e+16".toList, .int (-1), .int (-9223372036854775807)]) = true ∧
    ctxInDomain (.list [.int 9223372036854775808]) = false ∧
    ctxReadable (.list [.float "1e+16".toList, .float "-1e-07".toList]) = true ∧
    ctxReadable (.list [.int (-1), .float "-0.5".toList]) = true ∧
    ctxReadable (.list [.int 9223372036854775808]) = false := by decide +kernel

end Nima.C13
