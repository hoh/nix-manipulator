import NimaVerif.Lemmas.Cost
import NimaVerif.Gen.Multiplicity
import NimaVerif.Gen.Raises
/-!
# C20 — parse and rebuild terminate quickly and fail only in documented ways

Property theorems only (the metatheorems about the cost recurrence live in `Lemmas/Cost.lean`).

*(b) Cost.* `calls m e` (`Model/Cost.lean`) bounds the number of `rebuild` invocations needed to render a
tree with skeleton `e`, given the multiplicity table `m`. All statements quantify over every skeleton
(unbounded size and depth). `Gen.multiplicityParsed` is regenerated from the Python AST on every run;
the check additionally compares it with run-time counts (observed ≤ table on every document,
equality on each doubled entry's depth family, `calls` of the observed skeleton = observed count on
the families).

*(a) Failure modes.* `Gen.escapingSites` lists the explicit `raise`/`assert` sites that can propagate
out of `parse` / `from_cst` / `rebuild` along the (by-name) call graph. Implicit exceptions
(`xs[-1]`, `next(it)`, attribute access on `None`) have no raise site: no static table can list them;
they are covered by the exception-class oracle of the check on generated inputs, and the evidence
says so.
-/
namespace Nima.C20
open Nima.Cost

/-! ## (b) Cost -/

/-- the multiplicity function extracted from the Python source on this run (paths feasible for
    objects built by `from_cst`) -/
def mParsed : String → String → Nat := mult (Gen.multiplicityParsed.getD [])

/-- the same over all control-flow paths (objects built through the Python API as well) -/
def mFull : String → String → Nat := mult (Gen.multiplicity.getD [])

/-! ### Translator tie -/

theorem tie_multiplicity_extracted :
    Gen.multiplicity.isSome = true ∧ Gen.multiplicityParsed.isSome = true ∧
    Gen.renderLike.isSome = true := by decide

/-- Every doubled row of the generated table is one of the rows recorded for the unchanged tree
    (`Model/Cost.lean: todayDoubled`, each an open known finding or an explained leaf entry).
    A change to the Python that makes another child render twice breaks this theorem. -/
theorem tie_doubled_known :
    (doubled (Gen.multiplicityParsed.getD [])).all
      (fun e => todayDoubled.any (fun d => d.cls == e.1 && d.field == e.2)) = true := by decide +kernel

/-- No row exceeds 2 (in particular none is the "unbounded" marker 99 of a render inside a loop). -/
theorem tie_bounded :
    (Gen.multiplicityParsed.getD []).all (fun e => decide (e.2.2 ≤ 2)) = true := by decide +kernel

/-- The parsed table is pointwise below today's recorded table: a row is at most 2, a doubled row is
    a recorded one, and the recorded table is 2 there and at least 1 everywhere. -/
theorem tie_rows_le_today :
    (Gen.multiplicityParsed.getD []).all (fun e => decide (e.2.2 ≤ mToday e.1 e.2.1)) = true := by
  rw [List.all_eq_true]
  intro e he
  have hle : e.2.2 ≤ 2 := of_decide_eq_true (List.all_eq_true.mp tie_bounded e he)
  apply decide_eq_true
  by_cases h2 : 2 ≤ e.2.2
  · exact Nat.le_trans hle
      (two_le_mToday (List.all_eq_true.mp tie_doubled_known _ (mem_doubled he h2)))
  · exact Nat.le_trans (Nat.le_of_not_lt h2) (one_le_mToday _ _)

/-- … and below the all-paths table (restricting paths can only remove renders). Only the doubled
    rows are looked up: no row of the all-paths table is below the default 1, so a row that is at
    most 1 is below whatever that table has at its key. -/
theorem tie_parsed_le_full :
    (Gen.multiplicityParsed.getD []).all (fun e => decide (e.2.2 ≤ mFull e.1 e.2.1)) = true := by
  have hpos : (Gen.multiplicity.getD []).all (fun e => decide (1 ≤ e.2.2)) = true := by
    decide +kernel
  have hdoubled : ((Gen.multiplicityParsed.getD []).filter (fun e => 2 ≤ e.2.2)).all
      (fun e => decide (e.2.2 ≤ mFull e.1 e.2.1)) = true := by decide +kernel
  rw [List.all_eq_true]
  intro e he
  by_cases h2 : 2 ≤ e.2.2
  · exact List.all_eq_true.mp hdoubled e (List.mem_filter.mpr ⟨he, decide_eq_true h2⟩)
  · exact decide_eq_true (Nat.le_trans (Nat.le_of_not_lt h2)
      (le_mult_of_all _ 1 hpos _ _ (.inl (Nat.le_refl 1))))

theorem mParsed_le_two : ∀ k f, mParsed k f ≤ 2 :=
  mult_le_of_rows _ (fun _ _ => 2) (fun _ _ => by decide) tie_bounded

theorem mParsed_le_today : ∀ k f, mParsed k f ≤ mToday k f :=
  mult_le_of_rows _ mToday one_le_mToday tie_rows_le_today

/-! ### FULL statement (false of the current code) and what holds instead -/

/-- The property's cost clause at full strength: the number of `rebuild` calls is at most the number
    of nodes, for every tree. -/
def LinearCost (m : String → String → Nat) : Prop := ∀ e : Skel, calls m e ≤ size e

/-- Metatheorem (the closing step the design expects once the findings are repaired): a table without
    doubled rows gives linear cost. -/
theorem linear_of_allOnes (m : String → String → Nat) (h : ∀ k f, m k f ≤ 1) : LinearCost m := by
  intro e
  exact calls_le_size m e (allEdges_of_forall _ (fun k f => by simpa using h k f) e)

/-- PARTIAL (explicit decidable side condition): trees that use no doubled edge render in at most
    `size` calls — with the table extracted on this run. -/
theorem cost_partial (e : Skel)
    (h : allEdges (fun k f => decide (mParsed k f ≤ 1)) e = true) : calls mParsed e ≤ size e :=
  calls_le_size mParsed e h

/-- GENERAL bound with the table extracted on this run: every doubled edge on a root-to-leaf path
    costs at most a factor 2. Polynomial (linear) cost exactly as long as the doubled depth is bounded;
    comments and other leaves under a doubled field add a constant factor only. -/
theorem cost_general (e : Skel) : calls mParsed e ≤ size e * 2 ^ ddepth mParsed e :=
  calls_le_size_pow mParsed 2 (by decide) mParsed_le_two e

/-- today's recorded table bounds the extracted one on every tree -/
theorem cost_le_today (e : Skel) : calls mParsed e ≤ calls mToday e :=
  calls_mono mParsed mToday mParsed_le_today e

/-! ### Counterexamples: the open findings. Each is a depth family: linear size, at least 2ⁿ calls.
The check replays every family on the real code (run-time call counts) and compares. -/

/-- curried lambdas `a: a: … x` — `FunctionDefinition._render_output` renders `output` for an inline
    preview and again for the result -/
theorem cex_function_output (n : Nat) :
    size (nest [("FunctionDefinition", "output")] n (leaf "Identifier")) = n + 1 ∧
    2 ^ n ≤ calls mToday (nest [("FunctionDefinition", "output")] n (leaf "Identifier")) :=
  ⟨by rw [size_nest]; simp [leaf, size, sizeL], exp_of_double _ _ _ (by decide +kernel) n⟩

/-- nested `with a; with a; … [ multi-line ]` — `WithStatement.rebuild` renders the body inline and,
    when that has a newline, again -/
theorem cex_with_body (n : Nat) :
    size (nest [("WithStatement", "body")] n (leaf "NixList")) = n + 1 ∧
    2 ^ n ≤ calls mToday (nest [("WithStatement", "body")] n (leaf "NixList")) :=
  ⟨by rw [size_nest]; simp [leaf, size, sizeL], exp_of_double _ _ _ (by decide +kernel) n⟩

/-- right-nested operator chains with a line break after the operator (`a ++⏎ b ++⏎ c`, `->`) —
    `BinaryExpression.rebuild` renders `right`, then `_resolve_right_operand` renders it again -/
theorem cex_binary_right (n : Nat) :
    size (nest [("BinaryExpression", "right")] n (leaf "Identifier")) = n + 1 ∧
    2 ^ n ≤ calls mToday (nest [("BinaryExpression", "right")] n (leaf "Identifier")) :=
  ⟨by rw [size_nest]; simp [leaf, size, sizeL], exp_of_double _ _ _ (by decide +kernel) n⟩

/-- `{ inherit ({ inherit (…) a; }) a; }` — `Inherit.rebuild` previews the source, then
    `render_inherit_source` renders it again -/
theorem cex_inherit_source (n : Nat) :
    2 ^ n ≤ calls mToday
      (nest [("Inherit", "from_expression"), ("AttributeSet", "attrpath_order")] n (leaf "Identifier")) :=
  exp_of_double _ _ _ (by decide +kernel) n

/-- `assert⏎ (assert⏎ (…); a); a` — `Assertion.rebuild` renders the condition inline and again on its
    own line -/
theorem cex_assert_condition (n : Nat) :
    2 ^ n ≤ calls mToday
      (nest [("Assertion", "expression"), ("Parenthesis", "value")] n (leaf "Identifier")) :=
  exp_of_double _ _ _ (by decide +kernel) n

/-- `{ a = [ { a = [ … ]; } ]; }` on one line, wider than 100 columns — `Binding.rebuild` asks the list
    for `simple_inline_preview` (which renders the items), gets `None`, and renders the list again -/
theorem cex_binding_list_preview (n : Nat) :
    2 ^ n ≤ calls mToday
      (nest [("Binding", "value"), ("NixList", "value"), ("AttributeSet", "attrpath_order")] n
        (leaf "Identifier")) :=
  exp_of_double _ _ _ (by decide +kernel) n

/-- the full statement fails for today's table (witness: three curried lambdas, 4 nodes, 15 calls) -/
theorem cex_linear_cost : ¬ LinearCost mToday := by
  intro h
  have := h (nest [("FunctionDefinition", "output")] 3 (leaf "Identifier"))
  revert this
  decide +kernel

/-! ## (a) Failure modes: explicit raise sites -/

theorem tie_raises_extracted :
    Gen.raiseSites.isSome = true ∧ Gen.escapingSites.isSome = true ∧
    Gen.escapingClasses.isSome = true ∧ Gen.excAncestors.isSome = true ∧
    Gen.partialSites.isSome = true := by decide

/-- SPEC: the documented failure classes: `ValueError` and its subclasses (hierarchy as generated
    from the source), and `NixSyntaxError` (which the property lists, see below). -/
def isDocumented (c : String) : Bool :=
  c == "NixSyntaxError" ||
  (match (Gen.excAncestors.getD []).lookup c with
   | some anc => anc.contains "ValueError"
   | none => c == "ValueError")

/-- Sites that the by-name call graph cannot exclude, with the reason each cannot fire on
    `parse(text).rebuild()`. None of them was ever observed by the oracle (checked on every run). -/
def excusedSites : List (String × String) := [
  -- `assert pending_comma_node is not None`: flush_pending_comma is only called under that very test
  ("AssertionError", "expressions/function/definition.py:_parse_argument_set>flush_pending_comma"),
  -- `assert isinstance(x, Comment)` for x = tree_sitter_node_to_expression(<node of type "comment">)
  ("AssertionError", "expressions/let.py:LetExpression.from_cst"),
  -- abstract stubs of the base class, reached only because `x.from_cst` / `x.rebuild` is resolved by name
  ("NotImplementedError", "expressions/expression.py:NixExpression.from_cst"),
  ("NotImplementedError", "expressions/expression.py:NixExpression.rebuild"),
  -- trivia lists built by from_cst hold only layout markers and comments
  ("NotImplementedError", "expressions/trivia.py:format_trivia"),
  -- reached only through `x.value` resolved by name (Parenthesis.value / NixList.value are fields;
  -- the property of the same name is Identifier.value, which parse/rebuild never reads)
  ("ResolutionError", "expressions/identifier.py:Identifier.value"),
  ("ResolutionError", "expressions/identifier.py:Identifier.value#set"),
  ("ResolutionError", "expressions/identifier.py:_resolve_identifier"),
  ("ResolutionError", "expressions/identifier.py:_resolve_identifier>_resolve_binding"),
  ("ResolutionError", "expressions/identifier.py:_resolve_identifier>_resolve_inherited_binding")
]

/-- Every explicit raise site that can escape parse / from_cst / rebuild raises a documented class,
    or is one of the excused sites. A new `raise TypeError(...)` in a `from_cst` breaks this. -/
theorem escaping_documented_or_excused :
    (Gen.escapingSites.getD []).all (fun s => isDocumented s.1 || excusedSites.contains s) = true := by
  decide +kernel

/-- No explicit site raises one of the classes the property names as internal errors (the excused
    `assert`s raise `AssertionError`, which is not among them). -/
theorem no_explicit_internal_error :
    (Gen.escapingSites.getD []).all
      (fun s => !(["IndexError", "AttributeError", "TypeError", "KeyError"].contains s.1)) = true := by
  decide +kernel

/-- The property says "ValueError, including NixSyntaxError"; in the source NixSyntaxError derives from
    SyntaxError, not from ValueError. Its only raise site (an ERROR child inside an attribute set) is
    behind the `has_error` gate of `NixSourceCode.from_cst`; the oracle checks that it never escapes. -/
theorem nixSyntaxError_is_not_a_ValueError :
    ((Gen.excAncestors.getD []).lookup "NixSyntaxError").map (fun a => a.contains "ValueError") = some false ∧
    ((Gen.excAncestors.getD []).lookup "NixSyntaxError").map (fun a => a.contains "SyntaxError") = some true := by
  decide +kernel

/-! ### Partial operations without a guard

`Gen.partialSites`: every `xs[<constant>]` and one-argument `next(it)` in a function reachable from
parse / from_cst / rebuild that is not dominated by a test of the same sequence (see
`gen_raises.partial_sites`). These are where an IndexError / StopIteration could come from without any
`raise` statement. The unchanged tree has the ten listed in `excusedPartial`; each is total for the reason given. A new unguarded
`value[0]` breaks the theorem even when no generated input reaches it. Other implicit failures
(attribute access on `None`, wrong argument types) are not inventoried: oracle only. -/

def excusedPartial : List (String × String × String) := [
  -- a `?` inside `formal` follows the formal's identifier (grammar); a MISSING identifier makes
  -- has_error true, so the tree never reaches from_cst
  ("index", "expressions/function/definition.py:_parse_argument_set", "argument_set[-1]"),
  -- guarded through `children_types` (same length): `len(children_types) < 2` / `< 3` raise ValueError first
  ("index", "expressions/function/definition.py:_parse_named_argument_set", "signature_nodes[0]"),
  ("index", "expressions/function/definition.py:_parse_named_argument_set", "signature_nodes[2]"),
  -- under `if inline_to_prev:` and inline_to_prev = (… and names)
  ("index", "expressions/inherit.py:Inherit.from_cst", "names[-1]"),
  -- render_names is only called under `if self.names:`
  ("index", "expressions/inherit.py:Inherit.rebuild>render_names", "self.names[0]"),
  -- under `if local_variables:`; the bindings were parsed from binding_set.children
  ("index", "expressions/let.py:LetExpression.from_cst", "binding_set.children[-1]"),
  ("index", "expressions/let.py:LetExpression.from_cst", "binding_set.children[0]"),
  -- a tree-sitter `Point` is a 2-tuple (row, column): both indices exist; the stub points of the unit
  -- tests are not subscriptable and raise TypeError, which the helper catches (fix 2e75052)
  ("index", "expressions/points.py:point_column", "point[1]"),
  ("index", "expressions/points.py:point_row", "point[0]"),
  -- API property, reached only because `slot.expr` is resolved by name; parse/rebuild never read it
  ("index", "expressions/source_code.py:NixSourceCode.expr", "self.expressions[0]")
]

theorem partial_sites_excused :
    (Gen.partialSites.getD []).all (fun s => excusedPartial.contains s) = true := by decide +kernel

/-! ## Non-vacuity -/

-- the side condition of `cost_partial` is met by nested if / list / parenthesis / let trees …
example : allEdges (fun k f => decide (mParsed k f ≤ 1))
    (nest [("IfExpression", "alternative"), ("Parenthesis", "value"), ("NixList", "value")] 3
      (leaf "Identifier")) = true := by decide +kernel
-- … and is violated by the finding families
example : allEdges (fun k f => decide (mParsed k f ≤ 1))
    (nest [("FunctionDefinition", "output")] 1 (leaf "Identifier")) = false := by decide +kernel
-- the recurrence on a concrete tree: `a: b: x` needs 11 calls for 6 nodes (as measured on the code)
example : calls mParsed (.node "NixSourceCode" [("expressions",
    .node "FunctionDefinition" [("argument_set", leaf "Identifier"),
      ("output", .node "FunctionDefinition" [("argument_set", leaf "Identifier"),
        ("output", leaf "Identifier")])])]) = 11 := by decide +kernel

end Nima.C20
