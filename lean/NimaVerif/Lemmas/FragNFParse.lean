import NimaVerif.Lemmas.FragNF
/-! The layout invariants (`Expr.nfInv`) of what `Cst.parse` builds, and the spacing normal form of
the whole round trip. Core Lean only. -/
namespace Nima.Frag
open Nima

/-! ### the parse side: layout invariants -/

theorem alt_append_single {ts : List Trivia} (h : Alt ts) (t : Trivia)
    (hc : closedT ts ∨ t.isLayout = false) : Alt (ts ++ [t]) := by
  match ts, h with
  | [], _ => trivial
  | [x], _ =>
    refine ⟨fun hh => ?_, trivial⟩
    rcases hc with (h0 | ⟨c, hl⟩) | hc
    · cases h0
    · simp at hl; subst hl; cases hh.1
    · rw [hc] at hh; cases hh.2
  | x :: y :: r, h =>
    have ih := alt_append_single (ts := y :: r) h.2 t (by
      rcases hc with (h0 | ⟨c, hl⟩) | hc
      · cases h0
      · exact Or.inl (Or.inr ⟨c, by rw [List.getLast?_cons_of_ne_nil (by simp)] at hl; exact hl⟩)
      · exact Or.inr hc)
    exact ⟨h.1, ih⟩

theorem alt_append_closed : ∀ {a b : List Trivia}, Alt a → closedT a → Alt b → Alt (a ++ b)
  | a, [], ha, _, _ => by simpa using ha
  | a, t :: b, ha, hc, hb => by
    have h1 : Alt (a ++ [t]) := alt_append_single ha t (Or.inl hc)
    have : a ++ t :: b = (a ++ [t]) ++ b := by simp
    rw [this]
    -- generalise: appending to a list whose last element is fixed
    clear this
    induction a with
    | nil => simpa using hb
    | cons x a ih =>
      cases a with
      | nil =>
        simp only [List.cons_append, List.nil_append] at h1 ⊢
        exact ⟨h1.1, hb⟩
      | cons y r =>
        simp only [List.cons_append] at h1 ⊢
        refine ⟨h1.1, ?_⟩
        have hc' : closedT (y :: r) := by
          rcases hc with h0 | ⟨c, hl⟩
          · cases h0
          · exact Or.inr ⟨c, by rw [List.getLast?_cons_of_ne_nil (by simp)] at hl; exact hl⟩
        exact ih (alt_tail ha) hc' h1.2

theorem closedT_append_comment (ts : List Trivia) (c : Comment) : closedT (ts ++ [.comment c]) :=
  Or.inr ⟨c, by simp⟩

theorem closedT_nil : closedT [] := Or.inl rfl

theorem alt_single (t : Trivia) : Alt [t] := trivial

theorem appendGapTriviaOff_cases (ts : List Trivia) (g : Text) (b : Bool) :
    appendGapTriviaOff ts g b = ts ∨ ∃ t, t.isLayout = true ∧ appendGapTriviaOff ts g b = ts ++ [t] := by
  unfold appendGapTriviaOff; split
  · exact Or.inl rfl
  · split
    · exact Or.inr ⟨_, rfl, rfl⟩
    · split
      · exact Or.inr ⟨_, rfl, rfl⟩
      · exact Or.inl rfl

theorem alt_appendGap {ts : List Trivia} (h : Alt ts) (hc : closedT ts) (g : Text) (b : Bool) :
    Alt (appendGapTriviaOff ts g b) := by
  rcases appendGapTriviaOff_cases ts g b with e | ⟨t, _, e⟩ <;> rw [e]
  · exact h
  · exact alt_append_single h t (Or.inl hc)

theorem appendGap_noNL (ts : List Trivia) {g : Text} (h : containsNL g = false) (b : Bool) :
    appendGapTriviaOff ts g b = ts := by
  unfold appendGapTriviaOff; simp [h]

/-- comments of a binding: the result is alternating and closed when the start is -/
theorem gcTrivia_alt : ∀ (cs : GC) (acc : List Trivia), Alt acc → closedT acc →
    Alt (gcTrivia acc cs) ∧ closedT (gcTrivia acc cs)
  | [], acc, ha, hc => ⟨ha, hc⟩
  | p :: rest, acc, ha, hc => by
    rw [gcTrivia]
    exact gcTrivia_alt rest _ (alt_append_single (alt_appendGap ha hc _ _) _ (Or.inr rfl)) (closedT_append_comment _ _)

theorem gcTrivia_ne_nil_hasCmt : ∀ (cs : GC) (acc : List Trivia), cs ≠ [] →
    (gcTrivia acc cs).any Trivia.isComment = true
  | [], _, h => absurd rfl h
  | p :: rest, acc, _ => by
    rw [gcTrivia]
    cases rest with
    | nil => simp [gcTrivia, Trivia.isComment]
    | cons q r => exact gcTrivia_ne_nil_hasCmt (q :: r) _ (by simp)

theorem gcTrivia_any_mono : ∀ (cs : GC) (acc : List Trivia), acc.any Trivia.isComment = true →
    (gcTrivia acc cs).any Trivia.isComment = true
  | [], _, h => h
  | p :: rest, acc, h => by
    rw [gcTrivia]
    apply gcTrivia_any_mono rest
    rw [List.any_append]
    rcases appendGapTriviaOff_cases acc p.1 true with e | ⟨t, _, e⟩ <;> rw [e]
    · simp [h]
    · simp [h]

theorem effAfter_setBefore (e : Expr) (b : List Trivia) (na : Bool) : (e.setBefore b).effAfter na = e.effAfter na := by
  cases e <;> rfl

theorem effAfter_addAfter (e : Expr) (ts : List Trivia) : (e.addAfter ts).effAfter false = e.effAfter false ++ ts := by
  cases e <;> simp [Expr.addAfter, Expr.setAfter, Expr.after, Expr.effAfter]

theorem nfInv_setBefore {e : Expr} (h : e.nfInv) {b : List Trivia} (hb : Alt b) : (e.setBefore b).nfInv := by
  cases e with
  | leaf k t b' a => exact ⟨h.1, hb, h.2.2⟩
  | list v m inn b' a => exact ⟨h.1, h.2.1, hb, h.2.2.2⟩
  | set v m r inn b' a => exact ⟨h.1, h.2.1, hb, h.2.2.2⟩
  | binding n v g b' a => exact ⟨h.1, h.2.1, h.2.2.1, hb, h.2.2.2.2⟩
  | paren v lg tg lb tb b' a => exact ⟨h.1, h.2.1, h.2.2.1, hb, h.2.2.2.2⟩
  | app n x g fa b' a => exact ⟨h.1, h.2.1, h.2.2.1, h.2.2.2.1, hb, h.2.2.2.2.2⟩
  | wth env bd c g s b' a => obtain ⟨h1, h2, h3, h4, _, h6⟩ := h; exact ⟨h1, h2, h3, h4, hb, h6⟩
  | asrt => exact h.elim
  | sel e ats g ab b' a => obtain ⟨h1, h2, h3, _, h5⟩ := h; exact ⟨h1, h2, h3, hb, h5⟩
  | selOr e ats g ab d dg db b' a => obtain ⟨h1, h2, h3, h4, h5, h6, _, h8⟩ := h; exact ⟨h1, h2, h3, h4, h5, h6, hb, h8⟩
  | lam n bcc g k body b' a => obtain ⟨h1, h2, h3, h4, h5, _, h7⟩ := h; exact ⟨h1, h2, h3, h4, h5, hb, h7⟩
  | un op e g bt b' a => obtain ⟨h1, h2, h3, h4, _, h6⟩ := h; exact ⟨h1, h2, h3, h4, hb, h6⟩
  | bin op l r x y b' a => obtain ⟨h1, h2, h3, h4, h5, _, h7⟩ := h; exact ⟨h1, h2, h3, h4, h5, hb, h7⟩
  | ite c t e cg aic aig btc btg atc tg bec beg aec eg b' a =>
    obtain ⟨h1, h2, h3, h4, h5, h6, h7, h8, h9, h10, h11, h12, _, h14⟩ := h
    exact ⟨h1, h2, h3, h4, h5, h6, h7, h8, h9, h10, h11, h12, hb, h14⟩
  | has e ats lg rg bq aq b' a => obtain ⟨h1, h2, h3, h4, h5, _, h7⟩ := h; exact ⟨h1, h2, h3, h4, h5, hb, h7⟩

theorem nfInv_addAfter {e : Expr} (h : e.nfInv) (hc : closedT (e.effAfter false)) {ts : List Trivia} (hts : Alt ts) :
    (e.addAfter ts).nfInv := by
  cases e with
  | leaf k t b a => exact ⟨h.1, h.2.1, alt_append_closed h.2.2 hc hts⟩
  | list v m inn b a => exact ⟨h.1, h.2.1, h.2.2.1, alt_append_closed h.2.2.2.1 hc hts, h.2.2.2.2⟩
  | set v m r inn b a => exact ⟨h.1, h.2.1, h.2.2.1, alt_append_closed h.2.2.2.1 hc hts, h.2.2.2.2⟩
  | binding n v g b a =>
    refine ⟨h.1, h.2.1, h.2.2.1, h.2.2.2.1, ?_, h.2.2.2.2.2⟩
    show Alt (v.after ++ (a ++ ts))
    rw [← List.append_assoc]
    exact alt_append_closed h.2.2.2.2.1 hc hts
  | paren v lg tg lb tb b a => exact ⟨h.1, h.2.1, h.2.2.1, h.2.2.2.1, alt_append_closed h.2.2.2.2 hc hts⟩
  | app n x g fa b a => exact ⟨h.1, h.2.1, h.2.2.1, h.2.2.2.1, h.2.2.2.2.1, alt_append_closed h.2.2.2.2.2 hc hts⟩
  | wth env bd c g s b a => obtain ⟨h1, h2, h3, h4, h5, h6⟩ := h; exact ⟨h1, h2, h3, h4, h5, alt_append_closed h6 hc hts⟩
  | asrt => exact h.elim
  | sel e ats g ab b a => obtain ⟨h1, h2, h3, h4, h5⟩ := h; exact ⟨h1, h2, h3, h4, alt_append_closed h5 hc hts⟩
  | selOr e ats g ab d dg db b a =>
    obtain ⟨h1, h2, h3, h4, h5, h6, h7, h8⟩ := h; exact ⟨h1, h2, h3, h4, h5, h6, h7, alt_append_closed h8 hc hts⟩
  | lam n bcc g k body b a => obtain ⟨h1, h2, h3, h4, h5, h6, h7⟩ := h; exact ⟨h1, h2, h3, h4, h5, h6, alt_append_closed h7 hc hts⟩
  | un op e g bt b a => obtain ⟨h1, h2, h3, h4, h5, h6⟩ := h; exact ⟨h1, h2, h3, h4, h5, alt_append_closed h6 hc hts⟩
  | bin op l r x y b a => obtain ⟨h1, h2, h3, h4, h5, h6, h7⟩ := h; exact ⟨h1, h2, h3, h4, h5, h6, alt_append_closed h7 hc hts⟩
  | ite c t e cg aic aig btc btg atc tg bec beg aec eg b a =>
    obtain ⟨h1, h2, h3, h4, h5, h6, h7, h8, h9, h10, h11, h12, h13, h14⟩ := h
    exact ⟨h1, h2, h3, h4, h5, h6, h7, h8, h9, h10, h11, h12, h13, alt_append_closed h14 hc hts⟩
  | has e ats lg rg bq aq b a => obtain ⟨h1, h2, h3, h4, h5, h6, h7⟩ := h; exact ⟨h1, h2, h3, h4, h5, h6, alt_append_closed h7 hc hts⟩

theorem closedT_append {a b : List Trivia} (ha : closedT a) (hb : closedT b) : closedT (a ++ b) := by
  rcases hb with h | ⟨c, hc⟩
  · subst h; simpa using ha
  · have hne : b ≠ [] := by intro e; subst e; cases hc
    refine Or.inr ⟨c, ?_⟩
    rw [List.getLast?_append]; simp [hc]

def allClosed : List Expr → Prop
  | [] => True
  | e :: rest => closedT (e.effAfter false) ∧ allClosed rest

theorem allNfInv_append : ∀ {a b : List Expr}, allNfInv a → allNfInv b → allNfInv (a ++ b)
  | [], _, _, hb => hb
  | _ :: _, _, ha, hb => ⟨ha.1, allNfInv_append ha.2 hb⟩
theorem allClosed_append : ∀ {a b : List Expr}, allClosed a → allClosed b → allClosed (a ++ b)
  | [], _, _, hb => hb
  | _ :: _, _, ha, hb => ⟨ha.1, allClosed_append ha.2 hb⟩

theorem modifyLast_nfInv : ∀ {items : List Expr} {ts : List Trivia}, allNfInv items → allClosed items → Alt ts →
    allNfInv (modifyLast (fun e => e.addAfter ts) items)
  | [], _, _, _, _ => trivial
  | [_], _, h, hc, ht => ⟨nfInv_addAfter h.1 hc.1 ht, trivial⟩
  | _ :: e' :: rest, _, h, hc, ht => ⟨h.1, modifyLast_nfInv (items := e' :: rest) h.2 hc.2 ht⟩

theorem modifyLast_closed : ∀ {items : List Expr} {ts : List Trivia}, allClosed items → closedT ts →
    allClosed (modifyLast (fun e => e.addAfter ts) items)
  | [], _, _, _ => trivial
  | [e], _, hc, ht => ⟨by rw [effAfter_addAfter]; exact closedT_append hc.1 ht, trivial⟩
  | e :: e' :: rest, _, hc, ht => ⟨hc.1, modifyLast_closed (items := e' :: rest) hc.2 ht⟩

theorem nonLastClosed_modifyLast (f : Expr → Expr) : ∀ {items : List Expr}, allClosed items →
    nonLastClosed (modifyLast f items)
  | [], _ => trivial
  | [e], _ => trivial
  | e :: e' :: rest, hc => by
    have ih := nonLastClosed_modifyLast f (items := e' :: rest) hc.2
    cases rest with
    | nil => exact ⟨hc.1, trivial⟩
    | cons x r => exact ⟨hc.1, ih⟩

theorem nonLastClosed_of_all : ∀ {items : List Expr}, allClosed items → nonLastClosed items
  | [], _ => trivial
  | [_], _ => trivial
  | _ :: e' :: rest, hc => ⟨hc.1, nonLastClosed_of_all (items := e' :: rest) hc.2⟩

theorem closed_last_modifyLast : ∀ {items : List Expr} {ts : List Trivia}, items ≠ [] → allClosed items → closedT ts →
    ts ≠ [] → allClosed (modifyLast (fun e => e.addAfter ts) items) := fun _ hc ht _ => modifyLast_closed hc ht

theorem leafOk_ne_semi {k : LeafKind} {t : Text} (h : leafOk k t = true) : t ≠ [';'] := by
  intro e; subst e
  cases k <;> simp [leafOk, isIdentChar, isAsciiLetter, isAsciiDigit, isWsChar] at h

theorem nameOk_ne_semi {n : Text} (h : nameOk n = true) : n ≠ [';'] := by
  simp only [nameOk, Bool.and_eq_true, bne_iff_ne, ne_eq] at h
  exact h.2

theorem appendGap_ne_nil_NL {g : Text} {b : Bool} (h : appendGapTriviaOff [] g b ≠ []) : containsNL g = true := by
  cases hc : containsNL g with
  | true => rfl
  | false => rw [appendGap_noNL [] hc] at h; exact absurd rfl h

theorem any_isComment_append_left {a b : List Trivia} (h : a.any Trivia.isComment = true) :
    (a ++ b).any Trivia.isComment = true := by rw [List.any_append, h]; rfl

theorem bv_onNewline (c1 c2 : GC) (g2 : Text) :
    bindOnNewline (flattenGC c2 ++ g2) (appendGapTriviaOff (gcTrivia (gcTrivia [] c1) c2) g2) = false →
    appendGapTriviaOff (gcTrivia (gcTrivia [] c1) c2) g2 = [] := by
  intro hb
  unfold bindOnNewline at hb
  simp only [Bool.or_eq_false_iff] at hb
  have hany : (gcTrivia (gcTrivia [] c1) c2).any Trivia.isComment = false := by
    cases hx : (gcTrivia (gcTrivia [] c1) c2).any Trivia.isComment with
    | false => rfl
    | true =>
      have : (appendGapTriviaOff (gcTrivia (gcTrivia [] c1) c2) g2).any Trivia.isComment = true := by
        rcases appendGapTriviaOff_cases (gcTrivia (gcTrivia [] c1) c2) g2 true with e | ⟨t, _, e⟩ <;> rw [e]
        · exact hx
        · exact any_isComment_append_left hx
      rw [this] at hb; cases hb.2
  have hc1 : c1 = [] := by
    cases c1 with
    | nil => rfl
    | cons p r =>
      have := gcTrivia_any_mono c2 _ (gcTrivia_ne_nil_hasCmt (p :: r) [] (by simp))
      rw [this] at hany; cases hany
  have hc2 : c2 = [] := by
    cases c2 with
    | nil => rfl
    | cons p r =>
      have := gcTrivia_ne_nil_hasCmt (p :: r) (gcTrivia [] c1) (by simp)
      rw [this] at hany; cases hany
  subst hc1; subst hc2
  simp only [gcTrivia, flattenGC, List.flatMap_nil, List.nil_append] at hb ⊢
  cases hnl : containsNL g2 with
  | false => exact appendGap_noNL [] hnl true
  | true => rw [fromGap_onNewline_eq, hnl] at hb; cases hb.1

/-- the comments `Binding.from_cst` puts behind the value alternate with layout and end closed -/
theorem bindTail_alt (c3 : GC) : Alt (bindTail c3) ∧ closedT (bindTail c3) := by
  cases c3 with
  | nil => exact ⟨trivial, closedT_nil⟩
  | cons p rest =>
    simp only [bindTail]
    split
    · have s3 := gcTrivia_alt rest [] trivial closedT_nil
      exact ⟨alt_append_closed (a := [_]) trivial (closedT_append_comment [] _) s3.1,
        closedT_append (a := [_]) (closedT_append_comment [] _) s3.2⟩
    · exact gcTrivia_alt (p :: rest) [] trivial closedT_nil

theorem binding_nf {n : Text} {c1 c2 c3 : GC} {g2 : Text} {ve b : Expr} {before : List Trivia}
    (hn : nameOk n = true) (hb : bindingFromCst n c1 c2 g2 ve c3 before = .ok b)
    (hve : ve.nfInv) (hvb : ve.before = []) (hva : ve.after = []) (hnb : ve.notBinding = true)
    (hbf : Alt before) : b.nfInv ∧ closedT (b.effAfter false) := by
  have s12 := gcTrivia_alt c2 _ (gcTrivia_alt c1 [] trivial closedT_nil).1 (gcTrivia_alt c1 [] trivial closedT_nil).2
  have hbv : Alt (appendGapTriviaOff (gcTrivia (gcTrivia [] c1) c2) g2 ++ ve.before) := by
    rw [hvb, List.append_nil]; exact alt_appendGap s12.1 s12.2 _ _
  have hv1 : (ve.setBefore (appendGapTriviaOff (gcTrivia (gcTrivia [] c1) c2) g2 ++ ve.before)).nfInv :=
    nfInv_setBefore hve hbv
  have hnb1 : (ve.setBefore (appendGapTriviaOff (gcTrivia (gcTrivia [] c1) c2) g2 ++ ve.before)).notBinding = true := by
    rw [notBinding_setBefore]; exact hnb
  have heff1 : (ve.setBefore (appendGapTriviaOff (gcTrivia (gcTrivia [] c1) c2) g2 ++ ve.before)).effAfter false = [] := by
    rw [effAfter_setBefore, effAfter_notBinding hnb, hva]
  have hon : bindOnNewline (flattenGC c2 ++ g2)
      (appendGapTriviaOff (gcTrivia (gcTrivia [] c1) c2) g2 ++ ve.before) = false →
      appendGapTriviaOff (gcTrivia (gcTrivia [] c1) c2) g2 ++ ve.before = [] := by
    rw [hvb, List.append_nil]; exact bv_onNewline c1 c2 g2
  have ht := bindTail_alt c3
  rw [bindingFromCst_ok hb]
  have hv2 := nfInv_addAfter hv1 (by rw [heff1]; exact closedT_nil) ht.1
  refine ⟨⟨nameOk_ne_semi hn, hv2, by rw [notBinding_addAfter]; exact hnb1, hbf, ?_, ?_, ?_⟩, ?_⟩
  · simp only [after_addAfter, after_setBefore, hva, List.nil_append, List.append_nil]; exact ht.1
  · simp only [after_addAfter, after_setBefore, hva, List.nil_append]; exact ht.1
  · simpa using hon
  · simp only [Expr.effAfter, after_addAfter, after_setBefore, hva, List.nil_append, List.append_nil,
      Bool.false_eq_true, if_false]; exact ht.2

/-- the loop state of `parse_delimited_sequence` as far as layout goes -/
def StN (st : SeqSt) : Prop :=
  allNfInv st.items ∧ allClosed st.items ∧ Alt st.before ∧
  (st.prev ≠ .none → closedT st.before) ∧
  (st.prev = .none → (st.before = [] ∨ st.before = [.emptyLine]) ∧ st.items = [])

theorem pushGap_alt {st : SeqSt} (h : StN st) (g : Text) : Alt (pushGap st g) := by
  unfold pushGap; split
  · exact h.2.2.1
  · rename_i hp
    exact alt_appendGap h.2.2.1 (h.2.2.2.1 (by simpa using hp)) _ _

theorem seqComment_nf (m : Mode) {st : SeqSt} (h : StN st) (g t : Text) : StN (seqComment m st g t) := by
  unfold seqComment
  split
  · rename_i hin
    rw [canInline_eq] at hin
    simp only [Bool.and_eq_true, Bool.not_eq_true'] at hin
    have hnl : containsNL g = false := hin.1.2
    have hpn : st.prev ≠ .none := by
      cases m <;> (intro e; rw [e] at hin; simp [prevAllowsInline] at hin)
    have hpg : pushGap st g = st.before := by
      unfold pushGap; split
      · rfl
      · exact appendGap_noNL _ hnl _
    refine ⟨modifyLast_nfInv h.1 h.2.1 trivial, modifyLast_closed h.2.1 (closedT_append_comment [] _), ?_, ?_, ?_⟩
    · rw [hpg]; exact h.2.2.1
    · intro _; rw [hpg]; exact h.2.2.2.1 hpn
    · intro e; cases e
  · refine ⟨h.1, h.2.1, alt_append_single (pushGap_alt h g) _ (Or.inr rfl), fun _ => closedT_append_comment _ _,
      fun e => by cases e⟩

theorem openBefore_cases (its : Items) : openBefore its = [] ∨ openBefore its = [.emptyLine] := by
  unfold openBefore
  cases its.firstGap with
  | none => exact Or.inl rfl
  | some g => simp only; split
              · exact Or.inr rfl
              · exact Or.inl rfl

theorem stN_init (its : Items) : StN { before := openBefore its } := by
  refine ⟨trivial, trivial, ?_, fun h => absurd rfl h, fun _ => ⟨openBefore_cases its, rfl⟩⟩
  rcases openBefore_cases its with h | h <;> rw [h] <;> trivial

/-- `finishSeq` keeps the layout invariants: a pending `before` is closed when there is content, so it can be handed
    to the last item or become the inner trivia -/
theorem finishSeq_nf {st : SeqSt} (h : StN st) (cgo : Option Text) (hc : Bool)
    (hcont : hc = true → st.prev ≠ .none) :
    allNfInv (finishSeq st cgo hc).1 ∧ nonLastClosed (finishSeq st cgo hc).1 ∧ Alt (finishSeq st cgo hc).2 ∧
    (cgo = none → allClosed (finishSeq st cgo hc).1) := by
  obtain ⟨hinv, hcl, halt, hpc, hpn⟩ := h
  -- when there is content, `before` is closed
  have stage1 : ∃ items inner, (if st.before.isEmpty then (st.items, []) else if st.items.isEmpty then ([], st.before)
        else (modifyLast (fun e => e.addAfter st.before) st.items, [])) = ((items, inner) : List Expr × List Trivia) ∧
      allNfInv items ∧ Alt inner ∧ (hc = true → allClosed items ∧ closedT inner) ∧
      (st.prev ≠ .none → allClosed items) ∧ nonLastClosed items := by
    by_cases hb : st.before.isEmpty = true
    · exact ⟨st.items, [], by rw [if_pos hb], hinv, trivial, fun _ => ⟨hcl, closedT_nil⟩, fun _ => hcl,
        nonLastClosed_of_all hcl⟩
    · by_cases hi : st.items.isEmpty = true
      · exact ⟨[], st.before, by rw [if_neg hb, if_pos hi], trivial, halt,
          fun hh => ⟨trivial, hpc (hcont hh)⟩, fun _ => trivial, trivial⟩
      · exact ⟨_, [], by rw [if_neg hb, if_neg hi], modifyLast_nfInv hinv hcl halt, trivial,
          fun hh => ⟨modifyLast_closed hcl (hpc (hcont hh)), closedT_nil⟩,
          fun hp => modifyLast_closed hcl (hpc hp), nonLastClosed_modifyLast _ hcl⟩
  obtain ⟨items, inner, he, h1, h2, h3, h4, h5⟩ := stage1
  unfold finishSeq
  simp only [he]
  cases cgo with
  | none =>
    refine ⟨h1, h5, h2, fun _ => ?_⟩
    by_cases hp : st.prev = .none
    · -- nothing was parsed: the items are those of the start state
      by_cases hb : st.before.isEmpty = true
      · rw [if_pos hb] at he; injection he with he1 _; rw [← he1]; exact hcl
      · by_cases hi : st.items.isEmpty = true
        · rw [if_neg hb, if_pos hi] at he; injection he with he1 _; rw [← he1]; trivial
        · have := (hpn hp).2
          rw [this] at hi; exact absurd rfl hi
    · exact h4 hp
  | some cg =>
    simp only
    split
    · rename_i hcond
      simp only [Bool.and_eq_true] at hcond
      obtain ⟨hcl', hci⟩ := h3 hcond.1
      split
      · exact ⟨h1, h5, alt_append_single h2 _ (Or.inl hci), fun e => by cases e⟩
      · exact ⟨modifyLast_nfInv h1 hcl' trivial, nonLastClosed_modifyLast _ hcl', h2, fun e => by cases e⟩
    · exact ⟨h1, h5, h2, fun e => by cases e⟩

theorem alt_emptyInner {items : List Expr} {inner : List Trivia} (h : Alt inner) (between : Text) :
    Alt (emptyInner items inner between) := by
  unfold emptyInner; split
  · split <;> trivial
  · exact h

theorem seqComment_prev (m : Mode) (st : SeqSt) (g t : Text) : (seqComment m st g t).prev = .cmt := by
  unfold seqComment; split <;> rfl

theorem parseSeq_prev : (its : Items) → ∀ (m : Mode) (st st' : SeqSt), its.parseSeq m st = .ok st' →
    (its.isNil = false ∨ st.prev ≠ .none) → st'.prev ≠ .none
  | .nil, _, st, st', hp, h => by
    simp only [Items.parseSeq] at hp; injection hp with hp; subst hp
    rcases h with h | h
    · cases h
    · exact h
  | .cmt g t rest, m, st, st', hp, _ => by
    simp only [Items.parseSeq] at hp
    exact parseSeq_prev rest m _ st' hp (Or.inr (by rw [seqComment_prev]; simp))
  | .elem g c rest, m, st, st', hp, _ => by
    obtain ⟨e, _, _, hp'⟩ := parseSeq_elem_ok hp
    exact parseSeq_prev rest m _ st' hp' (Or.inr (by simp))
  | .bind g n c1 g1 c2 g2 v c3 g3 rest, m, st, st', hp, _ => by
    obtain ⟨ve, b, _, _, _, hp'⟩ := parseSeq_bind_ok hp
    exact parseSeq_prev rest m _ st' hp' (Or.inr (by simp))

theorem parseSeq_prev_of_content (its : Items) (m : Mode) (st st' : SeqSt) (hp : its.parseSeq m st = .ok st')
    (h : its.isNil = false) : st'.prev ≠ .none := parseSeq_prev its m st st' hp (Or.inl h)

/-! ### top level: nothing in front of the first token -/

def headBeforeOk : List Expr → Prop
  | [] => True
  | e :: _ => e.before = [] ∨ headCmt e.before

def HeadInv (st : SeqSt) : Prop :=
  (st.items = [] → (st.prev = .none ∧ st.before = []) ∨ (st.prev ≠ .none ∧ headCmt st.before)) ∧
  headBeforeOk st.items

theorem headCmt_append {a : List Trivia} (h : headCmt a) (b : List Trivia) : headCmt (a ++ b) := by
  cases a with
  | nil => exact absurd h (by simp [headCmt])
  | cons x r => cases x <;> simp [headCmt] at h ⊢

theorem headCmt_appendGap {a : List Trivia} (h : headCmt a) (g : Text) (b : Bool) :
    headCmt (appendGapTriviaOff a g b) := by
  rcases appendGapTriviaOff_cases a g b with e | ⟨t, _, e⟩ <;> rw [e]
  · exact h
  · exact headCmt_append h _

theorem headBeforeOk_modifyLast (ts : List Trivia) : ∀ {l : List Expr}, headBeforeOk l →
    headBeforeOk (modifyLast (fun e => e.addAfter ts) l)
  | [], _ => trivial
  | [e], h => by simpa [modifyLast, headBeforeOk] using h
  | e :: e' :: r, h => h

theorem headBeforeOk_append {l : List Expr} (hne : l ≠ []) (h : headBeforeOk l) (l' : List Expr) :
    headBeforeOk (l ++ l') := by
  cases l with
  | nil => exact absurd rfl hne
  | cons e r => exact h

theorem modifyLast_ne_nil {α : Type} (f : α → α) {l : List α} (h : l ≠ []) : modifyLast f l ≠ [] := by
  intro e
  have := modifyLast_isEmpty f l
  rw [e] at this
  cases l with
  | nil => exact h rfl
  | cons _ _ => cases this

theorem items_head : (its : Items) → ∀ (m : Mode) (cg : Text) (st st' : SeqSt), (m = .file ∨ m = .paren) →
    its.wf m cg = true → its.parseSeq m st = .ok st' → HeadInv st → HeadInv st'
  | .nil, m, cg, st, st', _, _, hp, h => by
    simp only [Items.parseSeq] at hp; injection hp with hp; subst hp; exact h
  | .cmt g t rest, m, cg, st, st', hm, hwf, hp, h => by
    simp only [Items.wf, Bool.and_eq_true] at hwf
    simp only [Items.parseSeq] at hp
    refine items_head rest m cg _ st' hm hwf.2 hp ?_
    unfold seqComment
    split
    · rename_i hin
      rw [canInline_eq] at hin
      simp only [Bool.and_eq_true, Bool.not_eq_true', List.isEmpty_eq_false_iff] at hin
      exact ⟨fun he => absurd he (modifyLast_ne_nil _ hin.2), headBeforeOk_modifyLast _ h.2⟩
    · refine ⟨fun he => Or.inr ⟨by simp, ?_⟩, h.2⟩
      simp only at he
      rcases h.1 he with ⟨hp0, hb0⟩ | ⟨hp1, hb1⟩
      · unfold pushGap; simp [hp0, hb0, headCmt]
      · unfold pushGap
        have : (st.prev == Prev.none) = false := by simpa using hp1
        simp only [this, Bool.false_eq_true, if_false]
        exact headCmt_append (headCmt_appendGap hb1 _ _) _
  | .elem g c rest, m, cg, st, st', hm, hwf, hp, h => by
    simp only [Items.wf, Bool.and_eq_true] at hwf
    obtain ⟨e, hpe, _, hp'⟩ := parseSeq_elem_ok hp
    have heb := (parse_fresh hwf.1.2 hpe).1
    have hnl : (if m = Mode.list then [] else e.before) = e.before := by rcases hm with rfl | rfl <;> rfl
    rw [hnl] at hp'
    refine items_head rest m cg _ st' hm hwf.2 hp' ⟨fun he => by simp at he, ?_⟩
    by_cases hi : st.items = []
    · rw [hi]
      simp only [List.nil_append, headBeforeOk, before_setBefore]
      rcases h.1 hi with ⟨hp0, hb0⟩ | ⟨hp1, hb1⟩
      · left
        have : pushGap st g = [] := by unfold pushGap; simp [hp0, hb0]
        rw [this, heb]; rfl
      · right
        unfold pushGap
        have : (st.prev == Prev.none) = false := by simpa using hp1
        simp only [this, Bool.false_eq_true, if_false]
        exact headCmt_append (headCmt_appendGap hb1 _ _) _
    · exact headBeforeOk_append hi h.2 _
  | .bind g n c1 g1 c2 g2 v c3 g3 rest, m, cg, st, st', hm, _, hp, _ => by
    obtain ⟨_, _, _, rfl, _⟩ := parseSeq_bind_ok hp
    rcases hm with hm | hm <;> cases hm

theorem finishSeq_none_head (st : SeqSt) (hc : Bool) (h : headBeforeOk st.items) :
    headBeforeOk (finishSeq st none hc).1 := by
  unfold finishSeq
  by_cases hb : st.before.isEmpty = true
  · simp only [hb, if_true]; exact h
  · by_cases hi : st.items.isEmpty = true
    · simp only [hb, hi, if_true, Bool.false_eq_true, if_false]; trivial
    · simp only [hb, hi, Bool.false_eq_true, if_false]; exact headBeforeOk_modifyLast _ h

theorem leadE_of_head {ts : List Trivia} (h : ts = [] ∨ headCmt ts) : leadE ts = 0 := by
  rcases h with h | h
  · subst h; rfl
  · cases ts with
    | nil => rfl
    | cons t r => cases t <;> simp [headCmt] at h <;> rfl

theorem alt_appBeforeArg (sp : AppSplit) (g : Text) : Alt (appBeforeArg sp g) := by
  unfold appBeforeArg
  split
  · trivial
  · have h := gcTrivia_alt sp.rest [] trivial closedT_nil
    split
    · exact alt_append_single h.1 _ (Or.inl h.2)
    · simpa using h.1

/-- `FunctionCall.from_cst`: the layout invariants -/
theorem app_nf {fe ae : Expr} (cs : GC) (g : Text) (hf : fe.nfInv) (hfb : fe.before = []) (ha : ae.nfInv)
    (hab : ae.before = []) : (appFromCst fe ae cs g).nfInv := by
  unfold appFromCst
  simp only [hab, List.append_nil]
  have halt := alt_appBeforeArg (appSplit cs true true []) g
  refine ⟨hf, nfInv_setBefore ha ?_, hfb, fun hon => ?_, trivial, trivial⟩
  · split
    · exact alt_dropWhile _ halt
    · exact halt
  · simp only [hon, if_true, before_setBefore]
    exact leadE_dropWhile _


mutual
theorem cst_nf : (c : Cst) → c.wf = true → c.basic = true → ∀ (e : Expr), c.parse = .ok e →
    e.nfInv ∧ e.before = [] ∧ e.after = [] ∧ e.notBinding = true
  | .kw w c1 g1 h c2 g2 c3 g3 b, hwf, hbs, ex, hp => by
    simp only [Cst.wf, Bool.and_eq_true, List.isEmpty_iff] at hwf
    obtain ⟨⟨⟨⟨⟨⟨⟨rfl, _⟩, hhw⟩, rfl⟩, _⟩, rfl⟩, _⟩, hbw⟩ := hwf
    simp only [Cst.basic, Bool.and_eq_true] at hbs
    obtain ⟨⟨rfl, hhb⟩, hbb⟩ := hbs
    obtain ⟨he, be, hph, hpb, rfl⟩ := parse_kw_ok hp
    obtain ⟨hhn, hhbf, _, _⟩ := cst_nf h hhw hhb he hph
    obtain ⟨hbn, hbbf, _, _⟩ := cst_nf b hbw hbb be hpb
    rw [if_pos rfl, withFromCst_shape]
    refine ⟨⟨hhn, hhbf, rfl, ?_, trivial, trivial⟩, rfl, rfl, rfl⟩
    rcases appendGapTrivia_cases (g2 ++ ';' :: g3) with e | e | e <;> rw [e]
    · exact hbn
    · exact nfInv_setBefore hbn (by rw [hbbf]; trivial)
    · exact nfInv_setBefore hbn (by rw [hbbf]; trivial)
  | .sel e c1 g1 gd attrs, hwf, hbs, ex, hp => by
    simp only [Cst.wf, Bool.and_eq_true, List.isEmpty_iff] at hwf
    obtain ⟨⟨⟨⟨⟨hew, rfl⟩, _⟩, _⟩, _⟩, _⟩ := hwf
    simp only [Cst.basic] at hbs
    obtain ⟨ee, hpe, rfl⟩ := parse_sel_ok hp
    obtain ⟨hen, heb, _, _⟩ := cst_nf e hew hbs ee hpe
    exact ⟨⟨hen, heb, by simp [collectTrivia, collectGo], trivial, trivial⟩, rfl, rfl, rfl⟩
  | .selOr e c1 g1 gd attrs c2 g2 g3 d, hwf, hbs, ex, hp => by
    simp only [Cst.wf, Bool.and_eq_true, List.isEmpty_iff] at hwf
    obtain ⟨⟨⟨⟨⟨⟨⟨⟨⟨hew, rfl⟩, _⟩, _⟩, _⟩, _⟩, rfl⟩, _⟩, _⟩, hdw⟩ := hwf
    simp only [Cst.basic, Bool.and_eq_true] at hbs
    obtain ⟨ee, de, hpe, hpd, rfl⟩ := parse_selOr_ok hp
    obtain ⟨hen, heb, _, _⟩ := cst_nf e hew hbs.1 ee hpe
    obtain ⟨hdn, hdb, _, _⟩ := cst_nf d hdw hbs.2 de hpd
    exact ⟨⟨hen, heb, by simp [collectTrivia, collectGo], hdn, hdb, by simp [collectTrivia, collectGo], trivial, trivial⟩,
      rfl, rfl, rfl⟩
  | .lam n c1 g1 c2 g2 b, hwf, hbs, ex, hp => by
    simp only [Cst.wf, Bool.and_eq_true, List.isEmpty_iff] at hwf
    obtain ⟨⟨⟨⟨⟨hn, rfl⟩, _⟩, rfl⟩, _⟩, hbw⟩ := hwf
    simp only [Cst.basic, Bool.and_eq_true, decide_eq_true_eq] at hbs
    obtain ⟨be, hpb, rfl⟩ := parse_lam_ok hp
    obtain ⟨hbn, hbb, _, _⟩ := cst_nf b hbw hbs.2 be hpb
    have hnsemi : n ≠ [';'] := by
      intro h; subst h; revert hn; decide
    have hk : (if g2.count '\n' > 0 then 1 else 0) ≤ 1 := by split <;> omega
    refine ⟨?_, rfl, rfl, rfl⟩
    unfold lamFromCst
    simp only
    by_cases hc : g2.count '\n' ≤ 1
    · have h0 : g2.count '\n' - 1 = 0 := by omega
      simp only [h0, List.replicate_zero, List.isEmpty_nil, if_true]
      refine ⟨hbn, by simp [collectTrivia, collectGo], hk, fun _ => hbb, hnsemi, trivial, trivial⟩
    · have h1 : g2.count '\n' - 1 = 1 := by omega
      have hpos : g2.count '\n' > 0 := by omega
      simp only [h1, List.replicate_one, List.isEmpty_cons, Bool.false_eq_true, if_false, hpos, if_true]
      refine ⟨nfInv_setBefore hbn (by rw [hbb]; trivial), by simp [collectTrivia, collectGo], Nat.le_refl _,
        (fun h => by cases h), hnsemi, trivial, trivial⟩
  | .un op c g e, hwf, hbs, ex, hp => by
    simp only [Cst.wf, Bool.and_eq_true, List.isEmpty_iff] at hwf
    obtain ⟨⟨⟨hop, rfl⟩, _⟩, hew⟩ := hwf
    simp only [Cst.basic] at hbs
    obtain ⟨ee, hpe, rfl⟩ := parse_un_ok hp
    obtain ⟨hen, heb, _, _⟩ := cst_nf e hew hbs ee hpe
    have hopsemi : op ≠ [';'] := by
      intro h; subst h; revert hop; decide
    exact ⟨⟨hen, heb, by simp [collectTrivia, collectGo], hopsemi, trivial, trivial⟩, rfl, rfl, rfl⟩
  | .bin l c1 g1 op c2 g2 r, hwf, hbs, ex, hp => by
    simp only [Cst.wf, Bool.and_eq_true, List.isEmpty_iff] at hwf
    obtain ⟨⟨⟨⟨⟨⟨⟨hlw, _⟩, _⟩, hop⟩, _⟩, _⟩, _⟩, hrw⟩ := hwf
    simp only [Cst.basic, Bool.and_eq_true] at hbs
    obtain ⟨le, re, hpl, hpr, rfl⟩ := parse_bin_ok hp
    obtain ⟨hln, hlb, _, _⟩ := cst_nf l hlw hbs.1 le hpl
    obtain ⟨hrn, hrb, _, _⟩ := cst_nf r hrw hbs.2 re hpr
    have hopsemi : op ≠ [';'] := by
      intro h; subst h; revert hop; decide
    exact ⟨⟨hln, hlb, hrn, hrb, hopsemi, trivial, trivial⟩, rfl, rfl, rfl⟩
  | .ite c1 g1 c c2 g2 c3 g3 t c4 g4 c5 g5 e, hwf, hbs, ex, hp => by
    obtain ⟨⟨rfl, rfl, rfl, rfl, rfl⟩, ⟨hcw, htw, hew⟩, _⟩ := ite_wf hwf
    simp only [Cst.basic, Bool.and_eq_true] at hbs
    obtain ⟨ce, te, ee, hpc, hpt, hpe, rfl⟩ := parse_ite_ok hp
    obtain ⟨hcn, hcb, _, _⟩ := cst_nf c hcw hbs.1.1 ce hpc
    obtain ⟨htn, htb, _, _⟩ := cst_nf t htw hbs.1.2 te hpt
    obtain ⟨hen, heb, _, _⟩ := cst_nf e hew hbs.2 ee hpe
    rw [iteFromCst_nil]
    exact ⟨⟨hcn, hcb, htn, htb, hen, heb, rfl, rfl, rfl, rfl, rfl, rfl, trivial, trivial⟩, rfl, rfl, rfl⟩
  | .has e c1 g1 c2 g2 attrs, hwf, hbs, ex, hp => by
    have hall : attrs.all attrSegOk = true := by
      simp only [Cst.wf, Bool.and_eq_true] at hwf; exact hwf.2
    obtain ⟨⟨rfl, rfl⟩, hew, _, _, _⟩ := has_wf hwf
    simp only [Cst.basic] at hbs
    obtain ⟨ee, hpe, rfl⟩ := parse_has_ok hp
    obtain ⟨hen, heb, _, _⟩ := cst_nf e hew hbs ee hpe
    have hsemi : ∀ x ∈ attrs, x ≠ [';'] := by
      intro x hx
      have := (List.all_eq_true.mp hall) x hx
      simp only [attrSegOk, Bool.and_eq_true, bne_iff_ne, ne_eq] at this
      exact this.2
    exact ⟨⟨hen, heb, by simp [collectTrivia, collectGo], by simp [collectTrivia, collectGo], hsemi, trivial, trivial⟩,
      rfl, rfl, rfl⟩
  | .paren its cg, hwf, hbs, e, hp => by
    simp only [Cst.wf, Bool.and_eq_true, beq_iff_eq] at hwf
    obtain ⟨st', v, hps, hr, rfl⟩ := parse_paren_ok hp
    have hst : StN st' := items_nf its .paren cg {} st' hwf.1.1 (by simpa [Cst.basic] using hbs) hps
      ⟨trivial, trivial, trivial, fun h => absurd rfl h, fun _ => ⟨Or.inl rfl, rfl⟩⟩
    have hhd : HeadInv st' := items_head its .paren cg {} st' (Or.inr rfl) hwf.1.1 hps
      ⟨fun _ => Or.inl ⟨rfl, rfl⟩, trivial⟩
    have hf := finishSeq_nf hst none (!its.isNil) (fun h =>
      parseSeq_prev_of_content its _ _ st' hps (by simpa using h))
    have hh := finishSeq_none_head st' (!its.isNil) hhd.2
    rw [hr] at hf hh
    exact ⟨⟨hf.1.1, (hf.2.2.2 rfl).1, leadE_of_head hh, trivial, trivial⟩, rfl, rfl, rfl⟩
  | .app f cs g a, hwf, hbs, e, hp => by
    simp only [Cst.wf, Bool.and_eq_true] at hwf
    simp only [Cst.basic, Bool.and_eq_true] at hbs
    obtain ⟨fe, ae, hpf, hpa, rfl⟩ := parse_app_ok hp
    obtain ⟨hfn, hfb, _, _⟩ := cst_nf f hwf.1.1.1 hbs.1 fe hpf
    obtain ⟨han, hab, _, _⟩ := cst_nf a hwf.2 hbs.2 ae hpa
    exact ⟨app_nf cs g hfn hfb han hab, rfl, rfl, rfl⟩
  | .leaf k t, hwf, _, e, hp => by
    have hspec := leaf_spec (k := k) (t := t) hwf
    simp only [Cst.parse] at hp
    rw [hspec.1] at hp; injection hp with hp; subst hp
    exact ⟨⟨leafOk_ne_semi hwf, trivial, trivial⟩, rfl, rfl, rfl⟩
  | .list its cg, hwf, hbs, e, hp => by
    simp only [Cst.wf, Bool.and_eq_true] at hwf
    obtain ⟨st', hps, rfl⟩ := parse_list_ok hp
    have hst := items_nf its .list cg _ st' hwf.1 (by simpa [Cst.basic] using hbs) hps (stN_init its)
    have hf := finishSeq_nf hst (some cg) (!its.isNil) (fun h =>
      parseSeq_prev_of_content its _ _ st' hps (by simpa using h))
    exact ⟨⟨hf.1, alt_emptyInner hf.2.2.1 _, trivial, trivial, hf.2.1⟩, rfl, rfl, rfl⟩
  | .set isRec rg its cg, hwf, hbs, e, hp => by
    simp only [Cst.wf, Bool.and_eq_true] at hwf
    obtain ⟨st', hps, rfl⟩ := parse_set_ok hp
    have hst := items_nf its .set cg _ st' hwf.1.2 (by simpa [Cst.basic] using hbs) hps (stN_init its)
    have hf := finishSeq_nf hst (some cg) (!its.isNil) (fun h =>
      parseSeq_prev_of_content its _ _ st' hps (by simpa using h))
    exact ⟨⟨hf.1, alt_emptyInner hf.2.2.1 _, trivial, trivial, hf.2.1⟩, rfl, rfl, rfl⟩
theorem items_nf : (its : Items) → ∀ (m : Mode) (cg : Text) (st st' : SeqSt), its.wf m cg = true →
    its.basic = true → its.parseSeq m st = .ok st' → StN st → StN st'
  | .nil, m, cg, st, st', _, _, hp, h => by
    simp only [Items.parseSeq] at hp; injection hp with hp; subst hp; exact h
  | .cmt g t rest, m, cg, st, st', hwf, hbs, hp, h => by
    simp only [Items.wf, Bool.and_eq_true] at hwf
    simp only [Items.parseSeq] at hp
    exact items_nf rest m cg _ st' hwf.2 (by simpa [Items.basic] using hbs) hp (seqComment_nf m h g t)
  | .elem g c rest, m, cg, st, st', hwf, hbs, hp, h => by
    simp only [Items.wf, Bool.and_eq_true] at hwf
    simp only [Items.basic, Bool.and_eq_true] at hbs
    obtain ⟨e, hpe, _, hp'⟩ := parseSeq_elem_ok hp
    obtain ⟨hen, heb, hea, henb⟩ := cst_nf c hwf.1.2 hbs.1 e hpe
    rw [heb, ite_self, List.append_nil] at hp'
    exact items_nf rest m cg _ st' hwf.2 hbs.2 hp'
      ⟨allNfInv_append h.1 ⟨nfInv_setBefore hen (pushGap_alt h g), trivial⟩,
        allClosed_append h.2.1 ⟨by rw [effAfter_setBefore, effAfter_notBinding henb, hea]; exact closedT_nil, trivial⟩,
        trivial, fun _ => closedT_nil, fun e => by cases e⟩
  | .bind g n c1 g1 c2 g2 v c3 g3 rest, m, cg, st, st', hwf, hbs, hp, h => by
    simp only [Items.basic, Bool.and_eq_true] at hbs
    simp only [Items.wf, Bool.and_eq_true, beq_iff_eq] at hwf
    obtain ⟨⟨⟨⟨⟨⟨⟨⟨⟨⟨_, _⟩, hn⟩, _⟩, _⟩, _⟩, _⟩, hv⟩, _⟩, _⟩, hrest⟩ := hwf
    obtain ⟨ve, b, hpv, rfl, hb, hp'⟩ := parseSeq_bind_ok hp
    obtain ⟨hven, hvb, hva, hvnb⟩ := cst_nf v hv hbs.1 ve hpv
    have hbn := binding_nf hn hb hven hvb hva hvnb (pushGap_alt h g)
    exact items_nf rest .set cg _ st' hrest hbs.2 hp'
      ⟨allNfInv_append h.1 ⟨hbn.1, trivial⟩, allClosed_append h.2.1 ⟨hbn.2, trivial⟩, trivial,
        fun _ => closedT_nil, fun e => by cases e⟩
end

/-! ### the whole file -/

theorem trailing_cases (g : Text) :
    appendGapTriviaOff [] g = [] ∨ appendGapTriviaOff [] g = [.emptyLine] ∨ appendGapTriviaOff [] g = [.linebreak] := by
  unfold appendGapTriviaOff; split
  · exact Or.inl rfl
  · split
    · exact Or.inr (Or.inl rfl)
    · exact Or.inr (Or.inr rfl)

/-- the rendered file: one expression whose leading whitespace is empty and whose trailing trivia
    is closed, then the end-of-file marker -/
theorem srcRebuildP_nf (s : Src) (e : Expr) (he : s.exprs = [e]) (hok : e.ok) (hml : e.mlSafe) (hinv : e.nfInv)
    (hclean : e.inlineClean) (hhead : e.before = [] ∨ headCmt e.before) (hcl : closedT (e.effAfter false))
    (htr : s.trailing = [] ∨ s.trailing = [.emptyLine] ∨ s.trailing = [.linebreak]) :
    (summ s.rebuildP).fileOk = true := by
  obtain ⟨l, f, t, hs, _, _, _, c1, c2, c3, _⟩ := rebuildAP_summ e hok hml hinv hclean false 0 false
  have hl : l = [] := by
    rcases hhead with h | h
    · rw [c1 h]; rfl
    · exact c2 h rfl
  have ht := c3 hcl
  subst hl; subst ht
  have hr : summ (rebuildAllP [e] 0 false).flatten = .lexy [] f true [] := by
    simp only [rebuildAllP, List.flatten_cons, List.flatten_nil, List.append_nil]; exact hs
  have hsolid : Solid (rebuildAllP [e] 0 false).flatten := by
    simp only [rebuildAllP, List.flatten_cons, List.flatten_nil, List.append_nil]
    exact (rebuildAP_lex e hok false 0 false).2
  have hends : endsWithNL (concat (rebuildAllP [e] 0 false).flatten) = false := by
    rw [endsWithNL_summ hsolid, hr]; rfl
  have hne : (concat (rebuildAllP [e] 0 false).flatten).isEmpty = false := by
    cases hx : (concat (rebuildAllP [e] 0 false).flatten).isEmpty with
    | false => rfl
    | true =>
      have : concat (rebuildAllP [e] 0 false).flatten = [] := by simpa using hx
      have := summ_of_concat_nil hsolid this; rw [hr] at this; cases this
  unfold Src.rebuildP
  rw [he]
  rcases htr with h | h | h <;> rw [h]
  · simp only [List.isEmpty_nil, if_true, hr]; rfl
  · have : trimP [Trivia.emptyLine] (fmtP [Trivia.emptyLine] 0) = [FP.ws ['\n']] := by
      simp [trimP, fmtP, fmtGoP, Trivia.isLayout]
    simp only [this, List.isEmpty_cons, Bool.false_eq_true, if_false, concat_cons, concat_nil, text_ws,
      List.append_nil, Bool.not_false, if_true, hne]
    rw [summ_append, summ_append, hr, summ_ws]; rfl
  · have : trimP [Trivia.linebreak] (fmtP [Trivia.linebreak] 0) = [] := by
      simp [trimP, fmtP, fmtGoP, Trivia.isLayout, endsWithNL]
    simp only [this, List.isEmpty_cons, Bool.false_eq_true, if_false, concat_nil, List.isEmpty_nil, Bool.not_true,
      List.getLast?_singleton, Trivia.isLayout, if_true, hends]
    rw [summ_append, hr, summ_ws]; rfl

/-- SPACING NORMAL FORM of the whole round trip -/
theorem file_nf (f : File) (s : Src) (hwf : f.wf = true) (hbasic : f.basic = true) (hp : f.parse = .ok s)
    (hclean : ∀ e ∈ s.exprs, e.inlineClean) : (summ s.rebuildP).fileOk = true := by
  obtain ⟨s', hp', hok, _⟩ := file_parse_spec false f hwf (fun h => by cases h)
  rw [hp] at hp'; injection hp' with hs; subst hs
  have hwf' := hwf
  simp only [File.wf, Bool.and_eq_true, decide_eq_true_eq] at hwf'
  simp only [File.parse] at hp
  cases hps : f.items.parseSeq .file {} with
  | error err => rw [hps] at hp; cases hp
  | ok st' =>
    rw [hps] at hp
    injection hp with hp
    have hcount := items_parse_count f.items .file {} st' hps (Or.inl rfl)
    have hst : StN st' := items_nf f.items .file f.endGap {} st' hwf'.1.1 hbasic hps
      ⟨trivial, trivial, trivial, fun h => absurd rfl h, fun _ => ⟨Or.inl rfl, rfl⟩⟩
    have hhd : HeadInv st' := items_head f.items .file f.endGap {} st' (Or.inl rfl) hwf'.1.1 hps
      ⟨fun _ => Or.inl ⟨rfl, rfl⟩, trivial⟩
    have hinv := items_parse_inv f.items .file f.endGap {} st' hwf'.1.1 hps trivial
    have hfml := finishSeq_inv st' none (!f.items.isNil) hinv.1
    have hf := finishSeq_nf hst none (!f.items.isNil) (fun h =>
      parseSeq_prev_of_content f.items _ _ st' hps (by simpa using h))
    have hlen := finishSeq_length st' none (!f.items.isNil)
    have hex : s.exprs = (finishSeq st' none (!f.items.isNil)).1 := by rw [← hp]
    have htrail : s.trailing = appendGapTriviaOff (finishSeq st' none (!f.items.isNil)).2 f.endGap := by rw [← hp]
    have h1 : s.exprs.length = 1 := by rw [hex, hlen, hcount, hwf'.1.2]; rfl
    -- the items are not empty, so nothing is left over for `trailing`
    have hne : st'.items ≠ [] := by
      intro e; rw [hex, hlen, e] at h1; cases h1
    have hinner : (finishSeq st' none (!f.items.isNil)).2 = [] := by
      unfold finishSeq
      by_cases hb : st'.before.isEmpty = true
      · simp [hb]
      · have hi : st'.items.isEmpty = false := by
          cases hx : st'.items with
          | nil => exact absurd hx hne
          | cons _ _ => rfl
        simp [hb, hi]
    have hheadfin := finishSeq_none_head st' (!f.items.isNil) hhd.2
    match hse : s.exprs, h1 with
    | [e], _ =>
      have hall := hf.1; rw [← hex, hse] at hall
      have hclo := hf.2.2.2 rfl; rw [← hex, hse] at hclo
      have hhb := hheadfin; rw [← hex, hse] at hhb
      have heok : e.ok := by have := hok.1; rw [hse] at this; exact this.1
      have hml : e.mlSafe := by
        have := hfml.1; rw [← hex, hse] at this; exact this.1
      refine srcRebuildP_nf s e hse heok hml hall.1 (hclean e (by rw [hse]; simp)) hhb hclo.1 ?_
      rw [htrail, hinner]; exact trailing_cases _

/-! ### what `summ` says about the pieces: whitespace runs between neighbouring tokens -/

def FP.isWs : FP → Bool
  | .ws _ => true
  | _ => false

theorem summ_allWs : ∀ (W : List FP), W.all FP.isWs = true → summ W = .blank (concat W)
  | [], _ => rfl
  | p :: rest, h => by
    simp only [List.all_cons, Bool.and_eq_true] at h
    cases p with
    | ws s => rw [summ_cons, summ_allWs rest h.2]; simp [summ1, Summ.comb]
    | tok s => cases h.1
    | cmt s => cases h.1

theorem summ_lexHead (q : FP) (hq : q.isWs = false) (post : List FP) :
    ∃ x i t, q.lex? = some x ∧ summ (q :: post) = .lexy [] x i t := by
  cases q with
  | ws s => cases hq
  | tok s => rw [summ_cons]; cases summ post <;> exact ⟨_, _, _, rfl, rfl⟩
  | cmt s => rw [summ_cons]; cases summ post <;> exact ⟨_, _, _, rfl, rfl⟩

theorem summ_lexLast (pre : List FP) (p : FP) (hp : p.isWs = false) :
    ∃ l f i, summ (pre ++ [p]) = .lexy l f i [] := by
  rw [summ_append]
  have : ∃ x, summ [p] = .lexy [] x true [] := by
    cases p with
    | ws s => cases hp
    | tok s => exact ⟨_, summ_tok s⟩
    | cmt s => exact ⟨_, summ_cmt s⟩
  obtain ⟨x, hx⟩ := this
  rw [hx]
  cases summ pre <;> exact ⟨_, _, _, rfl⟩

/-- WHAT THE SUMMARY SAYS: if the inner flag is set, the whitespace between any two neighbouring
    tokens/comments of the output is an acceptable separator for the second one -/
theorem summ_inner_spec {ps : List FP} {l : Text} {f : Lex} {t : Text} (h : summ ps = .lexy l f true t)
    (pre W post : List FP) (p q : FP) (hps : ps = pre ++ [p] ++ W ++ q :: post)
    (hp : p.isWs = false) (hq : q.isWs = false) (hW : W.all FP.isWs = true) :
    ∃ x, q.lex? = some x ∧ sepOk (concat W) x = true := by
  obtain ⟨l1, f1, i1, h1⟩ := summ_lexLast pre p hp
  obtain ⟨x, i2, t2, hx, h2⟩ := summ_lexHead q hq post
  refine ⟨x, hx, ?_⟩
  rw [hps, summ_append, summ_append, h1, h2, summ_allWs W hW] at h
  simp only [Summ.comb, List.nil_append, List.append_nil] at h
  injection h with _ _ hi _
  simp only [Bool.and_eq_true] at hi
  exact hi.1.2

/-- and nothing is written before the first token when the leading whitespace is empty -/
theorem summ_lead_spec : ∀ {ps : List FP} {f : Lex} {i : Bool} {t : Text}, summ ps = .lexy [] f i t →
    ∀ (W post : List FP) (q : FP), ps = W ++ q :: post → W.all FP.isWs = true → q.isWs = false → concat W = []
  | ps, f, i, t, h, W, post, q, hps, hW, hq => by
    obtain ⟨x, i2, t2, _, h2⟩ := summ_lexHead q hq post
    rw [hps, summ_append, summ_allWs W hW, h2] at h
    simp only [Summ.comb, List.append_nil] at h
    injection h with h _ _ _


/-! ### the exclusion, decidable -/

theorem closedT_of_closedB {ts : List Trivia} (h : closedB ts = true) : closedT ts := by
  unfold closedB at h
  cases hl : ts.getLast? with
  | none => exact Or.inl (List.getLast?_eq_none_iff.mp hl)
  | some t =>
    rw [hl] at h
    cases t with
    | comment c => exact Or.inr ⟨c, hl⟩
    | emptyLine => cases h
    | linebreak => cases h
    | comma => cases h

theorem allFlat_of_B : ∀ {es : List Expr}, allFlatB es = true → allFlat es
  | [], _ => trivial
  | x :: r, h => by
    simp only [allFlatB, Bool.and_eq_true, List.isEmpty_iff] at h
    exact ⟨h.1.1, closedT_of_closedB h.1.2, allFlat_of_B h.2⟩

mutual
theorem inlineClean_of_B : (e : Expr) → e.inlineCleanB = true → e.inlineClean
  | .leaf .., _ => trivial
  | .list v ml _ _ _, h => by
    simp only [Expr.inlineCleanB, Bool.and_eq_true, Bool.or_eq_true] at h
    refine ⟨fun hml => ?_, allInlineClean_of_B v h.2⟩
    rcases h.1 with h1 | h1
    · rw [hml] at h1; cases h1
    · exact allFlat_of_B h1
  | .set v ml _ _ _ _, h => by
    simp only [Expr.inlineCleanB, Bool.and_eq_true, Bool.or_eq_true] at h
    refine ⟨fun hml => ?_, allInlineClean_of_B v h.2⟩
    rcases h.1 with h1 | h1
    · rw [hml] at h1; cases h1
    · exact allFlat_of_B h1
  | .binding _ v _ _ _, h => inlineClean_of_B v h
  | .paren v lg _ _ _ _ _, h => by
    simp only [Expr.inlineCleanB, Bool.and_eq_true, Bool.or_eq_true, List.isEmpty_iff] at h
    refine ⟨fun hon => ?_, inlineClean_of_B v h.2⟩
    rcases h.1 with h1 | h1
    · rw [hon] at h1; cases h1
    · exact h1
  | .app n x g _ _ _, h => by
    simp only [Expr.inlineCleanB, Bool.and_eq_true, Bool.or_eq_true, List.isEmpty_iff] at h
    refine ⟨fun hon => ?_, inlineClean_of_B n h.1.2, inlineClean_of_B x h.2⟩
    rcases h.1.1 with h1 | h1
    · rw [hon] at h1; cases h1
    · exact h1
  | .wth env body _ _ _ _ _, h => by
    simp only [Expr.inlineCleanB, Bool.and_eq_true] at h
    exact ⟨inlineClean_of_B env h.1, inlineClean_of_B body h.2⟩
  | .asrt .., h => by simp [Expr.inlineCleanB] at h
  | .sel e _ _ _ _ _, h => inlineClean_of_B e h
  | .selOr e _ _ _ d _ _ _ _, h => by
    simp only [Expr.inlineCleanB, Bool.and_eq_true] at h
    exact ⟨inlineClean_of_B e h.1, inlineClean_of_B d h.2⟩
  | .lam _ _ _ _ body _ _, h => inlineClean_of_B body h
  | .un _ e _ _ _ _, h => inlineClean_of_B e h
  | .bin _ l r ogl rgl _ _, h => by
    simp only [Expr.inlineCleanB, Bool.and_eq_true, decide_eq_true_eq] at h
    exact ⟨h.1.1.1, h.1.1.2, inlineClean_of_B l h.1.2, inlineClean_of_B r h.2⟩
  | .ite c t e _ _ _ _ _ _ _ _ _ _ _ _ _, h => by
    simp only [Expr.inlineCleanB, Bool.and_eq_true] at h
    exact ⟨inlineClean_of_B c h.1.1, inlineClean_of_B t h.1.2, inlineClean_of_B e h.2⟩
  | .has e _ _ _ _ _ _ _, h => inlineClean_of_B e h
theorem allInlineClean_of_B : (es : List Expr) → allInlineCleanB es = true → allInlineClean es
  | [], _ => trivial
  | e :: rest, h => by
    simp only [allInlineCleanB, Bool.and_eq_true] at h
    exact ⟨inlineClean_of_B e h.1, allInlineClean_of_B rest h.2⟩
end

theorem mem_allInlineClean : ∀ {es : List Expr}, allInlineClean es → ∀ e ∈ es, e.inlineClean
  | [], _, e, he => by cases he
  | x :: r, h, e, he => by
    rcases List.mem_cons.mp he with h1 | h1
    · subst h1; exact h.1
    · exact mem_allInlineClean h.2 e h1

theorem src_inlineClean {s : Src} (h : s.inlineCleanB = true) : ∀ e ∈ s.exprs, e.inlineClean :=
  mem_allInlineClean (allInlineClean_of_B s.exprs h)

end Nima.Frag
