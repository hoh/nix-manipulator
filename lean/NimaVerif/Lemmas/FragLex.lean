import NimaVerif.Lemmas.Frag
import NimaVerif.Model.FragSpec
/-! The lexical content (code tokens and comment tokens, in order) of the piece-level renderer's
output, for expressions as `Cst.parse` builds them. Core Lean only. -/
namespace Nima.Frag
open Nima

/-! ### lexical content of a piece list -/

@[simp] theorem lexOf_nil : lexOf [] = [] := rfl
@[simp] theorem lexOf_append (a b : List FP) : lexOf (a ++ b) = lexOf a ++ lexOf b := by simp [lexOf]
@[simp] theorem lexOf_tok (s : Text) (ps : List FP) : lexOf (.tok s :: ps) = .tok s :: lexOf ps := by
  simp [lexOf, FP.lex?]
@[simp] theorem lexOf_cmt (s : Text) (ps : List FP) : lexOf (.cmt s :: ps) = .cmt s :: lexOf ps := by
  simp [lexOf, FP.lex?]
@[simp] theorem lexOf_ws (s : Text) (ps : List FP) : lexOf (.ws s :: ps) = lexOf ps := by
  show List.filterMap FP.lex? (FP.ws s :: ps) = _
  rw [List.filterMap_cons_none rfl]; rfl
theorem lexOf_ite (c : Prop) [Decidable c] (a b : List FP) :
    lexOf (if c then a else b) = if c then lexOf a else lexOf b := by split <;> rfl

/-- a token or comment piece is not empty and does not end in a line break -/
def FP.solid : FP → Prop
  | .ws _ => True
  | .tok s => s ≠ [] ∧ endsWithNL s = false
  | .cmt s => s ≠ [] ∧ endsWithNL s = false

def Solid (ps : List FP) : Prop := ∀ p ∈ ps, p.solid

theorem solid_nil : Solid [] := by intro p h; cases h
theorem solid_append {a b : List FP} (ha : Solid a) (hb : Solid b) : Solid (a ++ b) := by
  intro p h; rcases List.mem_append.mp h with h | h
  · exact ha p h
  · exact hb p h
theorem solid_cons {p : FP} {ps : List FP} (hp : p.solid) (hs : Solid ps) : Solid (p :: ps) := by
  intro q h; rcases List.mem_cons.mp h with h | h
  · subst h; exact hp
  · exact hs q h
theorem solid_of_cons {p : FP} {ps : List FP} (h : Solid (p :: ps)) : p.solid ∧ Solid ps :=
  ⟨h p (List.mem_cons_self ..), fun q hq => h q (List.mem_cons_of_mem _ hq)⟩
theorem solid_ws (s : Text) : (FP.ws s).solid := trivial
theorem solid_ite (c : Prop) [Decidable c] {a b : List FP} (ha : Solid a) (hb : Solid b) :
    Solid (if c then a else b) := by split <;> assumption

theorem withText_self (p : FP) : p.withText p.text = p := by cases p <;> rfl

theorem lex_withText_ws (s t : Text) : (FP.ws s).withText t = .ws t := rfl

/-- a solid piece whose text consists of line breaks only is whitespace -/
theorem solid_allNL_isWs {p : FP} (hp : p.solid) (h : p.text.all (· == '\n') = true) : p.lex? = none := by
  cases p with
  | ws s => rfl
  | tok s =>
    exfalso
    obtain ⟨hne, hnl⟩ := hp
    have : s.getLast? = some '\n' := by
      obtain ⟨c, hc⟩ : ∃ c, s.getLast? = some c := by
        cases hs : s.getLast? with
        | none => exact absurd (List.getLast?_eq_none_iff.mp hs) hne
        | some c => exact ⟨c, rfl⟩
      have hmem : c ∈ s := List.mem_of_getLast? hc
      have : (c == '\n') = true := (List.all_eq_true.mp h) c hmem
      rw [hc]; simp at this; rw [this]
    simp [endsWithNL, this] at hnl
  | cmt s =>
    exfalso
    obtain ⟨hne, hnl⟩ := hp
    have : s.getLast? = some '\n' := by
      obtain ⟨c, hc⟩ : ∃ c, s.getLast? = some c := by
        cases hs : s.getLast? with
        | none => exact absurd (List.getLast?_eq_none_iff.mp hs) hne
        | some c => exact ⟨c, rfl⟩
      have hmem : c ∈ s := List.mem_of_getLast? hc
      have : (c == '\n') = true := (List.all_eq_true.mp h) c hmem
      rw [hc]; simp at this; rw [this]
    simp [endsWithNL, this] at hnl

theorem lexOf_of_allNL : ∀ {ps : List FP}, Solid ps → (concat ps).all (· == '\n') = true → lexOf ps = []
  | [], _, _ => rfl
  | p :: rest, hs, h => by
    obtain ⟨hp, hr⟩ := solid_of_cons hs
    rw [concat_cons, List.all_append, Bool.and_eq_true] at h
    have h1 := solid_allNL_isWs hp h.1
    have h2 := lexOf_of_allNL hr h.2
    simp [lexOf, h1] at h2 ⊢
    exact h2

theorem lexOf_of_concat_nil {ps : List FP} (hs : Solid ps) (h : concat ps = []) : lexOf ps = [] :=
  lexOf_of_allNL hs (by rw [h]; rfl)

/-! ### the cuts touch whitespace only -/

theorem endsWithNL_false_of_solid_nonws {p : FP} (hp : p.solid) (h : p.lex? ≠ none) :
    p.text ≠ [] ∧ endsWithNL p.text = false := by
  cases p with
  | ws s => exact absurd rfl h
  | tok s => exact hp
  | cmt s => exact hp

/-- cutting the final line break off a solid piece list touches whitespace only -/
theorem dropLastCharP_solid : ∀ {ps : List FP}, Solid ps → endsWithNL (concat ps) = true →
    lexOf (dropLastCharP ps) = lexOf ps ∧ Solid (dropLastCharP ps)
  | [], _, h => by simp [endsWithNL] at h
  | p :: rest, hs, h => by
    obtain ⟨hp, hr⟩ := solid_of_cons hs
    simp only [dropLastCharP]
    by_cases he : (concat rest).isEmpty = true
    · have h0 : concat rest = [] := by simpa using he
      have hl : lexOf rest = [] := lexOf_of_concat_nil hr h0
      rw [concat_cons, h0, List.append_nil] at h
      have hpw : p.lex? = none := by
        cases hq : p.lex? with
        | none => rfl
        | some l =>
          have := endsWithNL_false_of_solid_nonws hp (by rw [hq]; simp)
          rw [this.2] at h; cases h
      simp only [he, if_true]
      have hlp : lexOf (p :: rest) = [] := by
        show List.filterMap FP.lex? (p :: rest) = []
        rw [List.filterMap_cons_none hpw]; exact hl
      rw [hlp]
      cases p with
      | ws s =>
        split
        · exact ⟨rfl, solid_nil⟩
        · exact ⟨by simp [FP.withText], solid_cons (solid_ws _) solid_nil⟩
      | tok s => simp [FP.lex?] at hpw
      | cmt s => simp [FP.lex?] at hpw
    · have h0 : concat rest ≠ [] := by simpa using he
      simp only [he]
      rw [concat_cons, endsWithNL_append_of_ne_nil _ _ h0] at h
      obtain ⟨ih1, ih2⟩ := dropLastCharP_solid hr h
      refine ⟨?_, solid_cons hp ih2⟩
      simp only [Bool.false_eq_true, if_false]
      show List.filterMap FP.lex? (p :: dropLastCharP rest) = List.filterMap FP.lex? (p :: rest)
      simp only [List.filterMap_cons]
      have : List.filterMap FP.lex? (dropLastCharP rest) = List.filterMap FP.lex? rest := ih1
      rw [this]

theorem rstripNL_of_solid {s : Text} (h : endsWithNL s = false) : rstripNL s = s := by
  unfold rstripNL
  have : s.reverse.dropWhile (· == '\n') = s.reverse := by
    cases hr : s.reverse with
    | nil => rfl
    | cons c r =>
      have hl : s.getLast? = some c := by
        rw [List.getLast?_eq_head?_reverse, hr]; rfl
      have hc : (c == '\n') = false := by
        cases hcc : (c == '\n') with
        | false => rfl
        | true =>
          have : c = '\n' := by simpa using hcc
          subst this
          simp [endsWithNL, hl] at h
      simp [hc]
  rw [this, List.reverse_reverse]

/-- `rstrip("\n")` on a solid piece list touches whitespace only -/
theorem rstripNLP_solid : ∀ {ps : List FP}, Solid ps →
    lexOf (rstripNLP ps) = lexOf ps ∧ Solid (rstripNLP ps)
  | [], _ => ⟨rfl, solid_nil⟩
  | p :: rest, hs => by
    obtain ⟨hp, hr⟩ := solid_of_cons hs
    simp only [rstripNLP]
    by_cases ha : (concat rest).all (· == '\n') = true
    · simp only [ha, if_true]
      have hl : lexOf rest = [] := lexOf_of_allNL hr ha
      cases p with
      | ws s =>
        have : lexOf (FP.ws s :: rest) = [] := by simp [hl]
        rw [this]
        split
        · exact ⟨rfl, solid_nil⟩
        · exact ⟨by simp [FP.withText], solid_cons (solid_ws _) solid_nil⟩
      | tok s =>
        have hrs := rstripNL_of_solid hp.2
        have hne : (rstripNL (FP.tok s).text).isEmpty = false := by
          show (rstripNL s).isEmpty = false
          rw [hrs]; cases s with | nil => exact absurd rfl hp.1 | cons _ _ => rfl
        simp only [hne]
        show lexOf [FP.tok (rstripNL s)] = _ ∧ Solid [FP.tok (rstripNL s)]
        rw [hrs]
        exact ⟨by simp [hl], solid_cons hp solid_nil⟩
      | cmt s =>
        have hrs := rstripNL_of_solid hp.2
        have hne : (rstripNL (FP.cmt s).text).isEmpty = false := by
          show (rstripNL s).isEmpty = false
          rw [hrs]; cases s with | nil => exact absurd rfl hp.1 | cons _ _ => rfl
        simp only [hne]
        show lexOf [FP.cmt (rstripNL s)] = _ ∧ Solid [FP.cmt (rstripNL s)]
        rw [hrs]
        exact ⟨by simp [hl], solid_cons hp solid_nil⟩
    · simp only [ha]
      obtain ⟨ih1, ih2⟩ := rstripNLP_solid hr
      refine ⟨?_, solid_cons hp ih2⟩
      simp only [Bool.false_eq_true, if_false]
      show List.filterMap FP.lex? (p :: rstripNLP rest) = List.filterMap FP.lex? (p :: rest)
      simp only [List.filterMap_cons]
      have : List.filterMap FP.lex? (rstripNLP rest) = List.filterMap FP.lex? rest := ih1
      rw [this]

/-! ### trivia renderers -/

/-- a comment of the fragment: its text has no line break (line comments and one-line block comments) -/
def cOk (c : Comment) : Prop := containsNL c.text = false

/-- trivia lists as `Cst.parse` builds them: no `,` sentinel, one-line comments -/
def TrivOk (ts : List Trivia) : Prop := CommaFree ts ∧ ∀ c, Trivia.comment c ∈ ts → cOk c

/-- the comments of a trivia list as lexical items (rendered token) -/
def cm (ts : List Trivia) : List Lex :=
  ts.filterMap fun
    | .comment c => some (.cmt (c.token 0))
    | _ => none

@[simp] theorem cm_nil : cm [] = [] := rfl
@[simp] theorem cm_append (a b : List Trivia) : cm (a ++ b) = cm a ++ cm b := by simp [cm]
@[simp] theorem cm_emptyLine (ts : List Trivia) : cm (.emptyLine :: ts) = cm ts := by
  show List.filterMap _ _ = _; rw [List.filterMap_cons_none rfl]; rfl
@[simp] theorem cm_linebreak (ts : List Trivia) : cm (.linebreak :: ts) = cm ts := by
  show List.filterMap _ _ = _; rw [List.filterMap_cons_none rfl]; rfl
@[simp] theorem cm_comment (c : Comment) (ts : List Trivia) : cm (.comment c :: ts) = .cmt (c.token 0) :: cm ts := by
  simp [cm]

theorem trivOk_nil : TrivOk [] := ⟨by simp [CommaFree], by intro c h; cases h⟩
theorem trivOk_cons {t : Trivia} {ts : List Trivia} (h : TrivOk (t :: ts)) : TrivOk ts :=
  ⟨commaFree_cons h.1, fun c hc => h.2 c (List.mem_cons_of_mem _ hc)⟩
theorem trivOk_append {a b : List Trivia} (ha : TrivOk a) (hb : TrivOk b) : TrivOk (a ++ b) :=
  ⟨commaFree_append.mpr ⟨ha.1, hb.1⟩, fun c hc => by
    rcases List.mem_append.mp hc with h | h
    · exact ha.2 c h
    · exact hb.2 c h⟩
theorem trivOk_of_append {a b : List Trivia} (h : TrivOk (a ++ b)) : TrivOk a ∧ TrivOk b :=
  ⟨⟨(commaFree_append.mp h.1).1, fun c hc => h.2 c (List.mem_append_left _ hc)⟩,
   ⟨(commaFree_append.mp h.1).2, fun c hc => h.2 c (List.mem_append_right _ hc)⟩⟩

theorem cOk_tokenLike {c : Comment} (h : cOk c) : c.tokenLike = true := by
  unfold Comment.tokenLike; cases c.kind <;> simp <;> exact h

/-- the token of a one-line comment does not depend on the column it is written at -/
theorem token_indep {c : Comment} (h : cOk c) (i : Nat) : c.token i = c.token 0 := by
  unfold Comment.token
  cases c.kind with
  | line => rfl
  | block doc ii => simp [show containsNL c.text = false from h]

theorem cmtP_lex {c : Comment} (h : cOk c) (i : Nat) : lexOf (cmtP c i) = [.cmt (c.token 0)] := by
  simp [cmtP, token_indep h]

theorem cmtP_solid {c : Comment} (h : cOk c) (i : Nat) : Solid (cmtP c i) := by
  unfold cmtP
  refine solid_cons (solid_ws _) (solid_cons ?_ solid_nil)
  exact ⟨token_ne_nil c _ (cOk_tokenLike h), token_not_endsWithNL c _ (cOk_tokenLike h)⟩

theorem fmtGoP_lex (i : Nat) : ∀ (ts : List Trivia) (acc : List FP) (e : Bool), TrivOk ts → Solid acc →
    lexOf (fmtGoP i ts acc e) = lexOf acc ++ cm ts ∧ Solid (fmtGoP i ts acc e)
  | [], acc, e, _, ha => by simp [fmtGoP, ha]
  | .emptyLine :: rest, acc, e, h, ha => by
    have := fmtGoP_lex i rest (acc ++ [.ws ['\n']]) true (trivOk_cons h)
      (solid_append ha (solid_cons (solid_ws _) solid_nil))
    simp only [fmtGoP]; simpa using this
  | .linebreak :: rest, acc, e, h, ha => by
    have := fmtGoP_lex i rest acc e (trivOk_cons h) ha
    simp only [fmtGoP]; simpa using this
  | .comma :: rest, acc, e, h, _ => by
    exact absurd (List.mem_cons_self ..) h.1
  | .comment c :: rest, acc, e, h, ha => by
    have hc : cOk c := h.2 c (List.mem_cons_self ..)
    have := fmtGoP_lex i rest (acc ++ cmtP c i ++ [.ws ['\n']]) true (trivOk_cons h)
      (solid_append (solid_append ha (cmtP_solid hc i)) (solid_cons (solid_ws _) solid_nil))
    simp only [fmtGoP]
    rw [this.1]
    exact ⟨by simp [cmtP_lex hc], this.2⟩

theorem fmtP_lex {ts : List Trivia} (h : TrivOk ts) (i : Nat) : lexOf (fmtP ts i) = cm ts := by
  have := (fmtGoP_lex i ts [] true h solid_nil).1; simpa [fmtP] using this
theorem fmtP_solid {ts : List Trivia} (h : TrivOk ts) (i : Nat) : Solid (fmtP ts i) :=
  (fmtGoP_lex i ts [] true h solid_nil).2

theorem trimP_lex (ts : List Trivia) {ps : List FP} (h : Solid ps) :
    lexOf (trimP ts ps) = lexOf ps ∧ Solid (trimP ts ps) := by
  unfold trimP
  cases ts.getLast? with
  | none => exact ⟨rfl, h⟩
  | some t =>
    simp only
    split
    · rename_i hc
      simp only [Bool.and_eq_true] at hc
      exact dropLastCharP_solid h hc.2
    · exact ⟨rfl, h⟩

theorem nlBlockP_lex {ps : List FP} (h : Solid ps) : lexOf (nlBlockP ps) = lexOf ps ∧ Solid (nlBlockP ps) := by
  unfold nlBlockP
  split
  · rename_i he
    have : concat ps = [] := by simpa using he
    exact ⟨(lexOf_of_concat_nil h this).symm, solid_nil⟩
  · exact ⟨by simp, solid_cons (solid_ws _) h⟩

theorem trailP_lex {after : List Trivia} (h : TrivOk after) (i : Nat) :
    lexOf (trailP after i) = cm after ∧ Solid (trailP after i) := by
  unfold trailP
  match after, h with
  | [], _ => exact ⟨rfl, solid_nil⟩
  | .emptyLine :: rest, h =>
    have h1 := trimP_lex (.emptyLine :: rest) (fmtP_solid h i)
    have h2 := nlBlockP_lex h1.2
    exact ⟨by rw [h2.1, h1.1, fmtP_lex h], h2.2⟩
  | .linebreak :: rest, h =>
    have h1 := trimP_lex (.linebreak :: rest) (fmtP_solid h i)
    have h2 := nlBlockP_lex h1.2
    exact ⟨by rw [h2.1, h1.1, fmtP_lex h], h2.2⟩
  | .comma :: rest, h => exact absurd (List.mem_cons_self ..) h.1
  | .comment c :: rest, h =>
    have hc : cOk c := h.2 c (List.mem_cons_self ..)
    simp only
    split
    · have h1 := trimP_lex (.comment c :: rest) (fmtP_solid (trivOk_cons h) i)
      have h2 := nlBlockP_lex h1.2
      refine ⟨?_, solid_cons (solid_ws _) (solid_append (cmtP_solid hc 0) h2.2)⟩
      simp [cmtP_lex hc, h2.1, h1.1, fmtP_lex (trivOk_cons h)]
    · have h1 := trimP_lex (.comment c :: rest) (fmtP_solid h i)
      have h2 := nlBlockP_lex h1.2
      exact ⟨by rw [h2.1, h1.1, fmtP_lex h], h2.2⟩

theorem indentP_lex (i : Nat) (b : Bool) : lexOf (indentP i b) = [] ∧ Solid (indentP i b) := by
  unfold indentP; split
  · exact ⟨rfl, solid_nil⟩
  · exact ⟨by simp, solid_cons (solid_ws _) solid_nil⟩

theorem bindingTailP_lex {after : List Trivia} (h : TrivOk after) (i : Nat) :
    lexOf (bindingTailP after i) = cm after ∧ Solid (bindingTailP after i) := by
  unfold bindingTailP
  match after, h with
  | [], h => exact trailP_lex h i
  | .emptyLine :: rest, h => exact trailP_lex h i
  | .comma :: rest, h => exact trailP_lex h i
  | .comment c :: rest, h => exact trailP_lex h i
  | .linebreak :: rest, h =>
    have hr := trivOk_cons h
    have hs : Solid (if startsWithNL (concat (fmtP rest i)) = true then fmtP rest i else .ws ['\n'] :: fmtP rest i) :=
      solid_ite _ (fmtP_solid hr i) (solid_cons (solid_ws _) (fmtP_solid hr i))
    have hl : lexOf (if startsWithNL (concat (fmtP rest i)) = true then fmtP rest i else .ws ['\n'] :: fmtP rest i)
        = cm rest := by
      split <;> simp [fmtP_lex hr]
    simp only
    generalize (if startsWithNL (concat (fmtP rest i)) = true then fmtP rest i else FP.ws ['\n'] :: fmtP rest i) = tr
      at hs hl ⊢
    split
    · rename_i he
      have := dropLastCharP_solid hs he
      exact ⟨by rw [this.1, hl]; simp, this.2⟩
    · exact ⟨by rw [hl]; simp, hs⟩

/-! ### expressions -/

def solidT (t : Text) : Prop := t ≠ [] ∧ endsWithNL t = false

mutual
/-- expressions as `Cst.parse` builds them: token texts are solid, trivia lists are `TrivOk` -/
def Expr.ok : Expr → Prop
  | .leaf _ t b a => solidT t ∧ TrivOk b ∧ TrivOk a
  | .list v _ inner b a => allOk v ∧ TrivOk inner ∧ TrivOk b ∧ TrivOk a
  | .set v _ _ inner b a => allOk v ∧ TrivOk inner ∧ TrivOk b ∧ TrivOk a
  | .binding n v _ b a => solidT n ∧ v.ok ∧ TrivOk b ∧ TrivOk a
  | .paren v _ _ _ _ b a => v.ok ∧ TrivOk b ∧ TrivOk a
  | .app n x _ fa b a => n.ok ∧ x.ok ∧ (∀ c ∈ fa, cOk c) ∧ TrivOk b ∧ TrivOk a
  -- `with` / `assert` from well-formed trees: the interstitial lists hold layout markers only
  | .wth env body awc _ asc b a => env.ok ∧ body.ok ∧ cm awc = [] ∧ asc = [] ∧ TrivOk b ∧ TrivOk a
  | .asrt cond body aac bsc b a => cond.ok ∧ body.ok ∧ cm aac = [] ∧ cm bsc = [] ∧ TrivOk b ∧ TrivOk a
  | .sel e attrs _ ab b a => e.ok ∧ attrs ≠ [] ∧ (∀ x ∈ attrs, solidT x) ∧ cm ab = [] ∧ TrivOk b ∧ TrivOk a
  | .selOr e attrs _ ab d _ db b a =>
    e.ok ∧ attrs ≠ [] ∧ (∀ x ∈ attrs, solidT x) ∧ cm ab = [] ∧ d.ok ∧ cm db = [] ∧ TrivOk b ∧ TrivOk a
  | .lam n bcc _ _ body b a => solidT n ∧ cm bcc = [] ∧ body.ok ∧ TrivOk b ∧ TrivOk a
  | .un op e _ bt b a => (solidT op ∧ op ≠ ['+', '+']) ∧ e.ok ∧ cm bt = [] ∧ TrivOk b ∧ TrivOk a
  | .bin op l r _ _ b a => solidT op ∧ l.ok ∧ r.ok ∧ TrivOk b ∧ TrivOk a
  -- `if` / `?` from well-formed trees: the interstitial lists hold layout markers only
  | .ite c t e _ aic _ btc _ atc _ bec _ aec _ b a =>
    c.ok ∧ t.ok ∧ e.ok ∧ cm aic = [] ∧ cm btc = [] ∧ atc = [] ∧ cm bec = [] ∧ aec = [] ∧ TrivOk b ∧ TrivOk a
  | .has e attrs _ _ bq aq b a =>
    e.ok ∧ attrs ≠ [] ∧ (∀ x ∈ attrs, solidT x) ∧ cm bq = [] ∧ cm aq = [] ∧ TrivOk b ∧ TrivOk a
def allOk : List Expr → Prop
  | [] => True
  | e :: rest => e.ok ∧ allOk rest
end

def recLex (r : Bool) : List Lex := if r then [.tok ['r', 'e', 'c']] else []

/-- the comments after the function of a call as lexical items -/
def cmC (cs : List Comment) : List Lex := cs.map fun c => .cmt (c.token 0)

mutual
/-- tokens and comments of the rendering of an expression, in order -/
def Expr.lexOut : Expr → Bool → List Lex
  | .leaf _ t b a, na => cm b ++ [.tok t] ++ (if na then [] else cm a)
  | .list v _ inner b a, na =>
    cm b ++ [.tok ['[']] ++ (if v.isEmpty then cm inner else lexOutAll v) ++ [.tok [']']] ++
      (if na then [] else cm a)
  | .set v _ r inner b a, na =>
    cm b ++ recLex r ++ [.tok ['{']] ++ (if v.isEmpty then cm inner else lexOutAll v) ++ [.tok ['}']] ++
      (if na then [] else cm a)
  | .binding n v _ b a, na =>
    cm b ++ [.tok n, .tok ['=']] ++ v.lexOut true ++ [.tok [';']] ++ cm (v.after ++ (if na then [] else a))
  | .paren v _ _ _ _ b a, na =>
    cm b ++ [.tok ['(']] ++ v.lexOut false ++ [.tok [')']] ++ (if na then [] else cm a)
  | .app n x _ fa b a, na =>
    cm b ++ n.lexOut false ++ cmC fa ++ x.lexOut false ++ (if na then [] else cm a)
  | .wth env body _ _ _ b a, na =>
    cm b ++ [.tok kwWith] ++ env.lexOut false ++ [.tok [';']] ++ body.lexOut false ++ (if na then [] else cm a)
  -- the trailing trivia of an `assert` are written after its `;`, in front of the body
  | .asrt cond body _ _ b a, na =>
    cm b ++ [.tok kwAssert] ++ cond.lexOut false ++ [.tok [';']] ++ (if na then [] else cm a) ++ body.lexOut false
  | .sel e attrs _ _ b a, na => cm b ++ e.lexOut false ++ attrLex attrs ++ (if na then [] else cm a)
  | .selOr e attrs _ _ d _ _ b a, na =>
    cm b ++ e.lexOut false ++ attrLex attrs ++ [.tok ['o', 'r']] ++ d.lexOut false ++ (if na then [] else cm a)
  | .lam n _ _ _ body b a, na => cm b ++ [.tok n, .tok [':']] ++ body.lexOut false ++ (if na then [] else cm a)
  | .un op e _ _ b a, na => cm b ++ [.tok op] ++ e.lexOut false ++ (if na then [] else cm a)
  | .bin op l r _ _ b a, na => cm b ++ l.lexOut false ++ [.tok op] ++ r.lexOut false ++ (if na then [] else cm a)
  | .ite c t e _ _ _ _ _ _ _ _ _ _ _ b a, na =>
    cm b ++ [.tok kwIf] ++ c.lexOut false ++ [.tok kwThen] ++ t.lexOut false ++ [.tok kwElse] ++ e.lexOut false ++
      (if na then [] else cm a)
  | .has e attrs _ _ _ _ b a, na => cm b ++ e.lexOut false ++ [.tok ['?']] ++ attrLex0 attrs ++ (if na then [] else cm a)
def lexOutAll : List Expr → List Lex
  | [] => []
  | e :: rest => e.lexOut false ++ lexOutAll rest
end

theorem lexOf_joinP_ws (s : Text) : ∀ (xs : List (List FP)), lexOf (joinP [.ws s] xs) = (xs.map lexOf).flatten
  | [] => rfl
  | [x] => by simp [joinP]
  | x :: y :: rest => by
    have := lexOf_joinP_ws s (y :: rest)
    simp only [joinP, lexOf_append, lexOf_ws, lexOf_nil, this]; simp

theorem solid_joinP_ws (s : Text) : ∀ (xs : List (List FP)), (∀ x ∈ xs, Solid x) → Solid (joinP [.ws s] xs)
  | [], _ => solid_nil
  | [x], h => h x (List.mem_cons_self ..)
  | x :: y :: rest, h => by
    simp only [joinP]
    exact solid_append (solid_append (h x (List.mem_cons_self ..)) (solid_cons (solid_ws _) solid_nil))
      (solid_joinP_ws s (y :: rest) (fun z hz => h z (List.mem_cons_of_mem _ hz)))

theorem trimLeading_cm (ts : List Trivia) : cm (trimLeadingLayoutTrivia ts) = cm ts := by
  unfold trimLeadingLayoutTrivia
  induction ts with
  | nil => rfl
  | cons t ts ih =>
    cases t <;> simp [List.dropWhile_cons, Trivia.isLayout, ih]

theorem trimLeading_ok {ts : List Trivia} (h : TrivOk ts) : TrivOk (trimLeadingLayoutTrivia ts) := by
  unfold trimLeadingLayoutTrivia
  have hs : (ts.dropWhile Trivia.isLayout).Sublist ts := List.dropWhile_sublist _
  exact ⟨fun hm => h.1 (hs.mem hm), fun c hc => h.2 c (hs.mem hc)⟩

theorem leafBefore_cm (k : LeafKind) (t : Text) (b : List Trivia) (i : Nat) (inl : Bool) :
    cm (leafBefore k t b i inl) = cm b := by
  unfold leafBefore; split
  · simp only; split
    · exact trimLeading_cm b
    · rfl
  · rfl

theorem leafBefore_ok (k : LeafKind) (t : Text) {b : List Trivia} (h : TrivOk b) (i : Nat) (inl : Bool) :
    TrivOk (leafBefore k t b i inl) := by
  unfold leafBefore; split
  · simp only; split
    · exact trimLeading_ok h
    · exact h
  · exact h

theorem solid_tok {t : Text} (h : solidT t) : Solid [FP.tok t] := solid_cons h solid_nil
theorem solidT_lit (c : Char) (hc : c ≠ '\n') : solidT [c] := by
  refine ⟨by simp, ?_⟩
  simp [endsWithNL]; exact hc

theorem ite_nil_ok (na : Bool) {a : List Trivia} (h : TrivOk a) : TrivOk (if na = true then [] else a) := by
  split
  · exact trivOk_nil
  · exact h

theorem cm_ite_nil (na : Bool) (a : List Trivia) :
    cm (if na = true then [] else a) = if na = true then [] else cm a := by split <;> rfl

theorem solid_tokc (c : Char) (hc : c ≠ '\n') {rest : List FP} (h : Solid rest) : Solid (FP.tok [c] :: rest) :=
  solid_cons (p := FP.tok [c]) (solidT_lit c hc) h
theorem solid_wsc (s : Text) {rest : List FP} (h : Solid rest) : Solid (FP.ws s :: rest) :=
  solid_cons (solid_ws s) h

/-! ### solid pieces read as given lexical items

`Lexes ps L` is the statement of `rebuildAP_lex` about a piece list; it is closed under everything the
renderer does with piece lists, so each constructor's case is its rendering read from left to right. -/

def Lexes (ps : List FP) (L : List Lex) : Prop := lexOf ps = L ∧ Solid ps

namespace Lexes

theorem nil : Lexes [] [] := ⟨rfl, solid_nil⟩

theorem tok {t : Text} {ps : List FP} {L : List Lex} (ht : solidT t) (h : Lexes ps L) :
    Lexes (.tok t :: ps) (.tok t :: L) :=
  ⟨by rw [lexOf_tok, h.1], solid_cons (p := .tok t) ht h.2⟩

theorem tokc (c : Char) (hc : c ≠ '\n') {ps : List FP} {L : List Lex} (h : Lexes ps L) :
    Lexes (.tok [c] :: ps) (.tok [c] :: L) :=
  tok (solidT_lit c hc) h

theorem ws (s : Text) {ps : List FP} {L : List Lex} (h : Lexes ps L) : Lexes (.ws s :: ps) L :=
  ⟨by rw [lexOf_ws, h.1], solid_wsc s h.2⟩

theorem append {a b : List FP} {A B : List Lex} (ha : Lexes a A) (hb : Lexes b B) : Lexes (a ++ b) (A ++ B) :=
  ⟨by rw [lexOf_append, ha.1, hb.1], solid_append ha.2 hb.2⟩

theorem ite (c : Prop) [Decidable c] {a b : List FP} {L : List Lex} (ha : Lexes a L) (hb : Lexes b L) :
    Lexes (if c then a else b) L := by
  split
  · exact ha
  · exact hb

theorem of_eq {ps : List FP} {L L' : List Lex} (h : Lexes ps L) (e : L = L') : Lexes ps L' := e ▸ h

theorem fmtP {ts : List Trivia} (h : TrivOk ts) (i : Nat) : Lexes (fmtP ts i) (cm ts) := ⟨fmtP_lex h i, fmtP_solid h i⟩

theorem indentP (i : Nat) (b : Bool) : Lexes (indentP i b) [] := indentP_lex i b

theorem trailP {after : List Trivia} (ha : TrivOk after) (na : Bool) (i : Nat) :
    Lexes (trailP (if na = true then [] else after) i) (if na = true then [] else cm after) := by
  have := trailP_lex (ite_nil_ok na ha) i
  exact ⟨by rw [this.1, cm_ite_nil], this.2⟩

theorem addTriviaP {before after : List Trivia} {core : List FP} {L : List Lex} (hb : TrivOk before) (ha : TrivOk after)
    (na : Bool) (hc : Lexes core L) (i : Nat) (b : Bool) :
    Lexes (addTriviaP before (if na = true then [] else after) core i b)
      (cm before ++ L ++ (if na = true then [] else cm after)) := by
  unfold Frag.addTriviaP
  exact ((((fmtP hb i).append (indentP i b)).append hc).append (trailP ha na i)).of_eq (by simp)

theorem multilineBlockP (closer : Char) (hc : closer ≠ '\n') (i : Nat) (b s : Bool) {bp op body : List FP}
    {B O Y : List Lex} (h1 : Lexes bp B) (h2 : Lexes op O) (h3 : Lexes body Y) :
    Lexes (multilineBlockP bp op body closer i b s) (B ++ O ++ Y ++ [.tok [closer]]) := by
  unfold Frag.multilineBlockP
  exact ((((((h1.append (indentP i b)).append h2).append (ws _ nil)).append h3).append
    (ite _ nil (ws _ nil))).append (ws _ (tokc closer hc nil))).of_eq (by simp)

theorem joinP_ws (s : Text) {xs : List (List FP)} {L : List Lex}
    (h : (xs.map lexOf).flatten = L ∧ ∀ x ∈ xs, Solid x) : Lexes (joinP [.ws s] xs) L :=
  ⟨by rw [lexOf_joinP_ws, h.1], solid_joinP_ws s xs h.2⟩

theorem recP (r : Bool) : Lexes (recP r) (recLex r) := by
  cases r
  · exact nil
  · exact tok ⟨by simp, by simp [endsWithNL]⟩ (ws _ nil)

end Lexes

theorem fnAfterP_lex : ∀ (cs : List Comment) (acc : List FP) (i : Nat), (∀ c ∈ cs, cOk c) → Solid acc →
    lexOf (fnAfterP acc cs i) = lexOf acc ++ cmC cs ∧ Solid (fnAfterP acc cs i)
  | [], acc, i, _, ha => by simp [fnAfterP, cmC, ha]
  | c :: rest, acc, i, hc, ha => by
    have hc0 := hc c (List.mem_cons_self ..)
    have hr : ∀ c' ∈ rest, cOk c' := fun c' h => hc c' (List.mem_cons_of_mem _ h)
    simp only [fnAfterP]
    split
    · have := fnAfterP_lex rest (acc ++ (if (concat acc).getLast? == some ' ' then [] else [FP.ws [' ']]) ++ cmtP c 0) i hr
        (solid_append (solid_append ha (solid_ite _ solid_nil (solid_cons (solid_ws _) solid_nil))) (cmtP_solid hc0 0))
      refine ⟨?_, this.2⟩
      rw [this.1]; simp [lexOf_ite, cmtP_lex hc0, cmC]
    · have := fnAfterP_lex rest (acc ++ (if endsWithNL (concat acc) = true then [] else [FP.ws ['\n']]) ++ cmtP c i) i hr
        (solid_append (solid_append ha (solid_ite _ solid_nil (solid_cons (solid_ws _) solid_nil))) (cmtP_solid hc0 i))
      refine ⟨?_, this.2⟩
      rw [this.1]; simp [lexOf_ite, cmtP_lex hc0, cmC]

theorem ok_after {e : Expr} (h : e.ok) : TrivOk e.after := by
  cases e with
  | leaf k t b a => exact h.2.2
  | list v m inn b a => exact h.2.2.2
  | set v m r inn b a => exact h.2.2.2
  | binding n v g b a => exact h.2.2.2
  | paren v lg tg lb tb b a => exact h.2.2
  | app n x g fa b a => exact h.2.2.2.2
  | wth e bd c g s b a => exact h.2.2.2.2.2
  | asrt c bd x y b a => exact h.2.2.2.2.2
  | sel e ats g ab b a => exact h.2.2.2.2.2
  | selOr e ats g ab d dg db b a => exact h.2.2.2.2.2.2.2
  | lam n c g k bd b a => exact h.2.2.2.2
  | un o e g bt b a => exact h.2.2.2.2
  | bin o l r x y b a => exact h.2.2.2.2
  | ite c t e cg aic aig btc btg atc tg bec beg aec eg b a => exact h.2.2.2.2.2.2.2.2.2
  | has e ats lg rg bq aq b a => exact h.2.2.2.2.2.2

theorem ok_before {e : Expr} (h : e.ok) : TrivOk e.before := by
  cases e with
  | leaf k t b a => exact h.2.1
  | list v m inn b a => exact h.2.2.1
  | set v m r inn b a => exact h.2.2.1
  | binding n v g b a => exact h.2.2.1
  | paren v lg tg lb tb b a => exact h.2.1
  | app n x g fa b a => exact h.2.2.2.1
  | wth e bd c g s b a => exact h.2.2.2.2.1
  | asrt c bd x y b a => exact h.2.2.2.2.1
  | sel e ats g ab b a => exact h.2.2.2.2.1
  | selOr e ats g ab d dg db b a => exact h.2.2.2.2.2.2.1
  | lam n c g k bd b a => exact h.2.2.2.1
  | un o e g bt b a => exact h.2.2.2.1
  | bin o l r x y b a => exact h.2.2.2.1
  | ite c t e cg aic aig btc btg atc tg bec beg aec eg b a => exact h.2.2.2.2.2.2.2.2.1
  | has e ats lg rg bq aq b a => exact h.2.2.2.2.2.1

theorem leafBefore_nil (k : LeafKind) (t : Text) (i : Nat) (inl : Bool) : leafBefore k t [] i inl = [] := by
  unfold leafBefore; split
  · simp [trimLeadingLayoutTrivia]
  · rfl

theorem endsWithNL_spaces_append (i : Nat) {X : Text} (hX : X ≠ []) : endsWithNL (spaces i ++ X) = endsWithNL X :=
  endsWithNL_append_of_ne_nil _ _ hX

theorem addTriviaP_nil_split (a : List Trivia) (core : List FP) (i : Nat) :
    addTriviaP [] a core i false = .ws (spaces i) :: addTriviaP [] a core i true := by
  simp [addTriviaP, fmtP, fmtGoP, indentP]

/-- without leading trivia, the own-line rendering is the indentation run followed by the inline one -/
theorem rebuildAP_indent_split {e : Expr} (hok : e.ok) (h : e.before = []) (na : Bool) (i : Nat) :
    e.rebuildAP na i false = .ws (spaces i) :: e.rebuildAP na i true := by
  cases e with
  | leaf k t b a =>
    simp only [Expr.before] at h; subst h
    simp [Expr.rebuildAP, addTriviaP, leafBefore_nil, fmtP, fmtGoP, indentP]
  | list v m inn b a =>
    simp only [Expr.before] at h; subst h
    cases v with
    | nil => simp only [Expr.rebuildAP]; split <;> simp [multilineBlockP, fmtP, fmtGoP, indentP]
    | cons x xs => simp only [Expr.rebuildAP]; split <;> simp [multilineBlockP, fmtP, fmtGoP, indentP]
  | set v m r inn b a =>
    simp only [Expr.before] at h; subst h
    cases v with
    | nil => simp only [Expr.rebuildAP]; split <;> simp [multilineBlockP, addTriviaP, fmtP, fmtGoP, indentP]
    | cons x xs => simp only [Expr.rebuildAP]; split <;> simp [multilineBlockP, addTriviaP, fmtP, fmtGoP, indentP]
  | binding n v g b a =>
    simp only [Expr.before] at h; subst h
    simp [Expr.rebuildAP, fmtP, fmtGoP, indentP]
  | un o e g bt b a =>
    simp only [Expr.before] at h; subst h
    have hne : (o == ['+', '+']) = false := by
      have := hok.1.2
      simpa using this
    simp [Expr.rebuildAP, addTriviaP, fmtP, fmtGoP, indentP, hne]
  | asrt c bd x y b a =>
    simp only [Expr.before] at h; subst h
    simp only [Expr.rebuildAP, addTriviaP_nil_split, List.cons_append, concat_cons, text_ws]
    rw [endsWithNL_spaces_append i (by simp [addTriviaP, fmtP, fmtGoP, indentP, kwAssert])]
  | _ =>
    simp only [Expr.before] at h; subst h
    simp only [Expr.rebuildAP]
    exact addTriviaP_nil_split _ _ i

theorem attrP_lex : ∀ (attrs : List Text), attrs ≠ [] → (∀ x ∈ attrs, solidT x) →
    lexOf (FP.tok ['.'] :: attrP attrs) = attrLex attrs ∧ Solid (FP.tok ['.'] :: attrP attrs)
  | [], h, _ => absurd rfl h
  | [a], _, hs => by
    refine ⟨by simp [attrP, attrLex], ?_⟩
    exact solid_tokc '.' (by decide) (solid_tok (hs a (List.mem_cons_self ..)))
  | a :: b :: rest, _, hs => by
    have ih := attrP_lex (b :: rest) (by simp) (fun x hx => hs x (List.mem_cons_of_mem _ hx))
    refine ⟨?_, ?_⟩
    · simp only [attrP, attrLex, lexOf_tok] at ih ⊢
      rw [ih.1]
    · exact solid_tokc '.' (by decide) (solid_cons (p := FP.tok a) (hs a (List.mem_cons_self ..)) ih.2)

/-- the tokens of `a₁.a₂.….aₙ` -/
theorem attrP_lex0 : ∀ (attrs : List Text), attrs ≠ [] → (∀ x ∈ attrs, solidT x) →
    lexOf (attrP attrs) = attrLex0 attrs ∧ Solid (attrP attrs)
  | [], h, _ => absurd rfl h
  | [a], _, hs => ⟨by simp [attrP, attrLex0, attrLex], solid_tok (hs a (List.mem_cons_self ..))⟩
  | a :: b :: rest, _, hs => by
    have ih := attrP_lex (b :: rest) (by simp) (fun x hx => hs x (List.mem_cons_of_mem _ hx))
    refine ⟨?_, solid_cons (p := FP.tok a) (hs a (List.mem_cons_self ..)) ih.2⟩
    simp only [attrP, attrLex0, lexOf_tok] at ih ⊢
    rw [ih.1]

/-- `Lexes.addTriviaP` with the items to be read given by an equation -/
theorem addTriviaP_lex' {before after : List Trivia} {core : List FP} (hb : TrivOk before) (ha : TrivOk after) (na : Bool)
    {L : List Lex} (hc : lexOf core = L ∧ Solid core) (i : Nat) (b : Bool) (R : List Lex)
    (hR : R = cm before ++ L ++ (if na = true then [] else cm after)) :
    lexOf (addTriviaP before (if na = true then [] else after) core i b) = R ∧
    Solid (addTriviaP before (if na = true then [] else after) core i b) :=
  (Lexes.addTriviaP hb ha na hc i b).of_eq hR.symm

theorem solidT_kwIf : solidT kwIf := ⟨by simp [kwIf], by simp [kwIf, endsWithNL]⟩
theorem solidT_kwThen : solidT kwThen := ⟨by simp [kwThen], by simp [kwThen, endsWithNL]⟩
theorem solidT_kwElse : solidT kwElse := ⟨by simp [kwElse], by simp [kwElse, endsWithNL]⟩

/-- the four layouts of a binary expression: left, separator, operator, separator, right -/
theorem binCoreP_shape (l ro ri : List FP) (op : Text) (ogl rgl i : Nat) :
    ∃ w1 w2 R, binCoreP l ro ri op ogl rgl i = l ++ (FP.ws w1 :: FP.tok op :: FP.ws w2 :: R) ∧ (R = ro ∨ R = ri) := by
  unfold binCoreP
  split
  · split
    · exact ⟨List.replicate ogl '\n' ++ spaces i, List.replicate rgl '\n', ro, by simp, Or.inl rfl⟩
    · exact ⟨List.replicate ogl '\n' ++ spaces i, [' '], ri, by simp, Or.inr rfl⟩
  · split
    · exact ⟨[' '], List.replicate rgl '\n', ro, by simp, Or.inl rfl⟩
    · exact ⟨[' '], [' '], ri, by simp, Or.inr rfl⟩

theorem dropCharsP_ws_spaces (i : Nat) (rest : List FP) (hi : i ≠ 0) :
    dropCharsP (.ws (spaces i) :: rest) i = rest := by
  have hl : (spaces i).length = i := by simp [spaces]
  cases rest with
  | nil => simp [dropCharsP, hi, hl]
  | cons q r => simp [dropCharsP, hi, hl]

theorem noLayoutOrComment_nil {ts : List Trivia} (hok : TrivOk ts) (h : hasLayoutOrComment ts = false) : ts = [] := by
  cases ts with
  | nil => rfl
  | cons t r =>
    exfalso
    cases t with
    | comma => exact hok.1 (List.mem_cons_self ..)
    | emptyLine => simp [hasLayoutOrComment] at h
    | linebreak => simp [hasLayoutOrComment] at h
    | comment c => simp [hasLayoutOrComment] at h

/-- the body of a `with`: a separator, then the body rendered inline or on its own line -/
theorem withBodyPartP_shape {body : Expr} (hbd : body.ok) (awc : List Trivia) (asc : List Comment) (i : Nat) :
    ∃ b' w, withBodyPartP (withBodyForce awc asc body.before) body.absorbable
      (body.rebuildAP false i true) (body.rebuildAP false i false) i = .ws w :: body.rebuildAP false i b' := by
  unfold withBodyPartP
  split
  · rename_i hc
    simp only [Bool.and_eq_true, Bool.not_eq_true'] at hc
    have hbf : body.before = [] := by
      have hf := hc.1
      unfold withBodyForce at hf
      simp only [Bool.or_eq_false_iff] at hf
      exact noLayoutOrComment_nil (ok_before hbd) hf.2
    unfold stripIndentPrefixP
    split
    · rename_i hcond
      simp only [Bool.and_eq_true, bne_iff_ne, ne_eq] at hcond
      rw [rebuildAP_indent_split hbd hbf, dropCharsP_ws_spaces i _ hcond.1]
      exact ⟨true, _, rfl⟩
    · exact ⟨false, _, rfl⟩
  · split
    · exact ⟨false, _, rfl⟩
    · exact ⟨true, _, rfl⟩

theorem solidT_kwWith : solidT kwWith := ⟨by simp [kwWith], by simp [kwWith, endsWithNL]⟩
theorem solidT_kwAssert : solidT kwAssert := ⟨by simp [kwAssert], by simp [kwAssert, endsWithNL]⟩

theorem attrLex_eq_cons {attrs : List Text} (h : attrs ≠ []) : attrLex attrs = .tok ['.'] :: attrLex0 attrs := by
  cases attrs with
  | nil => exact absurd rfl h
  | cons a r => rfl

mutual
theorem rebuildAP_lex : (e : Expr) → e.ok → ∀ (na : Bool) (i : Nat) (b : Bool),
    lexOf (e.rebuildAP na i b) = e.lexOut na ∧ Solid (e.rebuildAP na i b)
  | .leaf k t before after, hok, na, i, b => by
    obtain ⟨ht, hb, ha⟩ := hok
    simp only [Expr.rebuildAP, Expr.lexOut]
    exact (Lexes.addTriviaP (leafBefore_ok k t hb i b) ha na (.tok ht .nil) i b).of_eq (by rw [leafBefore_cm])
  | .list value ml inner before after, hok, na, i, b => by
    obtain ⟨hv, hin, hb, ha⟩ := hok
    cases value with
    | nil =>
      simp only [Expr.rebuildAP, Expr.lexOut]
      split
      · exact ((Lexes.multilineBlockP ']' (by decide) i b false (.fmtP hb i) (.tokc '[' (by decide) .nil)
          (.fmtP hin _)).append (.trailP ha na i)).of_eq (by simp)
      · rename_i hne
        have hin0 : inner = [] := by simpa using hne
        exact ((((Lexes.fmtP hb i).append (.indentP i b)).append
          (.tokc '[' (by decide) (.ws _ (.tokc ']' (by decide) .nil)))).append (.trailP ha na i)).of_eq
          (by simp [hin0])
    | cons v vs =>
      have ih := fun i b => rebuildAllP_lex (v :: vs) hv i b
      cases ml with
      | true =>
        simp only [Expr.rebuildAP, Expr.lexOut, if_true, Bool.not_true]
        exact (((Lexes.fmtP hb i).append (.multilineBlockP ']' (by decide) i b true .nil (.tokc '[' (by decide) .nil)
          (.joinP_ws _ (ih _ _)))).append (.trailP ha na i)).of_eq (by simp)
      | false =>
        simp only [Expr.rebuildAP, Expr.lexOut, Bool.false_eq_true, if_false, Bool.not_false]
        exact ((((((Lexes.fmtP hb i).append (.indentP i b)).append (.tokc '[' (by decide) (.ws _ .nil))).append
          (.joinP_ws _ (ih _ _))).append (.ws _ (.tokc ']' (by decide) .nil))).append (.trailP ha na i)).of_eq
          (by simp)
  | .set values ml r inner before after, hok, na, i, b => by
    obtain ⟨hv, hin, hb, ha⟩ := hok
    have hopen : Lexes (recP r ++ [.tok ['{']]) (recLex r ++ [.tok ['{']]) := (Lexes.recP r).append (.tokc '{' (by decide) .nil)
    cases values with
    | nil =>
      simp only [Expr.rebuildAP, Expr.lexOut]
      split
      · exact ((Lexes.multilineBlockP '}' (by decide) i b false (.fmtP hb i) hopen (.fmtP hin _)).append
          (.trailP ha na i)).of_eq (by simp)
      · rename_i hne
        have hin0 : inner = [] := by simpa using hne
        exact (Lexes.addTriviaP hb ha na ((Lexes.recP r).append
          (.tokc '{' (by decide) (.ws _ (.tokc '}' (by decide) .nil)))) i b).of_eq (by simp [hin0])
    | cons v vs =>
      have ih := fun i b => rebuildAllP_lex (v :: vs) hv i b
      simp only [Expr.rebuildAP, Expr.lexOut]
      split
      · exact ((Lexes.multilineBlockP '}' (by decide) i b true (.fmtP hb i) hopen (.joinP_ws _ (ih _ _))).append
          (.trailP ha na i)).of_eq (by simp)
      · exact (Lexes.addTriviaP hb ha na ((((Lexes.recP r).append (.tokc '{' (by decide) (.ws _ .nil))).append
          (.joinP_ws _ (ih _ _))).append (.ws _ (.tokc '}' (by decide) .nil))) i b).of_eq (by simp)
  | .binding name value vg before after, hok, na, i, b => by
    obtain ⟨hn, hv, hb, ha⟩ := hok
    have hbt : Lexes _ _ := bindingTailP_lex (trivOk_append (ok_after hv) (ite_nil_ok na ha)) i
    simp only [Expr.rebuildAP, Expr.lexOut, previewP_getD]
    have hval : Lexes _ _ := rstripNLP_solid
      (rebuildAP_lex value hv true (bindValIndent vg value.before i) (!bindOnNewline vg value.before)).2
    rw [(rebuildAP_lex value hv true _ _).1] at hval
    exact ((((((Lexes.fmtP hb i).append (.indentP i b)).append
      (.tok hn (.ws _ (.tokc '=' (by decide) (.ws _ .nil))))).append hval).append (.tokc ';' (by decide) .nil)).append
      hbt).of_eq (by simp)
  | .paren value lg tg lb tb before after, hok, na, i, b => by
    obtain ⟨hv, hb, ha⟩ := hok
    have ihv : ∀ j c, Lexes (value.rebuildAP false j c) (value.lexOut false) := rebuildAP_lex value hv false
    simp only [Expr.rebuildAP, Expr.lexOut]
    have hinner := Lexes.ite ((Layout.fromGap lg).onNewline = true) (.ws (nlSep lb) (ihv ((Layout.fromGap lg).indent.getD (i + 2)) false))
      (ihv i true)
    exact (Lexes.addTriviaP hb ha na (.tokc '(' (by decide) ((Lexes.ite ((Layout.fromGap tg).onNewline = true)
      ((hinner.append (.ws _ .nil)).of_eq (List.append_nil _)) hinner).append (.tokc ')' (by decide) .nil))) i b).of_eq
      (by simp)
  | .app name arg g fa before after, hok, na, i, b => by
    obtain ⟨hn, hx, hfa, hb, ha⟩ := hok
    have ihn := rebuildAP_lex name hn false i true
    have ihx : ∀ j c, Lexes (arg.rebuildAP false j c) (arg.lexOut false) := rebuildAP_lex arg hx false
    have hf : Lexes _ _ := fnAfterP_lex fa _ i hfa ihn.2
    rw [ihn.1] at hf
    simp only [Expr.rebuildAP, Expr.lexOut]
    exact (Lexes.addTriviaP hb ha na (hf.append (.ws _ (.ite _ (.ws _ (ihx _ _)) (ihx _ _)))) i b).of_eq (by simp)
  | .wth env body awc awGap asc before after, hok, na, i, b => by
    obtain ⟨he, hbd, _, hasc, hb, ha⟩ := hok
    subst hasc
    have ihe : ∀ j c, Lexes (env.rebuildAP false j c) (env.lexOut false) := rebuildAP_lex env he false
    have hbody : Lexes (withBodyPartP (withBodyForce awc [] body.before) body.absorbable
        (body.rebuildAP false i true) (body.rebuildAP false i false) i) (body.lexOut false) := by
      obtain ⟨b', w, hsh⟩ := withBodyPartP_shape hbd awc [] i
      rw [hsh]
      exact .ws w (rebuildAP_lex body hbd false i b')
    simp only [Expr.rebuildAP, Expr.lexOut]
    exact (Lexes.addTriviaP hb ha na ((((Lexes.tok solidT_kwWith (.ws _ .nil)).append (.ite _ (ihe _ _) (ihe _ _))).append
      (.tokc ';' (by decide) (.ws _ .nil))).append hbody) i b).of_eq (by simp)
  | .asrt cond body aac bsc before after, hok, na, i, b => by
    obtain ⟨hc, hbd, _, _, hb, ha⟩ := hok
    have ihc : ∀ j c, Lexes (cond.rebuildAP false j c) (cond.lexOut false) := rebuildAP_lex cond hc false
    have ihb : Lexes _ _ := rebuildAP_lex body hbd false i false
    simp only [Expr.rebuildAP, Expr.lexOut]
    exact (((Lexes.addTriviaP hb ha na (((Lexes.tok solidT_kwAssert (.ws _ .nil)).append
      (.ite _ (ihc _ _) (ihc _ _))).append (.ws _ (.tokc ';' (by decide) .nil))) i b).append (.ws _ .nil)).append ihb).of_eq
      (by simp)
  | .sel expr attrs g ab before after, hok, na, i, b => by
    obtain ⟨he, hne, hat, _, hb, ha⟩ := hok
    have ihe : Lexes _ _ := rebuildAP_lex expr he false i true
    have hap : Lexes _ _ := attrP_lex0 attrs hne hat
    simp only [Expr.rebuildAP, Expr.lexOut]
    exact (Lexes.addTriviaP hb ha na ((ihe.append (.ws _ (.tokc '.' (by decide) .nil))).append hap) i b).of_eq
      (by simp [attrLex_eq_cons hne])
  | .selOr expr attrs g ab d dg db before after, hok, na, i, b => by
    obtain ⟨he, hne, hat, _, hd, _, hb, ha⟩ := hok
    have ihe : Lexes _ _ := rebuildAP_lex expr he false i true
    have ihd : Lexes _ _ := rebuildAP_lex d hd false (selOrIndent dg i) true
    have hap : Lexes _ _ := attrP_lex0 attrs hne hat
    have hor : solidT ['o', 'r'] := ⟨by simp, by simp [endsWithNL]⟩
    simp only [Expr.rebuildAP, Expr.lexOut]
    exact (Lexes.addTriviaP hb ha na ((((ihe.append (.ws _ (.tokc '.' (by decide) .nil))).append hap).append
      (.ws _ (.tok hor (.ws _ .nil)))).append ihd) i b).of_eq (by simp [attrLex_eq_cons hne])
  | .lam name bcc g k body before after, hok, na, i, b => by
    obtain ⟨hn, _, hbd, hb, ha⟩ := hok
    have ihb : Lexes _ _ := rebuildAP_lex body hbd false i (k == 0)
    simp only [Expr.rebuildAP, Expr.lexOut]
    exact (Lexes.addTriviaP hb ha na (.tok hn (.ws _ (.tokc ':' (by decide) (.ws _ ihb)))) i b).of_eq (by simp)
  | .un op expr g bt before after, hok, na, i, b => by
    obtain ⟨⟨hop, _⟩, he, _, hb, ha⟩ := hok
    have ihe : ∀ j c, Lexes (expr.rebuildAP false j c) (expr.lexOut false) := rebuildAP_lex expr he false
    simp only [Expr.rebuildAP, Expr.lexOut]
    exact (Lexes.addTriviaP hb ha na (((Lexes.ite _ (.ws _ (.tok hop .nil)) (.tok hop .nil)).append (.ws _ .nil)).append
      (.ite _ (ihe _ _) (ihe _ _))) i b).of_eq (by simp)
  | .bin op left right ogl rgl before after, hok, na, i, b => by
    obtain ⟨hop, hl, hr, hb, ha⟩ := hok
    have ihl : Lexes _ _ := rebuildAP_lex left hl false i true
    have ihr : ∀ j c, Lexes (right.rebuildAP false j c) (right.lexOut false) := rebuildAP_lex right hr false
    simp only [Expr.rebuildAP, Expr.lexOut]
    obtain ⟨w1, w2, R, hsh, hR⟩ := binCoreP_shape (left.rebuildAP false i true)
      (FP.ws (spaces (ensureIndentPad (concat (right.rebuildAP false (binRightIndent op right i) right.before.isEmpty))
        (binRightIndent op right i))) :: right.rebuildAP false (binRightIndent op right i) right.before.isEmpty)
      (right.rebuildAP false i true) op ogl rgl i
    rw [hsh]
    have hRl : Lexes R (right.lexOut false) := by
      rcases hR with h | h <;> subst h
      · exact .ws _ (ihr _ _)
      · exact ihr _ _
    exact (Lexes.addTriviaP hb ha na (ihl.append (.ws w1 (.tok hop (.ws w2 hRl)))) i b).of_eq (by simp)
  | .ite cond thn els cg aic aig btc btg atc tg bec beg aec eg before after, hok, na, i, b => by
    obtain ⟨hc, ht, he, _, _, _, _, _, hb, ha⟩ := hok
    have ihc : ∀ j c, Lexes (cond.rebuildAP false j c) (cond.lexOut false) := rebuildAP_lex cond hc false
    have iht : ∀ j c, Lexes (thn.rebuildAP false j c) (thn.lexOut false) := rebuildAP_lex thn ht false
    have ihe : ∀ j c, Lexes (els.rebuildAP false j c) (els.lexOut false) := rebuildAP_lex els he false
    simp only [Expr.rebuildAP, Expr.lexOut]
    exact (Lexes.addTriviaP hb ha na ((((((Lexes.tok solidT_kwIf (.ws _ .nil)).append (.ite _ (ihc _ _) (ihc _ _))).append
      (.ws _ (.tok solidT_kwThen (.ws _ .nil)))).append (.ite _ (iht _ _) (iht _ _))).append
      (.ws _ (.tok solidT_kwElse (.ws _ .nil)))).append (.ite _ (ihe _ _) (ihe _ _))) i b).of_eq (by simp)
  | .has expr attrs lg rg bq aq before after, hok, na, i, b => by
    obtain ⟨he, hne, hat, _, _, hb, ha⟩ := hok
    have ihe : Lexes _ _ := rebuildAP_lex expr he false i true
    have hap : Lexes _ _ := attrP_lex0 attrs hne hat
    simp only [Expr.rebuildAP, Expr.lexOut]
    exact (Lexes.addTriviaP hb ha na ((ihe.append (.ws _ (.tokc '?' (by decide) (.ws _ .nil)))).append hap) i b).of_eq
      (by simp)
theorem rebuildAllP_lex : (es : List Expr) → allOk es → ∀ (i : Nat) (b : Bool),
    ((rebuildAllP es i b).map lexOf).flatten = lexOutAll es ∧ ∀ x ∈ rebuildAllP es i b, Solid x
  | [], _, i, b => ⟨rfl, by intro x hx; cases hx⟩
  | e :: rest, hok, i, b => by
    obtain ⟨he, hr⟩ := hok
    have h1 := rebuildAP_lex e he false i b
    have h2 := rebuildAllP_lex rest hr i b
    refine ⟨by simp [rebuildAllP, lexOutAll, h1.1, h2.1], ?_⟩
    intro x hx
    simp only [rebuildAllP, List.mem_cons] at hx
    rcases hx with hx | hx
    · subst hx; exact h1.2
    · exact h2.2 x hx
end


/-! ### files -/

def Src.ok (s : Src) : Prop := allOk s.exprs ∧ TrivOk s.trailing
def Src.lexOut (s : Src) : List Lex := lexOutAll s.exprs ++ cm s.trailing

theorem lexOf_flatten (xs : List (List FP)) : lexOf xs.flatten = (xs.map lexOf).flatten := by
  induction xs with
  | nil => rfl
  | cons x xs ih => simp [ih]

theorem solid_flatten {xs : List (List FP)} (h : ∀ x ∈ xs, Solid x) : Solid xs.flatten := by
  induction xs with
  | nil => exact solid_nil
  | cons x xs ih =>
    simp only [List.flatten_cons]
    exact solid_append (h x (List.mem_cons_self ..)) (ih fun y hy => h y (List.mem_cons_of_mem _ hy))

/-- the tokens and comments of a rebuilt file are those of its expressions, then the trailing comments -/
theorem srcRebuildP_lex (s : Src) (h : s.ok) : lexOf s.rebuildP = s.lexOut ∧ Solid s.rebuildP := by
  obtain ⟨he, ht⟩ := h
  have h1 := rebuildAllP_lex s.exprs he 0 false
  have hr : lexOf (rebuildAllP s.exprs 0 false).flatten = lexOutAll s.exprs := by rw [lexOf_flatten, h1.1]
  have hsr : Solid (rebuildAllP s.exprs 0 false).flatten := solid_flatten h1.2
  have h2 := trimP_lex s.trailing (fmtP_solid ht 0)
  unfold Src.rebuildP Src.lexOut
  simp only
  split
  · rename_i hemp
    have : s.trailing = [] := by simpa using hemp
    rw [this]; exact ⟨by simp [hr], hsr⟩
  · split
    · refine ⟨?_, solid_append (solid_append hsr (solid_ite _ solid_nil (solid_cons (solid_ws _) solid_nil))) h2.2⟩
      simp only [lexOf_append, hr, h2.1, fmtP_lex ht, lexOf_ite]
      simp
    · rename_i hte
      have hz : concat (trimP s.trailing (fmtP s.trailing 0)) = [] := by simpa using hte
      have hcm : cm s.trailing = [] := by
        rw [← fmtP_lex ht 0, ← h2.1]; exact lexOf_of_concat_nil h2.2 hz
      refine ⟨?_, solid_ite _ (solid_append hsr (solid_ite _ solid_nil (solid_cons (solid_ws _) solid_nil))) hsr⟩
      simp only [lexOf_ite, lexOf_append, hr, hcm, lexOf_ws, lexOf_nil]
      simp

/-- a preview, where there is one, lexes like the inline rendering it is (`previewP_inert`) -/
theorem previewP_lex : (e : Expr) → e.ok → ∀ (i : Nat) (p : List FP), e.previewP i = some p →
    lexOf p = e.lexOut true ∧ Solid p :=
  fun e hok i _ h => previewP_inert h ▸ rebuildAP_lex e hok true i true

end Nima.Frag
