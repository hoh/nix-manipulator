import NimaVerif.Lemmas.EditPlain
/-!
Scoped edits (`@name`) on a document without let layers: `set` creates the layer, `rm` of its only
binding prunes it again. Used by C19 (reversibility of scoped edits) and C04.
-/
namespace Nima
-- name tokens are compared by spelling in this file (see `NameCmp` in Model/Edit.lean)
attribute [local instance] NameCmp.spelled
open Node

/-- a set mutation that can only hit the scratch set -/
theorem Doc.updSet_only_scratch (sid : Nat) (f : Node → Node) (e : Doc)
    (h : ({ e with scratch := none } : Doc).hasSet sid = false) :
    e.updSet sid f = { e with scratch := e.scratch.map (Node.updSet sid f) } := by
  have := Doc.updSet_of_not_hasSet sid f _ h
  simp only [Doc.updSet, Option.map_none, Doc.mk.injEq, true_and, and_true] at this
  obtain ⟨h1, h2, h3, h4, h5⟩ := this
  simp only [Doc.updSet, h1, h2, h3, h4, h5]

theorem pathExists_single (ts : Node) (k : Text) :
    pathExistsInAttrset ts [k] = (findNamedBinding ts.setValues k (some false)).isSome := by
  simp [pathExistsInAttrset, findAttrpathLeaf_single, pathExistsInAttrset.go]

theorem onLayer_ok (layers : List Layer) (fromDoc : Bool) (idx : Nat) (op : Node → EditM Unit)
    (d : Doc) (l : Layer) (e' : Doc) (hl : layers[idx]? = some l)
    (hop : op (layerAsSet d.next l)
      { d with next := d.next + 1, scratch := some (layerAsSet d.next l) } = (.ok (), e')) :
    onLayer layers fromDoc idx op d =
      (.ok (listSet (if fromDoc then collectScopeLayers { e' with scratch := none } else layers) idx
          (setLayerFrom (((if fromDoc then collectScopeLayers { e' with scratch := none } else layers)[idx]?).getD l)
            (e'.scratch.getD (layerAsSet d.next l)))),
        { e' with scratch := none }) := by
  rw [onLayer_some hl]
  unfold scratchDoc
  rw [hop]
  rfl

/-- the scratch-set run of `set @k v` on a freshly created layer -/
theorem scratch_set_fresh (e : Doc) (sid : Nat) (rest k : Text) (v : Node)
    (hf : formatNPath currentAnchor rest = .ok [k])
    (hsc : e.scratch = some (.set sid [] [] true false))
    (hns : ({ e with scratch := none } : Doc).hasSet sid = false) :
    setValueInAttrset (.set sid [] [] true false) false rest v e =
      (.ok (), { e with next := e.next + 1,
                        scratch := some (.set sid [.bind e.next k false v [] []] [] true false) }) := by
  rw [setValueInAttrset_single false v hf rfl (by simp [setValues, findAttrpathRoot_spelled]), finalSet]
  have hb : findBinding (Node.set sid [] [] true false).setValues k = none := by
    simp [setValues, findBinding_spelled]
  simp only [hb]
  show setSetItem _ k v e = _
  rw [setSetItem_new v e hb rfl, appendOrder_appendValue,
    Doc.updSet_only_scratch sid _ _ (by simpa [Doc.hasSet] using hns)]
  simp [hsc, updSet, appendBothF]


theorem Doc.hasSet_noScratch_of (d : Doc) (s : Nat) (h : d.hasSet s = false) (x : Option Node) :
    ({ d with scratch := x } : Doc).hasSet s = (x.map (Node.hasSet s)).getD false := by
  simp only [Doc.hasSet, Bool.or_eq_false_iff] at h
  obtain ⟨⟨⟨⟨⟨h1, h2⟩, h3⟩, h4⟩, h5⟩, _⟩ := h
  simp [Doc.hasSet, h1, h2, h3, h4, h5]

theorem set_scoped_newlayer (d : Doc) (p rest k : Text) (v : Node)
    (hnt : d.noTarget = none) (hsp : splitScopeNpath p = .ok (some (1, rest)))
    (hf : formatNPath currentAnchor rest = .ok [k])
    (hnl : d.NoLayers) (hpe : pathExistsInAttrset d.target [k] = false) (hfr : d.Fresh) :
    setValue p (.one v) d = (.ok (), { d with
      tBefore := [], tAfter := [], scope := [.bind (d.next + 1) k false v [] []],
      stBodyBefore := d.tBefore, stBodyAfter := d.tAfter, next := d.next + 2 }) := by
  obtain ⟨h1, h2, h3, h4, h5, h6⟩ := hnl
  have hns : d.hasSet d.next = false := (hfr.not_has d.next (Nat.le_refl _)).2
  have hop := scratch_set_fresh
    { d with tBefore := [], tAfter := [], next := d.next + 1, scratch := some (.set d.next [] [] true false) }
    d.next rest k v hf rfl (by
      have := Doc.hasSet_noScratch_of d d.next hns none
      simpa [Doc.hasSet] using this)
  dsimp only at hop
  let L : Layer := { scope := [], order := [], bodyBefore := d.tBefore, bodyAfter := d.tAfter, afterLet := none }
  have hon := onLayer_ok [L] false 0 (fun s => setValueInAttrset s false rest v)
      { d with tBefore := [], tAfter := [] } L _ rfl hop
  have hcl : collectScopeLayers d = [] := by simp [collectScopeLayers, h1, h6]
  rw [setValue_one, dispatch_eq, route_of_layer hnt hsp, ← (splitScopeNpath_some hsp).2]
  simp only [setScoped, hcl, hf, hpe, List.isEmpty_nil, beq_self_eq_true,
    Bool.and_self, if_true, List.length_singleton, Nat.sub_self, Bool.false_eq_true, if_false,
    gt_iff_lt, Nat.lt_irrefl]
  rw [hon]
  simp [L, writeScopeLayers, listSet, setLayerFrom, setValues, setOrder, h4, h5, h6, hfr.2]


/-- the scratch-set run of `rm @k` on a layer holding exactly the binding `k` -/
theorem scratch_rm_last (e : Doc) (sid j : Nat) (rest k : Text) (v : Node)
    (hf : formatNPath currentAnchor rest = .ok [k])
    (hsc : e.scratch = some (.set sid [.bind j k false v [] []] [] true false))
    (hns : ({ e with scratch := none } : Doc).hasSet sid = false) :
    removeValueInAttrset (.set sid [.bind j k false v [] []] [] true false) rest e =
      (.ok (), { e with scratch := some (.set sid [] [] true false) }) := by
  unfold removeValueInAttrset
  rw [hf]
  have hb : findBinding [Node.bind j k false v [] []] k = some (.bind j k false v [] []) := by
    simp [findBinding_spelled, isBind, bindName?]
  simp only [findAttrpathLeaf_single, setValues, findAttrpathRoot, List.find?, isBind, bindNested,
    Bool.and_false, Bool.false_and, Option.isSome_none, Bool.false_eq_true, if_false, List.isEmpty_nil, if_true, hb,
    Option.isNone_some]
  rw [setDelItem_existing (sid := sid) _ (by simpa [setValues] using hb) rfl rfl,
    Doc.updSet_only_scratch sid _ _ hns]
  simp [hsc, updSet, delItemFn, bindId?]


/-! The steps of the tail of a scoped `remove_value` that repair `trailing`, as functions of it. -/

theorem restoreBodyAfter_some (r : Layer) (x : Doc) :
    restoreBodyAfter (some r) x = { x with trailing :=
      if r.bodyAfter.isEmpty then x.trailing
      else if x.trailing.isEmpty then r.bodyAfter
      else x.trailing ++ r.bodyAfter.filter (!x.trailing.contains ·) } := by
  unfold restoreBodyAfter
  by_cases hb : r.bodyAfter.isEmpty = true
  · simp only [hb, Bool.not_true, Bool.false_eq_true, if_false, if_true]
  · simp only [hb, Bool.not_false, if_true]
    split <;> rfl

theorem keepOriginalTrailing_eq (orig : Payload) (x : Doc) :
    keepOriginalTrailing orig x =
      { x with trailing := if x.trailing.isEmpty && !orig.isEmpty then orig else x.trailing } := by
  unfold keepOriginalTrailing
  split <;> rfl

/-- `rm @k` on a document whose only let layer holds exactly the binding `k`: the layer is pruned -/
theorem rm_scoped_last (e : Doc) (p rest k : Text) (j : Nat) (v : Node)
    (hnt : e.noTarget = none) (hsp : splitScopeNpath p = .ok (some (1, rest)))
    (hf : formatNPath currentAnchor rest = .ok [k])
    (hscope : e.scope = [.bind j k false v [] []]) (hord : e.stOrder = []) (hstack : e.stack = [])
    (hscr : e.scratch = none) (hns : e.hasSet e.next = false) :
    removeValue p e = (.ok (), { e with
      scope := [], stBodyBefore := [], stBodyAfter := [], stOrder := [], stAfterLet := none, stack := [],
      tBefore := if e.stBodyBefore.isEmpty then e.tBefore else e.stBodyBefore,
      tAfter := e.stBodyAfter ++ e.tAfter.filter (!e.stBodyAfter.contains ·),
      trailing := restoredTrailing e.trailing e.stBodyAfter,
      next := e.next + 1, rstripped := !e.stBodyBefore.isEmpty }) := by
  let L : Layer := { scope := e.scope, order := e.stOrder, bodyBefore := e.stBodyBefore,
                     bodyAfter := e.stBodyAfter, afterLet := e.stAfterLet }
  have hcl : collectScopeLayers e = [L] := by simp [collectScopeLayers, hscope, hstack, L]
  have hop := scratch_rm_last
    { e with next := e.next + 1, scratch := some (.set e.next [.bind j k false v [] []] [] true false) }
    e.next j rest k v hf rfl (by
      have := Doc.hasSet_noScratch_of e e.next hns none
      simpa [Doc.hasSet] using this)
  dsimp only at hop
  have hon := onLayer_ok [L] true 0 (fun s => removeValueInAttrset s rest) e L _ rfl
    (by simpa [layerAsSet, L, hscope, hord] using hop)
  rw [removeValue_eq, dispatch_eq, route_of_layer hnt hsp, ← (splitScopeNpath_some hsp).2]
  simp only [removeScoped, hcl, List.length_singleton, Nat.sub_self, gt_iff_lt, Nat.lt_irrefl, if_false]
  rw [hon]
  simp only [rmFinish, rmRemoved, rmLayers, popTrailing]
  simp [collectScopeLayers, hscope, hstack, hord, listSet, setLayerFrom, setValues, setOrder,
    writeScopeLayers, restoredTrailing, stripLayoutTail, L, hscr, restoreBodyAfter_some,
    keepOriginalTrailing_eq]


/-- `set @k v` then `rm @k` on a document without let layers: the layer is created, then pruned.
    Everything is restored except `trailing` (see `restoredTrailing`), the `rstripped` flag and `next`. -/
theorem scoped_set_rm (d : Doc) (p rest k : Text) (v : Node)
    (hnt : d.noTarget = none) (hsp : splitScopeNpath p = .ok (some (1, rest)))
    (hf : formatNPath currentAnchor rest = .ok [k])
    (hnl : d.NoLayers) (hpe : pathExistsInAttrset d.target [k] = false) (hfr : d.Fresh)
    (hv : hasSet (d.next + 2) v = false) :
    removeValue p (setValue p (.one v) d).2 = (.ok (), { d with
      trailing := restoredTrailing d.trailing d.tAfter,
      rstripped := !d.tBefore.isEmpty, next := d.next + 3 }) := by
  rw [set_scoped_newlayer d p rest k v hnt hsp hf hnl hpe hfr]
  dsimp only
  obtain ⟨h1, h2, h3, h4, h5, h6⟩ := hnl
  have hns : d.hasSet (d.next + 2) = false := (hfr.not_has (d.next + 2) (by omega)).2
  have hns' := hns
  simp only [Doc.hasSet, Bool.or_eq_false_iff] at hns'
  obtain ⟨⟨⟨⟨⟨g1, g2⟩, g3⟩, g4⟩, g5⟩, g6⟩ := hns'
  have key := rm_scoped_last { d with
      tBefore := [], tAfter := [], scope := [.bind (d.next + 1) k false v [] []],
      stBodyBefore := d.tBefore, stBodyAfter := d.tAfter, next := d.next + 2 }
    p rest k (d.next + 1) v hnt hsp hf rfl h4 h6 hfr.2
    (by simp [Doc.hasSet, g1, g3, g4, g5, hfr.2, hasSetL, hasSet, hv])
  dsimp only at key
  rw [key]
  by_cases hb : d.tBefore = [] <;> simp [h1, h2, h3, h4, h5, h6, hb]


theorem dropWhile_eq_nil_of_all {α} (p : α → Bool) : ∀ (l : List α), (∀ x ∈ l, p x = true) → l.dropWhile p = []
  | [], _ => rfl
  | a :: as, h => by
    rw [List.dropWhile_cons, if_pos (h a (by simp))]
    exact dropWhile_eq_nil_of_all p as (fun x hx => h x (by simp [hx]))

/-- `trailing` made of layout tokens only (the usual "file ends with a newline") is restored -/
theorem restoredTrailing_layout (t : Payload) (h : ∀ x ∈ t, x = 0 ∨ x = 1) : restoredTrailing t [] = t := by
  have hd : List.dropWhile (fun t => t == 0 || t == 1) t.reverse = [] := by
    apply dropWhile_eq_nil_of_all
    intro x hx
    rcases h x (List.mem_reverse.1 hx) with rfl | rfl <;> rfl
  cases t with
  | nil => rfl
  | cons a as =>
    simp only [restoredTrailing, stripLayoutTail, hd]
    simp

/-- so is a `trailing` that does not end in a layout token (or is empty) -/
theorem restoredTrailing_no_layout_tail (t : Payload)
    (h : ∀ x, t.getLast? = some x → x ≠ 0 ∧ x ≠ 1) : restoredTrailing t [] = t := by
  have hd : List.dropWhile (fun t => t == 0 || t == 1) t.reverse = t.reverse := by
    cases hr : t.reverse with
    | nil => rfl
    | cons a as =>
      have : t.getLast? = some a := by
        rw [List.getLast?_eq_head?_reverse, hr]; rfl
      obtain ⟨h0, h1⟩ := h a this
      rw [List.dropWhile_cons]
      simp [h0, h1]
  simp only [restoredTrailing, stripLayoutTail, hd]
  simp

end Nima
