import NimaVerif.Lemmas.ScopedFrame
import NimaVerif.Lemmas.MappingLaws
/-! One-segment scoped edits: what the addressed layer holds afterwards (lookup level). -/
namespace Nima
-- name tokens are compared by spelling in this file (see `NameCmp` in Model/Edit.lean)
attribute [local instance] NameCmp.spelled

open Node EditM

theorem hasIdentValueL_mem {xs : List Node} (h : hasIdentValueL xs = false) {x : Node}
    (hx : x ∈ xs) : hasIdentValue x = false := by
  induction xs with
  | nil => cases hx
  | cons y ys ih =>
    simp only [hasIdentValueL, Bool.or_eq_false_iff] at h
    rcases List.mem_cons.1 hx with rfl | hm
    · exact h.1
    · exact ih h.2 hm

theorem bindValue_not_ident {b : Node} (h : hasIdentValue b = false) (k : Text) :
    b.bindValue? ≠ some (.ident k) := by
  intro hk
  cases b <;> simp [bindValue?] at hk
  subst hk
  simp [hasIdentValue] at h

/-- the scratch set after a successful one-segment `set` on a plain layer -/
theorem set_single_scratch (d : Doc) (l : Layer) {name seg : Text} (v : Node)
    (hfmt : formatNPath currentAnchor name = .ok [seg]) (hplain : l.plain = true)
    (hok : (setValueInAttrset (layerAsSet d.next l) false name v (scratchDoc d l)).1 = .ok ()) :
    ∃ S', (setValueInAttrset (layerAsSet d.next l) false name v (scratchDoc d l)).2.scratch = some S' ∧
      (∃ b, findBinding S'.setValues seg = some b ∧ b.bindValue? = some v) ∧
      keysOf S'.setValues =
        if (findBinding l.scope seg).isSome then keysOf l.scope else keysOf l.scope ++ [seg] := by
  have hsc : (scratchDoc d l).scratch = some (layerAsSet d.next l) := rfl
  simp only [layerAsSet] at hok hsc ⊢
  cases hroot : findAttrpathRoot l.scope seg with
  | some x =>
    rw [setValueInAttrset_single_root (ts := .set d.next l.scope l.order true false) false v hfmt rfl
      (by rw [setValues_set, hroot]; rfl)] at hok
    cases hok
  | none =>
    rw [setValueInAttrset_single (ts := .set d.next l.scope l.order true false) false v hfmt rfl
      (by rw [setValues_set]; exact hroot), finalSet, setValues_set] at hok ⊢
    cases hb : findBinding l.scope seg with
    | some b =>
      obtain ⟨hm, hbb, _⟩ := findBinding_some hb
      obtain ⟨bid, hid⟩ := isBind_bindId hbb
      have hni : hasIdentValue b = false := by
        simp only [Layer.plain, Bool.and_eq_true, Bool.not_eq_eq_eq_not, Bool.not_true] at hplain
        exact hasIdentValueL_mem hplain.1 hm
      simp only [assignExisting_plain _ _ false v hid (bindValue_not_ident hni), assign_apply]
      refine ⟨updBind bid v (.set d.next l.scope l.order true false),
        by simp only [Doc.updBind, hsc, Option.map_some], ?_, ?_⟩
      · simp only [updBind, setValues_set]
        exact findBinding_updBindL_value v hb hid
      · simp [updBind, setValues_set]
    | none =>
      simp only
      have hnew := setSetItem_new (s := .set d.next l.scope l.order true false) (k := seg)
        (sid := d.next) v (scratchDoc d l) (by rw [setValues_set]; exact hb) rfl
      rw [hnew]
      refine ⟨_, scratch_updSet_self _ d.next _ _ hsc rfl, ?_, ?_⟩
      · rw [appendBoth_values]
        exact ⟨_, findBinding_append_new l.scope _ seg rfl rfl hb, rfl⟩
      · rw [appendBoth_values]
        simp [keysOf, itemKeys]

/-- the scratch set after a successful one-segment `rm` on a well-formed layer -/
theorem rm_single_scratch (d : Doc) (l : Layer) {name seg : Text}
    (hfmt : formatNPath currentAnchor name = .ok [seg]) (hdist : DistinctItems l.scope = true)
    (hok : (removeValueInAttrset (layerAsSet d.next l) name (scratchDoc d l)).1 = .ok ()) :
    ∃ S' b l₁ l₂, (removeValueInAttrset (layerAsSet d.next l) name (scratchDoc d l)).2.scratch = some S' ∧
      l.scope = l₁ ++ b :: l₂ ∧ b.isBind = true ∧ b.bindName? = some seg ∧ S'.setValues = l₁ ++ l₂ := by
  have hsc : (scratchDoc d l).scratch = some (layerAsSet d.next l) := rfl
  simp only [layerAsSet] at hok hsc ⊢
  cases hroot : findAttrpathRoot l.scope seg with
  | some x =>
    rw [removeValueInAttrset_single_root (ts := .set d.next l.scope l.order true false) hfmt
      (by rw [setValues_set, hroot]; rfl)] at hok
    cases hok
  | none =>
    rw [removeValueInAttrset_single (ts := .set d.next l.scope l.order true false) hfmt
      (by rw [setValues_set]; exact hroot)] at hok ⊢
    cases hb : findBinding l.scope seg with
    | none => rw [setDelItem_missing _ (by rw [setValues_set]; exact hb)] at hok; cases hok
    | some b =>
      obtain ⟨_, hbb, hbn⟩ := findBinding_some hb
      obtain ⟨bid, hid⟩ := isBind_bindId hbb
      obtain ⟨l₁, l₂, hvs, he⟩ := eraseP_found hdist hb hid
      rw [setDelItem_existing (s := .set d.next l.scope l.order true false) (sid := d.next) _
        (by rw [setValues_set]; exact hb) hid rfl]
      refine ⟨delItemFn bid (.set d.next l.scope l.order true false), b, l₁, l₂,
        scratch_updSet_self _ d.next _ _ hsc rfl, hvs, hbb, hbn, ?_⟩
      simp only [delItemFn, setValues_set, he]

end Nima
