import NimaVerif.Lemmas.Trace
import NimaVerif.Model.Frame
/-!
Footprints of the attrset-level edit functions: `setValueInAttrset` / `removeValueInAttrset` run on
a set `ts` only mutate Binding / AttributeSet objects that occur in `ts` or are fresh (plus, when a
binding's value is an identifier, the binding the reference resolves to).
-/
namespace Nima
-- name tokens are compared by spelling in this file (see `NameCmp` in Model/Edit.lean)
attribute [local instance] NameCmp.spelled

open Node EditM

mutual
  /-- every Binding identity in the node is in `A`, every AttributeSet identity in `S`, and
      (with `ni`) no binding's value is an identifier -/
  def Node.Within (A S : Nat → Prop) (ni : Bool) : Node → Prop
    | .atom _ => True
    | .ident _ => True
    | .set sid vs o _ _ => S sid ∧ WithinL A S ni vs ∧ WithinL A S ni o
    | .bind i _ _ v _ _ => A i ∧ (ni = true → v.isIdent = false) ∧ Node.Within A S ni v
    | .inherit _ _ => True
    | .entry _ leaf _ _ => Node.Within A S ni leaf
  def WithinL (A S : Nat → Prop) (ni : Bool) : List Node → Prop
    | [] => True
    | x :: xs => Node.Within A S ni x ∧ WithinL A S ni xs
end

section
variable {A S : Nat → Prop} {ni : Bool}

theorem withinL_mem {xs : List Node} (h : WithinL A S ni xs) {x : Node} (hx : x ∈ xs) :
    x.Within A S ni := by
  induction xs with
  | nil => cases hx
  | cons y ys ih =>
    simp only [WithinL] at h
    rcases List.mem_cons.1 hx with rfl | hm
    · exact h.1
    · exact ih h.2 hm

theorem within_values {n : Node} (h : n.Within A S ni) : WithinL A S ni n.setValues := by
  cases n <;> simp_all [Node.Within, setValues, WithinL]

theorem within_sid {n : Node} {sid : Nat} (h : n.Within A S ni) (hs : n.setSid? = some sid) :
    S sid := by
  cases n <;> simp_all [Node.Within, setSid?]

theorem within_bindId {b : Node} {bid : Nat} (h : b.Within A S ni) (hb : b.bindId? = some bid) :
    A bid := by
  cases b <;> simp_all [Node.Within, bindId?]

theorem within_bindValue {b v : Node} (h : b.Within A S ni) (hb : b.bindValue? = some v) :
    v.Within A S ni := by
  cases b <;> simp_all [Node.Within, bindValue?]

theorem within_notIdent {b v : Node} (h : b.Within A S ni) (hb : b.bindValue? = some v)
    (hni : ni = true) : v.isIdent = false := by
  cases b <;> simp_all [Node.Within, bindValue?]

theorem within_findBinding {n b : Node} {k : Text} (h : n.Within A S ni)
    (hb : findBinding n.setValues k = some b) : b.Within A S ni :=
  withinL_mem (within_values h) (findBinding_some hb).1

theorem within_find {xs : List Node} {p : Node → Bool} {b : Node} (h : WithinL A S ni xs)
    (hb : xs.find? p = some b) : b.Within A S ni :=
  withinL_mem h (List.mem_of_find?_eq_some hb)

theorem within_findNamed {n b : Node} {k : Text} {ne : Option Bool} (h : n.Within A S ni)
    (hb : findNamedBinding n.setValues k ne = some b) : b.Within A S ni :=
  within_find (within_values h) hb

theorem within_findRoot {n b : Node} {k : Text} (h : n.Within A S ni)
    (hb : findAttrpathRoot n.setValues k = some b) : b.Within A S ni :=
  within_find (within_values h) hb

theorem within_empty_set {sid : Nat} {m r : Bool} (h : S sid) :
    (Node.set sid [] [] m r).Within A S ni := by
  simp [Node.Within, WithinL, h]

/-- values reached by `__getitem__` are inside -/
theorem within_setGetItem {s : Node} {k : Text} {v : Node} (hs : s.Within A S ni)
    (h : setGetItem s k = .ok v) : v.Within A S ni :=
  setGetItem_induct (fun hn hb hw => within_bindValue (within_findBinding hn hb) hw)
    (fun _ => trivial) hs h

/-- the stack of `_walk_attrpath_stack` consists of nodes of the tree -/
theorem within_walkGo {leafNested requireRoot : Bool} (segs : List Text) :
    ∀ (current : Node) (stack res : List (Node × Node)),
      current.Within A S ni → (∀ pb ∈ stack, pb.1.Within A S ni ∧ pb.2.Within A S ni) →
      walkAttrpathStack.go leafNested requireRoot current stack segs = .ok (some res) →
      ∀ pb ∈ res, pb.1.Within A S ni ∧ pb.2.Within A S ni := by
  induction segs with
  | nil =>
    intro current stack res _ hst h
    simp only [walkAttrpathStack.go] at h
    injection h with h; injection h with h; subst h; exact hst
  | cons seg more ih =>
    intro current stack res hc hst h
    cases more with
    | nil =>
      simp only [walkAttrpathStack.go] at h
      split at h
      · split at h <;> cases h
      · rename_i b hb
        injection h with h; injection h with h; subst h
        intro pb hpb
        rcases List.mem_append.1 hpb with hpb | hpb
        · exact hst pb hpb
        · simp only [List.mem_singleton] at hpb; subst hpb
          exact ⟨hc, within_findNamed hc hb⟩
    | cons seg2 more2 =>
      simp only [walkAttrpathStack.go] at h
      split at h
      · split at h <;> cases h
      · rename_i b hb
        split at h
        · rename_i w _ _ _ _ _ hw
          refine ih _ _ res (within_bindValue (within_findNamed hc hb) hw) ?_ h
          intro pb hpb
          rcases List.mem_append.1 hpb with hpb | hpb
          · exact hst pb hpb
          · simp only [List.mem_singleton] at hpb; subst hpb
            exact ⟨hc, within_findNamed hc hb⟩
        · split at h <;> cases h

theorem within_walkStack {ts : Node} {segs : List Text} {leafNested requireRoot : Bool}
    {res : List (Node × Node)} (hts : ts.Within A S ni)
    (h : walkAttrpathStack ts segs leafNested requireRoot = .ok (some res)) :
    ∀ pb ∈ res, pb.1.Within A S ni ∧ pb.2.Within A S ni := by
  unfold walkAttrpathStack at h
  split at h
  · split at h <;> cases h
  · split at h <;> cases h
  · rename_i root rest _
    split at h
    · split at h <;> cases h
    · rename_i rootB hroot
      split at h
      · rename_i rv _ _ _ _ _ hrv
        have hb := within_findRoot hts hroot
        refine within_walkGo rest _ _ res (within_bindValue hb hrv) ?_ h
        intro pb hpb
        simp only [List.mem_singleton] at hpb; subst hpb
        exact ⟨hts, hb⟩
      · split at h <;> cases h

theorem within_findLeaf {ts leaf : Node} {segs : List Text} (hts : ts.Within A S ni)
    (h : findAttrpathLeaf ts segs = some leaf) : leaf.Within A S ni := by
  unfold findAttrpathLeaf at h
  split at h
  · rename_i stack hst
    cases hl : stack.getLast? with
    | none => simp [hl] at h
    | some pb =>
      simp only [hl, Option.map_some, Option.some.injEq] at h
      subst h
      exact (within_walkStack hts hst pb (List.mem_of_getLast? hl)).2
  · cases h

end

/-! ### footprints of the edit functions -/

section
variable {grow : Bool} {A S : Nat → Prop} {ni : Bool} {N : Nat}

theorem traced_setSetItem {s : Node} (hs : s.Within A S ni) (key : Text) (v : Node) :
    Traced grow A S N (setSetItem s key v) (fun _ => True) := by
  unfold setSetItem
  split
  · rename_i b _ hb
    split
    · rename_i bid hid
      exact Traced.assign (within_bindId (within_findBinding hs hb) hid)
    · exact Traced.pure trivial
  · rename_i sid hb hsid
    have hS := within_sid hs hsid
    exact Traced.bind Traced.fresh fun bid _ =>
      Traced.bind (Traced.appendValue hS) fun _ _ => Traced.appendOrder hS
  · exact Traced.throw

theorem traced_assignThrough (hAll : ∀ i, A i) (ts : Node) (wl : Bool) (name : Text) (v : Node) :
    Traced grow A S N (assignThrough ts wl name v) (fun _ => True) := by
  unfold assignThrough
  refine Traced.bind Traced.get fun d _ => ?_
  dsimp only
  refine Traced.ite (Traced.pure trivial) ?_
  split
  · rename_i bid _
    exact Traced.bind (Traced.assign (hAll bid)) fun _ _ => Traced.pure trivial
  · exact Traced.pure trivial

theorem traced_assignExisting (hor : ni = true ∨ ∀ i, A i) (ts parent : Node) (wl : Bool)
    {b : Node} (hb : b.Within A S ni) (v : Node) :
    Traced grow A S N (assignExisting ts parent wl b v) (fun _ => True) := by
  unfold assignExisting
  split
  · rename_i bid targetName hid hval
    rcases hor with hni | hAll
    · have := within_notIdent hb hval hni
      simp [Node.isIdent] at this
    · refine Traced.bind (traced_assignThrough hAll ts wl targetName v) fun r _ => ?_
      refine Traced.ite (Traced.pure trivial) (Traced.bind Traced.get fun d _ => ?_)
      dsimp only
      split
      · split
        · rename_i oid _
          exact Traced.assign (hAll oid)
        · exact Traced.pure trivial
      · split
        · split
          · rename_i sid' _
            exact Traced.assign (hAll sid')
          · exact Traced.pure trivial
        · exact Traced.assign (hAll bid)
  · rename_i bid _ hid _
    exact Traced.assign (within_bindId hb hid)
  · exact Traced.pure trivial

theorem traced_setAttrpathWalk (hS : ∀ i, N ≤ i → S i) (segs : List Text) :
    ∀ current : Node, current.Within A S ni →
      Traced grow A S N (setAttrpathWalk current segs) (fun n => n.Within A S ni) := by
  induction segs with
  | nil => intro current hc; unfold setAttrpathWalk; exact Traced.pure hc
  | cons seg more ih =>
    intro current hc
    unfold setAttrpathWalk
    split
    · rename_i b hb
      split
      · rename_i w _ _ _ _ _ hw
        exact ih _ (within_bindValue (within_findNamed hc hb) hw)
      · exact Traced.throw
    · refine Traced.ite Traced.throw ?_
      split
      · exact Traced.throw
      · rename_i csid hcs
        have hC := within_sid hc hcs
        refine Traced.bind Traced.fresh fun sid hsid => ?_
        refine Traced.bind Traced.fresh fun bid _ => ?_
        refine Traced.bind (Traced.appendValue hC) fun _ _ => ?_
        exact ih _ (within_empty_set (hS sid hsid))

theorem traced_setAttrpathValue (hS : ∀ i, N ≤ i → S i) {tsSid : Nat} (hts : S tsSid)
    {root : Node} (hroot : root.Within A S ni) (segs : List Text) (v : Node) :
    Traced grow A S N (setAttrpathValue tsSid root segs v) (fun _ => True) := by
  unfold setAttrpathValue
  split
  · rename_i rv _ _ _ _ _ hrv
    refine Traced.bind (traced_setAttrpathWalk hS _ _ (within_bindValue hroot hrv)) fun current hc => ?_
    split
    · exact Traced.throw
    · refine Traced.ite Traced.throw ?_
      split
      · rename_i b hb
        split
        · rename_i bid hid
          exact Traced.assign (within_bindId (within_findNamed hc hb) hid)
        · exact Traced.pure trivial
      · split
        · exact Traced.throw
        · rename_i csid hcs
          have hC := within_sid hc hcs
          refine Traced.bind Traced.fresh fun bid _ => ?_
          refine Traced.bind (Traced.appendValue hC) fun _ _ => ?_
          exact Traced.appendOrder hts
  · exact Traced.throw

theorem traced_resolveParentWalk (hS : ∀ i, N ≤ i → S i) (cm : Bool) (keys : List Text) :
    ∀ current : Node, current.Within A S ni →
      Traced grow A S N (resolveParentWalk cm current keys) (fun n => n.Within A S ni) := by
  induction keys with
  | nil => intro current hc; unfold resolveParentWalk; exact Traced.pure hc
  | cons key more ih =>
    intro current hc
    unfold resolveParentWalk
    split
    · rename_i w _ _ _ _ _ hw
      exact ih _ (within_setGetItem hc hw)
    · exact Traced.throw
    · refine Traced.ite Traced.throw ?_
      split
      · exact Traced.throw
      · refine Traced.bind Traced.fresh fun sid hsid => ?_
        refine Traced.bind (traced_setSetItem hc _ _) fun _ _ => ?_
        exact ih _ (within_empty_set (hS sid hsid))

theorem traced_setValueInAttrset (hS : ∀ i, N ≤ i → S i) (hor : ni = true ∨ ∀ i, A i)
    {ts : Node} (hts : ts.Within A S ni) (wl : Bool) (npath : Text) (v : Node) :
    Traced grow A S N (setValueInAttrset ts wl npath v) (fun _ => True) := by
  unfold setValueInAttrset
  split
  · exact Traced.throw
  · exact Traced.throw
  · exact Traced.throw
  · rename_i segs seg0 segRest tsSid _ htsid
    have hT := within_sid hts htsid
    split
    · rename_i leaf hleaf
      split
      · rename_i lid hlid
        exact Traced.assign (within_bindId (within_findLeaf hts hleaf) hlid)
      · exact Traced.pure trivial
    · dsimp only
      refine Traced.ite (Traced.ite Traced.throw ?_) ?_
      · split
        · rename_i b hb
          exact traced_assignExisting hor ts ts wl (within_findBinding hts hb) v
        · exact traced_setSetItem hts _ _
      · split
        · rename_i root hroot
          exact traced_setAttrpathValue hS hT (within_findRoot hts hroot) _ _
        · refine Traced.bind (traced_resolveParentWalk hS true _ ts hts) fun parent hp => ?_
          split
          · exact Traced.throw
          · split
            · rename_i b hb
              exact traced_assignExisting hor ts parent wl (within_findBinding hp hb) v
            · exact traced_setSetItem hp _ _

/-! ### footprints of the removals -/

theorem traced_setDelItem {s : Node} (hs : s.Within A S ni) (key : Text) :
    Traced false A S N (setDelItem s key) (fun _ => True) := by
  unfold setDelItem
  split
  · rename_i b sid hb hsid
    split
    · rename_i bid hid
      refine Traced.onSet (.delItem bid) ?_ (within_sid hs hsid) (fun h => by cases h)
      funext n; cases n <;> rfl
    · exact Traced.pure trivial
  · exact Traced.throw

theorem traced_pruneParents (l : List (Node × Node)) :
    (∀ pb ∈ l, pb.1.Within A S ni ∧ pb.2.Within A S ni) →
      Traced false A S N (pruneParents l) (fun _ => True) := by
  induction l with
  | nil => intro _; unfold pruneParents; exact Traced.pure trivial
  | cons pb rest ih =>
    intro h
    obtain ⟨parent, b⟩ := pb
    unfold pruneParents
    refine Traced.bind Traced.get fun d _ => ?_
    split
    · rename_i vsid _ _ _ _ psid bid _ hps _
      have hP := within_sid (h (parent, b) (by simp)).1 hps
      have hgo : Traced false A S N (do removeValueById psid bid; pruneParents rest) (fun _ => True) :=
        Traced.bind (Traced.removeValueById hP) fun _ _ => ih fun pb hpb => h pb (by simp [hpb])
      dsimp only
      split
      · split
        · exact hgo
        · exact Traced.pure trivial
      · simp only [if_true]
        exact hgo
    · exact Traced.pure trivial

theorem traced_removeAttrpathValue {ts : Node} (hts : ts.Within A S ni) (segs : List Text) :
    Traced false A S N (removeAttrpathValue ts segs) (fun _ => True) := by
  unfold removeAttrpathValue
  split
  · exact Traced.throw
  · exact Traced.throw
  · rename_i stack hst
    have hstack := within_walkStack hts hst
    split
    · rename_i parent leaf tsSid hlast htsid
      have hpl := hstack (parent, leaf) (List.mem_of_getLast? hlast)
      split
      · rename_i psid lid hps hlid
        refine Traced.bind (Traced.removeValueById (within_sid hpl.1 hps)) fun _ _ => ?_
        refine Traced.bind (Traced.onSet (.eraseEntry lid) ?_ (within_sid hts htsid)
          (fun h => by cases h)) fun _ _ => ?_
        · funext n; cases n <;> rfl
        · apply traced_pruneParents
          intro pb hpb
          exact hstack pb (List.dropLast_subset _ (List.mem_reverse.1 hpb))
      · exact Traced.throw
    · exact Traced.throw

theorem traced_removeValueInAttrset (hS : ∀ i, N ≤ i → S i) {ts : Node}
    (hts : ts.Within A S ni) (npath : Text) :
    Traced false A S N (removeValueInAttrset ts npath) (fun _ => True) := by
  unfold removeValueInAttrset
  cases formatNPath currentAnchor npath with
  | error e => exact Traced.throw
  | ok segs =>
    cases segs with
    | nil => exact Traced.throw
    | cons seg0 segRest =>
      dsimp only
      refine Traced.ite (traced_removeAttrpathValue hts _) (Traced.ite ?_ ?_)
      · exact Traced.ite Traced.throw (Traced.ite Traced.throw (traced_setDelItem hts _))
      · refine Traced.ite (traced_removeAttrpathValue hts _) ?_
        refine Traced.bind (traced_resolveParentWalk hS false _ ts hts) fun parent hp => ?_
        split
        · exact Traced.throw
        · exact traced_setDelItem hp _

end

end Nima
