import NimaVerif.Lemmas.FragParse
/-! `a comment never absorbs code` for the piece-level renderer of the container fragment. Core Lean only. -/
namespace Nima.Frag
open Nima

/-! ### safety scan -/

theorem safeGo_append : ∀ (o : Bool) (a b : List FP),
    safeGo o (a ++ b) = (safeGo o a && safeGo (openAfter o a) b)
  | o, [], b => by simp [safeGo, openAfter]
  | o, p :: a, b => by
    simp only [List.cons_append, safeGo, openAfter, safeGo_append _ a b, Bool.and_assoc]

theorem openAfter_append : ∀ (o : Bool) (a b : List FP), openAfter o (a ++ b) = openAfter (openAfter o a) b
  | o, [], b => rfl
  | o, p :: a, b => by simp only [List.cons_append, openAfter, openAfter_append _ a b]

theorem step_of_empty {p : FP} (h : p.text = []) (o : Bool) : stepOk o p = true ∧ stepOpen o p = o := by
  simp [stepOk, stepOpen, h]

/-- a piece list that writes nothing leaves the state alone -/
theorem scan_of_concat_nil : ∀ (o : Bool) (ps : List FP), concat ps = [] → safeGo o ps = true ∧ openAfter o ps = o
  | o, [], _ => ⟨rfl, rfl⟩
  | o, p :: rest, h => by
    rw [concat_cons] at h
    have h1 : p.text = [] := (List.append_eq_nil_iff.mp h).1
    have h2 := scan_of_concat_nil o rest (List.append_eq_nil_iff.mp h).2
    have h3 := step_of_empty h1 o
    simp only [safeGo, openAfter, h3.1, h3.2, Bool.true_and]
    exact h2

@[simp] theorem stepOk_ws_nl (o : Bool) (s : Text) : stepOk o (.ws ('\n' :: s)) = true := by
  simp [stepOk, startsWithNL]
@[simp] theorem stepOpen_ws_cons (o : Bool) (c : Char) (s : Text) : stepOpen o (.ws (c :: s)) = false := by
  simp [stepOpen]
@[simp] theorem stepOk_false (p : FP) : stepOk false p = true := by
  cases p <;> simp [stepOk]
@[simp] theorem stepOpen_tok_cons (o : Bool) (c : Char) (s : Text) : stepOpen o (.tok (c :: s)) = false := by
  simp [stepOpen]
@[simp] theorem stepOpen_ws_false (s : Text) : stepOpen false (.ws s) = false := by
  simp [stepOpen]
@[simp] theorem stepOpen_tok_false (s : Text) : stepOpen false (.tok s) = false := by
  simp [stepOpen]

/-! ### `format_trivia` as lines -/

/-- the pieces one trivia item renders to -/
def itemP (i : Nat) : Trivia → List FP
  | .emptyLine => [.ws ['\n']]
  | .linebreak => []
  | .comma => [.tok [',']]
  | .comment c => cmtP c i ++ [.ws ['\n']]

def linesP (i : Nat) (ts : List Trivia) : List FP := ts.flatMap (itemP i)

theorem linesP_nil (i : Nat) : linesP i [] = [] := rfl
theorem linesP_cons (i : Nat) (t : Trivia) (ts : List Trivia) : linesP i (t :: ts) = itemP i t ++ linesP i ts := by
  simp [linesP]
theorem linesP_append (i : Nat) (a b : List Trivia) : linesP i (a ++ b) = linesP i a ++ linesP i b := by
  simp [linesP]

theorem fmtGoP_lines (i : Nat) : ∀ (ts : List Trivia) (acc : List FP) (e : Bool), CommaFree ts →
    fmtGoP i ts acc e = acc ++ linesP i ts
  | [], acc, e, _ => by simp [fmtGoP, linesP]
  | .emptyLine :: rest, acc, e, h => by
    rw [fmtGoP, fmtGoP_lines i rest _ _ (commaFree_cons h), linesP_cons]; simp [itemP]
  | .linebreak :: rest, acc, e, h => by
    rw [fmtGoP, fmtGoP_lines i rest _ _ (commaFree_cons h), linesP_cons]; simp [itemP]
  | .comma :: rest, acc, e, h => absurd (List.mem_cons_self ..) h
  | .comment c :: rest, acc, e, h => by
    rw [fmtGoP, fmtGoP_lines i rest _ _ (commaFree_cons h), linesP_cons]; simp [itemP]

theorem fmtP_lines {ts : List Trivia} (h : CommaFree ts) (i : Nat) : fmtP ts i = linesP i ts := by
  rw [fmtP, fmtGoP_lines i ts [] true h]; rfl

theorem dropLastCharP_snoc (xs : List FP) (p : FP) (hp : p.text.length = 1) : dropLastCharP (xs ++ [p]) = xs := by
  induction xs with
  | nil => simp [dropLastCharP, hp]
  | cons x xs ih =>
    have hne : (concat (xs ++ [p])).isEmpty = false := by
      rw [concat_append]
      cases hpt : p.text with
      | nil => rw [hpt] at hp; simp at hp
      | cons c r => simp [hpt]
    simp only [List.cons_append, dropLastCharP, hne, Bool.false_eq_true, if_false, ih]

theorem endsWithNL_concat_snoc_nl (xs : List FP) : endsWithNL (concat (xs ++ [.ws ['\n']])) = true := by
  rw [concat_append]; simp [endsWithNL]

/-- `trim_trailing_layout_newline(ts, format_trivia(ts))`: the line break after a final comment is cut -/
theorem trimP_lines_comment (i : Nat) (init : List Trivia) (c : Comment) (all : List Trivia)
    (hl : all.getLast? = some (.comment c)) :
    trimP all (linesP i (init ++ [.comment c])) = linesP i init ++ cmtP c i := by
  unfold trimP
  rw [hl]
  have e : linesP i (init ++ [.comment c]) = (linesP i init ++ cmtP c i) ++ [.ws ['\n']] := by
    rw [linesP_append, linesP_cons, linesP_nil]; simp [itemP]
  simp only [e, Trivia.isLayout, Bool.not_false, Bool.true_and, endsWithNL_concat_snoc_nl, if_true]
  exact dropLastCharP_snoc _ _ rfl

theorem trimP_layout (all : List Trivia) (t : Trivia) (hl : all.getLast? = some t) (ht : t.isLayout = true)
    (ps : List FP) : trimP all ps = ps := by
  unfold trimP; rw [hl]; simp [ht]

theorem trimP_nil_ps (all : List Trivia) : trimP all [] = [] := by
  unfold trimP; cases all.getLast? <;> simp [endsWithNL]

/-! ### generic facts about the scan -/

/-- some comment piece is a line comment -/
def hasLineP (ps : List FP) : Prop := ∃ s, FP.cmt s ∈ ps ∧ isLineTok s = true

theorem hasLineP_append {a b : List FP} : hasLineP (a ++ b) ↔ hasLineP a ∨ hasLineP b := by
  constructor
  · rintro ⟨s, hm, hl⟩
    rcases List.mem_append.mp hm with h | h
    · exact Or.inl ⟨s, h, hl⟩
    · exact Or.inr ⟨s, h, hl⟩
  · rintro (⟨s, hm, hl⟩ | ⟨s, hm, hl⟩)
    · exact ⟨s, List.mem_append_left _ hm, hl⟩
    · exact ⟨s, List.mem_append_right _ hm, hl⟩

theorem not_hasLineP_nil : ¬ hasLineP [] := by rintro ⟨s, hm, _⟩; cases hm

theorem hasLineP_cons {p : FP} {ps : List FP} :
    hasLineP (p :: ps) ↔ (∃ s, p = .cmt s ∧ isLineTok s = true) ∨ hasLineP ps := by
  constructor
  · rintro ⟨t, hm, hl⟩
    rcases List.mem_cons.mp hm with h | h
    · exact Or.inl ⟨t, h.symm, hl⟩
    · exact Or.inr ⟨t, h, hl⟩
  · rintro (⟨s, rfl, hl⟩ | ⟨t, hm, hl⟩)
    · exact ⟨s, List.mem_cons_self .., hl⟩
    · exact ⟨t, List.mem_cons_of_mem _ hm, hl⟩

theorem stepOpen_true {o : Bool} {p : FP} (h : stepOpen o p = true) :
    o = true ∨ ∃ s, p = .cmt s ∧ isLineTok s = true := by
  unfold stepOpen at h
  split at h
  · exact Or.inl h
  · cases p with
    | ws s => cases h
    | tok s => cases h
    | cmt s => exact Or.inr ⟨s, rfl, h⟩

/-- the scan ends with an open line comment only if it started with one or met one -/
theorem openAfter_true : ∀ (o : Bool) (ps : List FP), openAfter o ps = true → o = true ∨ hasLineP ps
  | o, [], h => Or.inl h
  | o, p :: rest, h => by
    rcases openAfter_true _ rest h with h1 | h1
    · rcases stepOpen_true h1 with h2 | h2
      · exact Or.inl h2
      · exact Or.inr (hasLineP_cons.mpr (Or.inl h2))
    · exact Or.inr (hasLineP_cons.mpr (Or.inr h1))

theorem step_dropLast {p : FP} (hl : ¬ p.text.length ≤ 1) (o : Bool) :
    stepOk o (p.withText p.text.dropLast) = stepOk o p ∧ stepOpen o (p.withText p.text.dropLast) = stepOpen o p := by
  cases p with
  | ws s =>
    match s, hl with
    | [], hl => exact absurd (by simp) hl
    | [_], hl => exact absurd (by simp) hl
    | a :: b :: r, _ => simp [FP.withText, stepOk, stepOpen, startsWithNL]
  | tok s =>
    match s, hl with
    | [], hl => exact absurd (by simp) hl
    | [_], hl => exact absurd (by simp) hl
    | a :: b :: r, _ => simp [FP.withText, stepOk, stepOpen]
  | cmt s =>
    match s, hl with
    | [], hl => exact absurd (by simp) hl
    | [_], hl => exact absurd (by simp) hl
    | a :: b :: r, _ => simp [FP.withText, stepOk, stepOpen, isLineTok]

/-- cutting the last character never makes the output unsafe -/
theorem safeGo_dropLastCharP : ∀ (o : Bool) (ps : List FP), safeGo o ps = true → safeGo o (dropLastCharP ps) = true
  | o, [], _ => rfl
  | o, p :: rest, h => by
    simp only [safeGo, Bool.and_eq_true] at h
    simp only [dropLastCharP]
    by_cases he : (concat rest).isEmpty = true
    · simp only [he, if_true]
      by_cases hl : p.text.length ≤ 1
      · simp [hl, safeGo]
      · simp only [hl, if_false, safeGo, (step_dropLast hl o).1, h.1, Bool.and_self]
    · simp only [he, Bool.false_eq_true, if_false, safeGo, h.1, Bool.true_and]
      exact safeGo_dropLastCharP _ rest h.2

theorem hasLineP_dropLastCharP : ∀ (ps : List FP), hasLineP (dropLastCharP ps) → hasLineP ps
  | [], h => h
  | p :: rest, h => by
    simp only [dropLastCharP] at h
    by_cases he : (concat rest).isEmpty = true
    · simp only [he, if_true] at h
      by_cases hl : p.text.length ≤ 1
      · simp only [hl, if_true] at h; exact absurd h not_hasLineP_nil
      · simp only [hl, if_false] at h
        rcases hasLineP_cons.mp h with ⟨t, hm, ht⟩ | h'
        · cases p with
          | ws s => cases hm
          | tok s => cases hm
          | cmt s =>
            simp only [FP.withText] at hm
            injection hm with hm
            subst hm
            simp only [text_cmt] at hl
            refine hasLineP_cons.mpr (Or.inl ⟨s, rfl, ?_⟩)
            match s, hl, ht with
            | [], hl, _ => exact absurd (by simp) hl
            | [_], hl, _ => exact absurd (by simp) hl
            | a :: b :: r, _, ht => simpa [isLineTok, List.dropLast] using ht
        · exact absurd h' not_hasLineP_nil
    · simp only [he, Bool.false_eq_true, if_false] at h
      rcases hasLineP_cons.mp h with h1 | h1
      · exact hasLineP_cons.mpr (Or.inl h1)
      · exact hasLineP_cons.mpr (Or.inr (hasLineP_dropLastCharP rest h1))

/-! ### trivia renderers are safe -/

theorem token_head {c : Comment} (hc : cOk c) (k : Nat) : isLineTok (c.token k) = true → c.kind = .line := by
  intro h
  cases hk : c.kind with
  | line => rfl
  | block doc ii =>
    exfalso
    unfold Comment.token at h
    simp only [hk, show containsNL c.text = false from hc, Bool.false_eq_true, if_false] at h
    cases doc <;> simp [isLineTok] at h

theorem cmtP_scan {c : Comment} (hc : cOk c) (i : Nat) (rest : List FP) :
    safeGo false (cmtP c i ++ rest) = safeGo (isLineTok (c.token 0)) rest ∧
    openAfter false (cmtP c i ++ rest) = openAfter (isLineTok (c.token 0)) rest := by
  have hne := token_ne_nil c (c.effIndent i) (cOk_tokenLike hc)
  have hti := token_indep hc (c.effIndent i)
  have hso : stepOpen false (FP.cmt (c.token (c.effIndent i))) = isLineTok (c.token 0) := by
    unfold stepOpen
    have : (FP.cmt (c.token (c.effIndent i))).text.isEmpty = false := by
      simp only [text_cmt]; cases hx : c.token (c.effIndent i) with
      | nil => exact absurd hx hne
      | cons _ _ => rfl
    rw [hti] at this ⊢
    simp only [this, Bool.false_eq_true, if_false]
  simp only [cmtP, List.cons_append, List.nil_append, safeGo, openAfter, stepOk_false, stepOpen_ws_false,
    Bool.true_and, hso]
  exact ⟨trivial, trivial⟩

theorem linesP_scan (i : Nat) : ∀ {ts : List Trivia}, TrivOk ts →
    safeGo false (linesP i ts) = true ∧ openAfter false (linesP i ts) = false
  | [], _ => ⟨rfl, rfl⟩
  | .emptyLine :: rest, h => by
    have ih := linesP_scan i (trivOk_cons h)
    rw [linesP_cons]; simpa [itemP, safeGo, openAfter] using ih
  | .linebreak :: rest, h => by
    have ih := linesP_scan i (trivOk_cons h)
    rw [linesP_cons]; simpa [itemP] using ih
  | .comma :: rest, h => absurd (List.mem_cons_self ..) h.1
  | .comment c :: rest, h => by
    have ih := linesP_scan i (trivOk_cons h)
    have hc : cOk c := h.2 c (List.mem_cons_self ..)
    rw [linesP_cons]
    simp only [itemP, List.append_assoc]
    have := cmtP_scan hc i ([FP.ws ['\n']] ++ linesP i rest)
    rw [this.1, this.2]
    simpa [safeGo, openAfter] using ih

theorem hasLineP_cmtP {c : Comment} (hc : cOk c) (i : Nat) (h : hasLineP (cmtP c i)) : c.kind = .line := by
  obtain ⟨s, hm, hl⟩ := h
  simp only [cmtP, List.mem_cons, List.mem_nil_iff, or_false] at hm
  rcases hm with hm | hm
  · cases hm
  · injection hm with hm; subst hm; exact token_head hc _ hl

/-- no comment of the list is a line comment -/
def lineFree (ts : List Trivia) : Prop := ∀ c, Trivia.comment c ∈ ts → c.kind ≠ .line

theorem hasLineP_linesP (i : Nat) : ∀ {ts : List Trivia}, TrivOk ts → hasLineP (linesP i ts) → ¬ lineFree ts
  | [], _, h => absurd h not_hasLineP_nil
  | t :: rest, hok, h => by
    rw [linesP_cons, hasLineP_append] at h
    intro hf
    rcases h with h | h
    · cases t with
      | emptyLine => simp only [itemP] at h; exact not_hasLineP_nil (hasLineP_cons.mp h |>.resolve_left (by rintro ⟨s, hs, _⟩; cases hs))
      | linebreak => exact not_hasLineP_nil h
      | comma => exact absurd (List.mem_cons_self ..) hok.1
      | comment c =>
        simp only [itemP, hasLineP_append] at h
        rcases h with h | h
        · exact hf c (List.mem_cons_self ..) (hasLineP_cmtP (hok.2 c (List.mem_cons_self ..)) i h)
        · exact not_hasLineP_nil (hasLineP_cons.mp h |>.resolve_left (by rintro ⟨s, hs, _⟩; cases hs))
    · exact hasLineP_linesP i (trivOk_cons hok) h (fun c hc => hf c (List.mem_cons_of_mem _ hc))

theorem trimP_safe (all : List Trivia) (o : Bool) {ps : List FP} (h : safeGo o ps = true) :
    safeGo o (trimP all ps) = true := by
  unfold trimP
  cases all.getLast? with
  | none => exact h
  | some t => simp only; split
              · exact safeGo_dropLastCharP o ps h
              · exact h

theorem hasLineP_trimP (all : List Trivia) {ps : List FP} (h : hasLineP (trimP all ps)) : hasLineP ps := by
  unfold trimP at h
  cases hl : all.getLast? with
  | none => simpa [hl] using h
  | some t =>
    simp only [hl] at h
    split at h
    · exact hasLineP_dropLastCharP ps h
    · exact h

theorem nlBlockP_safe (o : Bool) {ps : List FP} (h : safeGo false ps = true) : safeGo o (nlBlockP ps) = true := by
  unfold nlBlockP; split
  · rfl
  · simp [safeGo, h, stepOpen]

theorem hasLineP_nlBlockP {ps : List FP} (h : hasLineP (nlBlockP ps)) : hasLineP ps := by
  unfold nlBlockP at h; split at h
  · exact absurd h not_hasLineP_nil
  · exact (hasLineP_cons.mp h).resolve_left (by rintro ⟨s, hs, _⟩; cases hs)

theorem lineFree_cons {t : Trivia} {ts : List Trivia} (h : lineFree (t :: ts)) : lineFree ts :=
  fun c hc => h c (List.mem_cons_of_mem _ hc)

theorem lineFree_append {a b : List Trivia} : lineFree (a ++ b) ↔ lineFree a ∧ lineFree b := by
  constructor
  · intro h; exact ⟨fun c hc => h c (List.mem_append_left _ hc), fun c hc => h c (List.mem_append_right _ hc)⟩
  · rintro ⟨ha, hb⟩ c hc
    rcases List.mem_append.mp hc with h | h
    · exact ha c h
    · exact hb c h

theorem lineFree_nil : lineFree [] := by intro c hc; cases hc

/-- what `apply_trailing_trivia` appends is safe after a token, and leaves a line comment open only
    if the list has one -/
theorem trailP_safe {after : List Trivia} (h : TrivOk after) (i : Nat) :
    safeGo false (trailP after i) = true ∧ (hasLineP (trailP after i) → ¬ lineFree after) := by
  have hall := fmtP_lines h.1 i
  have hs := linesP_scan i h
  unfold trailP
  match after, h, hall, hs with
  | [], _, _, _ => exact ⟨rfl, fun h => absurd h not_hasLineP_nil⟩
  | .comma :: rest, h, _, _ => exact absurd (List.mem_cons_self ..) h.1
  | .emptyLine :: rest, h, hall, hs =>
    simp only [hall]
    refine ⟨nlBlockP_safe _ (trimP_safe _ _ hs.1), fun hl => ?_⟩
    exact hasLineP_linesP i h (hasLineP_trimP _ (hasLineP_nlBlockP hl))
  | .linebreak :: rest, h, hall, hs =>
    simp only [hall]
    refine ⟨nlBlockP_safe _ (trimP_safe _ _ hs.1), fun hl => ?_⟩
    exact hasLineP_linesP i h (hasLineP_trimP _ (hasLineP_nlBlockP hl))
  | .comment c :: rest, h, hall, hs =>
    have hc : cOk c := h.2 c (List.mem_cons_self ..)
    have hr := trivOk_cons h
    simp only
    split
    · rw [fmtP_lines hr.1 i]
      have hsr := linesP_scan i hr
      refine ⟨?_, fun hl => ?_⟩
      · rw [show (FP.ws [' '] :: cmtP c 0 ++ nlBlockP (trimP (Trivia.comment c :: rest) (linesP i rest))) =
          [FP.ws [' ']] ++ (cmtP c 0 ++ nlBlockP (trimP (Trivia.comment c :: rest) (linesP i rest))) from rfl,
          safeGo_append]
        simp only [safeGo, openAfter, stepOk_false, stepOpen_ws_false, Bool.true_and, (cmtP_scan hc 0 _).1]
        exact nlBlockP_safe _ (trimP_safe _ _ hsr.1)
      · rcases hasLineP_cons.mp hl with ⟨s, hs', _⟩ | hl
        · cases hs'
        · rcases hasLineP_append.mp hl with hl | hl
          · exact fun hf => hf c (List.mem_cons_self ..) (hasLineP_cmtP hc 0 hl)
          · exact fun hf => hasLineP_linesP i hr (hasLineP_trimP _ (hasLineP_nlBlockP hl)) (lineFree_cons hf)
    · simp only [hall]
      refine ⟨nlBlockP_safe _ (trimP_safe _ _ hs.1), fun hl => ?_⟩
      exact hasLineP_linesP i h (hasLineP_trimP _ (hasLineP_nlBlockP hl))

theorem bindingTailP_safe {after : List Trivia} (h : TrivOk after) (i : Nat) :
    safeGo false (bindingTailP after i) = true ∧ (hasLineP (bindingTailP after i) → ¬ lineFree after) := by
  unfold bindingTailP
  match after, h with
  | [], h => exact trailP_safe h i
  | .emptyLine :: rest, h => exact trailP_safe h i
  | .comma :: rest, h => exact trailP_safe h i
  | .comment c :: rest, h => exact trailP_safe h i
  | .linebreak :: rest, h =>
    have hr := trivOk_cons h
    have hsr := linesP_scan i hr
    simp only [fmtP_lines hr.1 i]
    have hs : safeGo false (if startsWithNL (concat (linesP i rest)) = true then linesP i rest
        else .ws ['\n'] :: linesP i rest) = true := by
      split
      · exact hsr.1
      · simp [safeGo, stepOpen, hsr.1]
    have hl : hasLineP (if startsWithNL (concat (linesP i rest)) = true then linesP i rest
        else .ws ['\n'] :: linesP i rest) → ¬ lineFree (.linebreak :: rest) := by
      intro hh hf
      have : hasLineP (linesP i rest) := by
        split at hh
        · exact hh
        · exact (hasLineP_cons.mp hh).resolve_left (by rintro ⟨s, hs', _⟩; cases hs')
      exact hasLineP_linesP i hr this (lineFree_cons hf)
    generalize (if startsWithNL (concat (linesP i rest)) = true then linesP i rest
        else FP.ws ['\n'] :: linesP i rest) = tr at hs hl ⊢
    split
    · exact ⟨safeGo_dropLastCharP _ _ hs, fun hh => hl (hasLineP_dropLastCharP _ hh)⟩
    · exact ⟨hs, hl⟩

/-! ### expressions without line comments -/

/-- no comment of the list is a line comment -/
def lineFreeC (cs : List Comment) : Prop := ∀ c ∈ cs, c.kind ≠ .line

mutual
/-- no line comment anywhere in the expression -/
def Expr.lineFreeE : Expr → Prop
  | .leaf _ _ b a => lineFree b ∧ lineFree a
  | .list v _ inner b a => allLineFree v ∧ lineFree inner ∧ lineFree b ∧ lineFree a
  | .set v _ _ inner b a => allLineFree v ∧ lineFree inner ∧ lineFree b ∧ lineFree a
  | .binding _ v _ b a => v.lineFreeE ∧ lineFree b ∧ lineFree a
  | .paren v _ _ _ _ b a => v.lineFreeE ∧ lineFree b ∧ lineFree a
  | .app n x _ fa b a => n.lineFreeE ∧ x.lineFreeE ∧ lineFreeC fa ∧ lineFree b ∧ lineFree a
  | .wth env body _ _ _ b a => env.lineFreeE ∧ body.lineFreeE ∧ lineFree b ∧ lineFree a
  | .asrt c bd _ _ b a => c.lineFreeE ∧ bd.lineFreeE ∧ lineFree b ∧ lineFree a
  | .sel e _ _ _ b a => e.lineFreeE ∧ lineFree b ∧ lineFree a
  | .selOr e _ _ _ d _ _ b a => e.lineFreeE ∧ d.lineFreeE ∧ lineFree b ∧ lineFree a
  | .lam _ _ _ _ body b a => body.lineFreeE ∧ lineFree b ∧ lineFree a
  | .un _ e _ _ b a => e.lineFreeE ∧ lineFree b ∧ lineFree a
  | .bin _ l r _ _ b a => l.lineFreeE ∧ r.lineFreeE ∧ lineFree b ∧ lineFree a
  | .ite c t e _ _ _ _ _ _ _ _ _ _ _ b a => c.lineFreeE ∧ t.lineFreeE ∧ e.lineFreeE ∧ lineFree b ∧ lineFree a
  | .has e _ _ _ _ _ b a => e.lineFreeE ∧ lineFree b ∧ lineFree a
def allLineFree : List Expr → Prop
  | [] => True
  | e :: rest => e.lineFreeE ∧ allLineFree rest
end

/-- no comment of a lexical sequence is a line comment -/
def noLineL (l : List Lex) : Prop := ∀ s, Lex.cmt s ∈ l → isLineTok s = false

theorem noLineL_append {a b : List Lex} : noLineL (a ++ b) ↔ noLineL a ∧ noLineL b := by
  constructor
  · intro h; exact ⟨fun s hs => h s (List.mem_append_left _ hs), fun s hs => h s (List.mem_append_right _ hs)⟩
  · rintro ⟨ha, hb⟩ s hs
    rcases List.mem_append.mp hs with h | h
    · exact ha s h
    · exact hb s h
theorem noLineL_nil : noLineL [] := by intro s hs; cases hs
theorem noLineL_tok (t : Text) : noLineL [Lex.tok t] := by
  intro s hs; simp at hs
theorem noLineL_ite (c : Prop) [Decidable c] {a b : List Lex} (ha : noLineL a) (hb : noLineL b) :
    noLineL (if c then a else b) := by split <;> assumption

theorem noLineL_attrLex : ∀ (attrs : List Text), noLineL (attrLex attrs)
  | [] => noLineL_nil
  | a :: r => by
    intro s hs
    simp only [attrLex, List.mem_cons] at hs
    rcases hs with h | h | h
    · cases h
    · cases h
    · exact noLineL_attrLex r s h

theorem noLineL_attrLex0 (attrs : List Text) : noLineL (attrLex0 attrs) := by
  cases attrs with
  | nil => exact noLineL_nil
  | cons a r =>
    intro s hs
    simp only [attrLex0, List.mem_cons] at hs
    rcases hs with h | h
    · cases h
    · exact noLineL_attrLex r s h

theorem noLineL_cm {ts : List Trivia} (hok : TrivOk ts) (h : lineFree ts) : noLineL (cm ts) := by
  intro s hs
  simp only [cm, List.mem_filterMap] at hs
  obtain ⟨t, ht, hts⟩ := hs
  cases t with
  | emptyLine => cases hts
  | linebreak => cases hts
  | comma => cases hts
  | comment c =>
    injection hts with hts; injection hts with hts; subst hts
    cases hl : isLineTok (c.token 0) with
    | false => rfl
    | true => exact absurd (token_head (hok.2 c ht) 0 hl) (h c ht)

theorem noLineL_recLex (r : Bool) : noLineL (recLex r) := by
  cases r
  · exact noLineL_nil
  · exact noLineL_tok _

theorem noLineL_cmC {cs : List Comment} (hok : ∀ c ∈ cs, cOk c) (h : lineFreeC cs) : noLineL (cmC cs) := by
  intro s hs
  simp only [cmC, List.mem_map] at hs
  obtain ⟨c, hc, hcs⟩ := hs
  injection hcs with hcs; subst hcs
  cases hl : isLineTok (c.token 0) with
  | false => rfl
  | true => exact absurd (token_head (hok c hc) 0 hl) (h c hc)

theorem lineFreeE_after {e : Expr} (h : e.lineFreeE) : lineFree e.after := by
  cases e with
  | leaf k t b a => exact h.2
  | binding n v g b a => exact h.2.2
  | paren v lg tg lb tb b a => exact h.2.2
  | app n x g fa b a => exact h.2.2.2.2
  | sel e ats g ab b a => exact h.2.2
  | lam n c g k bd b a => exact h.2.2
  | un o e g bt b a => exact h.2.2
  | ite c t e cg aic aig btc btg atc tg bec beg aec eg b a => exact h.2.2.2.2
  | has e ats lg rg bq aq b a => exact h.2.2
  | _ => exact h.2.2.2

mutual
theorem lexOut_noLine : (e : Expr) → e.ok → e.lineFreeE → ∀ na, noLineL (e.lexOut na)
  | .leaf k t b a, hok, hf, na => by
    simp only [Expr.lexOut]
    exact noLineL_append.mpr ⟨noLineL_append.mpr ⟨noLineL_cm hok.2.1 hf.1, noLineL_tok _⟩,
      noLineL_ite _ noLineL_nil (noLineL_cm hok.2.2 hf.2)⟩
  | .list v ml inner b a, hok, hf, na => by
    simp only [Expr.lexOut]
    refine noLineL_append.mpr ⟨noLineL_append.mpr ⟨noLineL_append.mpr ⟨noLineL_append.mpr
      ⟨noLineL_cm hok.2.2.1 hf.2.2.1, noLineL_tok _⟩, noLineL_ite _ (noLineL_cm hok.2.1 hf.2.1)
        (lexOutAll_noLine v hok.1 hf.1)⟩, noLineL_tok _⟩,
      noLineL_ite _ noLineL_nil (noLineL_cm hok.2.2.2 hf.2.2.2)⟩
  | .set v ml r inner b a, hok, hf, na => by
    simp only [Expr.lexOut]
    refine noLineL_append.mpr ⟨noLineL_append.mpr ⟨noLineL_append.mpr ⟨noLineL_append.mpr ⟨noLineL_append.mpr
      ⟨noLineL_cm hok.2.2.1 hf.2.2.1, noLineL_recLex r⟩, noLineL_tok _⟩, noLineL_ite _ (noLineL_cm hok.2.1 hf.2.1)
        (lexOutAll_noLine v hok.1 hf.1)⟩, noLineL_tok _⟩,
      noLineL_ite _ noLineL_nil (noLineL_cm hok.2.2.2 hf.2.2.2)⟩
  | .binding n v g b a, hok, hf, na => by
    have hva : lineFree v.after := lineFreeE_after hf.1
    simp only [Expr.lexOut]
    refine noLineL_append.mpr ⟨noLineL_append.mpr ⟨noLineL_append.mpr ⟨noLineL_append.mpr
      ⟨noLineL_cm hok.2.2.1 hf.2.1, ?_⟩, lexOut_noLine v hok.2.1 hf.1 true⟩, noLineL_tok _⟩, ?_⟩
    · intro s hs; simp at hs
    · rw [cm_append]
      exact noLineL_append.mpr ⟨noLineL_cm (ok_after hok.2.1) hva,
        by split; exact noLineL_nil; exact noLineL_cm hok.2.2.2 hf.2.2⟩
  | .paren v lg tg lb tb b a, hok, hf, na => by
    simp only [Expr.lexOut]
    exact noLineL_append.mpr ⟨noLineL_append.mpr ⟨noLineL_append.mpr ⟨noLineL_append.mpr
      ⟨noLineL_cm hok.2.1 hf.2.1, noLineL_tok _⟩, lexOut_noLine v hok.1 hf.1 false⟩, noLineL_tok _⟩,
      noLineL_ite _ noLineL_nil (noLineL_cm hok.2.2 hf.2.2)⟩
  | .app n x g fa b a, hok, hf, na => by
    simp only [Expr.lexOut]
    exact noLineL_append.mpr ⟨noLineL_append.mpr ⟨noLineL_append.mpr ⟨noLineL_append.mpr
      ⟨noLineL_cm hok.2.2.2.1 hf.2.2.2.1, lexOut_noLine n hok.1 hf.1 false⟩, noLineL_cmC hok.2.2.1 hf.2.2.1⟩,
      lexOut_noLine x hok.2.1 hf.2.1 false⟩, noLineL_ite _ noLineL_nil (noLineL_cm hok.2.2.2.2 hf.2.2.2.2)⟩
  | .wth env body awc g asc b a, hok, hf, na => by
    simp only [Expr.lexOut]
    exact noLineL_append.mpr ⟨noLineL_append.mpr ⟨noLineL_append.mpr ⟨noLineL_append.mpr ⟨noLineL_append.mpr
      ⟨noLineL_cm hok.2.2.2.2.1 hf.2.2.1, noLineL_tok _⟩, lexOut_noLine env hok.1 hf.1 false⟩, noLineL_tok _⟩,
      lexOut_noLine body hok.2.1 hf.2.1 false⟩, noLineL_ite _ noLineL_nil (noLineL_cm hok.2.2.2.2.2 hf.2.2.2)⟩
  | .asrt cond body aac bsc b a, hok, hf, na => by
    simp only [Expr.lexOut]
    exact noLineL_append.mpr ⟨noLineL_append.mpr ⟨noLineL_append.mpr ⟨noLineL_append.mpr ⟨noLineL_append.mpr
      ⟨noLineL_cm hok.2.2.2.2.1 hf.2.2.1, noLineL_tok _⟩, lexOut_noLine cond hok.1 hf.1 false⟩, noLineL_tok _⟩,
      noLineL_ite _ noLineL_nil (noLineL_cm hok.2.2.2.2.2 hf.2.2.2)⟩, lexOut_noLine body hok.2.1 hf.2.1 false⟩
  | .sel e attrs g ab b a, hok, hf, na => by
    simp only [Expr.lexOut]
    exact noLineL_append.mpr ⟨noLineL_append.mpr ⟨noLineL_append.mpr
      ⟨noLineL_cm hok.2.2.2.2.1 hf.2.1, lexOut_noLine e hok.1 hf.1 false⟩, noLineL_attrLex attrs⟩,
      noLineL_ite _ noLineL_nil (noLineL_cm hok.2.2.2.2.2 hf.2.2)⟩
  | .selOr e attrs g ab d dg db b a, hok, hf, na => by
    simp only [Expr.lexOut]
    have hattr := noLineL_attrLex attrs
    exact noLineL_append.mpr ⟨noLineL_append.mpr ⟨noLineL_append.mpr ⟨noLineL_append.mpr ⟨noLineL_append.mpr
      ⟨noLineL_cm hok.2.2.2.2.2.2.1 hf.2.2.1, lexOut_noLine e hok.1 hf.1 false⟩, hattr⟩, noLineL_tok _⟩,
      lexOut_noLine d hok.2.2.2.2.1 hf.2.1 false⟩, noLineL_ite _ noLineL_nil (noLineL_cm hok.2.2.2.2.2.2.2 hf.2.2.2)⟩
  | .lam n bcc g k body b a, hok, hf, na => by
    simp only [Expr.lexOut]
    refine noLineL_append.mpr ⟨noLineL_append.mpr ⟨noLineL_append.mpr ⟨noLineL_cm hok.2.2.2.1 hf.2.1, ?_⟩,
      lexOut_noLine body hok.2.2.1 hf.1 false⟩, noLineL_ite _ noLineL_nil (noLineL_cm hok.2.2.2.2 hf.2.2)⟩
    intro s hs; simp at hs
  | .un op e g bt b a, hok, hf, na => by
    simp only [Expr.lexOut]
    exact noLineL_append.mpr ⟨noLineL_append.mpr ⟨noLineL_append.mpr ⟨noLineL_cm hok.2.2.2.1 hf.2.1, noLineL_tok _⟩,
      lexOut_noLine e hok.2.1 hf.1 false⟩, noLineL_ite _ noLineL_nil (noLineL_cm hok.2.2.2.2 hf.2.2)⟩
  | .bin op l r x y b a, hok, hf, na => by
    simp only [Expr.lexOut]
    exact noLineL_append.mpr ⟨noLineL_append.mpr ⟨noLineL_append.mpr ⟨noLineL_append.mpr
      ⟨noLineL_cm hok.2.2.2.1 hf.2.2.1, lexOut_noLine l hok.2.1 hf.1 false⟩, noLineL_tok _⟩,
      lexOut_noLine r hok.2.2.1 hf.2.1 false⟩, noLineL_ite _ noLineL_nil (noLineL_cm hok.2.2.2.2 hf.2.2.2)⟩
  | .ite c t e cg aic aig btc btg atc tg bec beg aec eg b a, hok, hf, na => by
    simp only [Expr.lexOut]
    exact noLineL_append.mpr ⟨noLineL_append.mpr ⟨noLineL_append.mpr ⟨noLineL_append.mpr ⟨noLineL_append.mpr
      ⟨noLineL_append.mpr ⟨noLineL_append.mpr ⟨noLineL_cm hok.2.2.2.2.2.2.2.2.1 hf.2.2.2.1, noLineL_tok _⟩,
      lexOut_noLine c hok.1 hf.1 false⟩, noLineL_tok _⟩, lexOut_noLine t hok.2.1 hf.2.1 false⟩, noLineL_tok _⟩,
      lexOut_noLine e hok.2.2.1 hf.2.2.1 false⟩, noLineL_ite _ noLineL_nil (noLineL_cm hok.2.2.2.2.2.2.2.2.2 hf.2.2.2.2)⟩
  | .has e attrs lg rg bq aq b a, hok, hf, na => by
    simp only [Expr.lexOut]
    have hattr := noLineL_attrLex0 attrs
    exact noLineL_append.mpr ⟨noLineL_append.mpr ⟨noLineL_append.mpr ⟨noLineL_append.mpr
      ⟨noLineL_cm hok.2.2.2.2.2.1 hf.2.1, lexOut_noLine e hok.1 hf.1 false⟩, noLineL_tok _⟩, hattr⟩,
      noLineL_ite _ noLineL_nil (noLineL_cm hok.2.2.2.2.2.2 hf.2.2)⟩
theorem lexOutAll_noLine : (es : List Expr) → allOk es → allLineFree es → noLineL (lexOutAll es)
  | [], _, _ => noLineL_nil
  | e :: rest, hok, hf => by
    simp only [lexOutAll]
    exact noLineL_append.mpr ⟨lexOut_noLine e hok.1 hf.1 false, lexOutAll_noLine rest hok.2 hf.2⟩
end

theorem hasLineP_lexOf {ps : List FP} (h : hasLineP ps) : ¬ noLineL (lexOf ps) := by
  obtain ⟨s, hm, hl⟩ := h
  intro hn
  have : Lex.cmt s ∈ lexOf ps := by
    simp only [lexOf, List.mem_filterMap]
    exact ⟨.cmt s, hm, rfl⟩
  rw [hn s this] at hl; cases hl

/-- an expression without line comments renders without line comments -/
theorem rebuildAP_noLine {e : Expr} (hok : e.ok) (hf : e.lineFreeE) (na : Bool) (i : Nat) (b : Bool) :
    ¬ hasLineP (e.rebuildAP na i b) := by
  intro h
  have := hasLineP_lexOf h
  rw [(rebuildAP_lex e hok na i b).1] at this
  exact this (lexOut_noLine e hok hf na)

/-! ### what the renderer needs of an expression (`mlSafe`, `tailOk`), rendered expressions end with a token,
and the renderer is safe -/

def Expr.notBinding : Expr → Bool
  | .binding .. => false
  | _ => true

/-- the comments after the function of a call: all `inline`, only the last one may be a line comment -/
def fnOk : List Comment → Prop
  | [] => True
  | [c] => c.inline = true
  | c :: d :: rest => c.inline = true ∧ c.kind ≠ .line ∧ fnOk (d :: rest)

mutual
/-- multiline flags are consistent with the comments inside: a container written on one line has no
    line comment inside; the value of a binding is not a binding -/
def Expr.mlSafe : Expr → Prop
  | .leaf .. => True
  | .list v ml _ _ _ => allMlSafe v ∧ (ml = false → allLineFree v)
  | .set v ml _ _ _ _ => allMlSafe v ∧ (ml = false → allLineFree v)
  | .binding _ v _ _ _ => v.mlSafe ∧ v.notBinding = true
  -- a closing parenthesis on the row the value ends on: no line comment trails the value
  | .paren v _ tg _ _ _ _ =>
    v.mlSafe ∧ v.notBinding = true ∧ ((Layout.fromGap tg).onNewline = false → lineFree v.after)
  -- function and argument carry no trailing trivia of their own; an argument on the function's row:
  -- no line comment between them
  | .app n x g fa _ _ =>
    n.mlSafe ∧ x.mlSafe ∧ n.notBinding = true ∧ x.notBinding = true ∧ n.after = [] ∧ x.after = [] ∧ fnOk fa ∧
      ((Layout.fromGap g).onNewline = false → lineFreeC fa)
  -- environment and body of a `with` carry no trailing trivia of their own
  | .wth env body _ _ _ _ _ =>
    env.mlSafe ∧ body.mlSafe ∧ env.notBinding = true ∧ body.notBinding = true ∧ env.after = [] ∧ body.after = []
  -- condition and body of an `assert` carry no trailing trivia of their own
  | .asrt cond body _ _ _ _ =>
    cond.mlSafe ∧ body.mlSafe ∧ cond.notBinding = true ∧ body.notBinding = true ∧ cond.after = [] ∧ body.after = []
  -- the expression a select is applied to carries no trailing trivia of its own
  | .sel e _ _ _ _ _ => e.mlSafe ∧ e.notBinding = true ∧ e.after = []
  | .selOr e _ _ _ d _ _ _ _ =>
    e.mlSafe ∧ d.mlSafe ∧ e.notBinding = true ∧ d.notBinding = true ∧ e.after = [] ∧ d.after = []
  -- the body of a lambda carries no trailing trivia of its own
  | .lam _ _ _ _ body _ _ => body.mlSafe ∧ body.notBinding = true ∧ body.after = []
  | .un _ e _ _ _ _ => e.mlSafe ∧ e.notBinding = true ∧ e.after = []
  | .bin _ l r _ _ _ _ =>
    l.mlSafe ∧ r.mlSafe ∧ l.notBinding = true ∧ r.notBinding = true ∧ l.after = [] ∧ r.after = []
  -- condition and branches of an `if` carry no trailing trivia of their own
  | .ite c t e _ _ _ _ _ _ _ _ _ _ _ _ _ =>
    c.mlSafe ∧ t.mlSafe ∧ e.mlSafe ∧ c.notBinding = true ∧ t.notBinding = true ∧ e.notBinding = true ∧
      c.after = [] ∧ t.after = [] ∧ e.after = []
  | .has e _ _ _ _ _ _ _ => e.mlSafe ∧ e.notBinding = true ∧ e.after = []
def allMlSafe : List Expr → Prop
  | [] => True
  | e :: rest => e.mlSafe ∧ allMlSafe rest
end

/-- a safe scan that is safe from state `false` is safe from any state once a line break is written -/
theorem safe_after_nl (o : Bool) {ps : List FP} (h : safeGo false ps = true) : safeGo o (.ws ['\n'] :: ps) = true := by
  simp [safeGo, h]

theorem open_of_endsWithNL : ∀ (o : Bool) {ps : List FP}, Solid ps → endsWithNL (concat ps) = true →
    openAfter o ps = false
  | o, [], _, h => by simp [endsWithNL] at h
  | o, p :: rest, hs, h => by
    obtain ⟨hp, hr⟩ := solid_of_cons hs
    simp only [openAfter]
    by_cases he : concat rest = []
    · rw [(scan_of_concat_nil _ rest he).2]
      rw [concat_cons, he, List.append_nil] at h
      cases p with
      | ws s =>
        cases s with
        | nil => simp [endsWithNL] at h
        | cons c r => simp
      | tok s => simp only [text_tok] at h; rw [hp.2] at h; cases h
      | cmt s => simp only [text_cmt] at h; rw [hp.2] at h; cases h
    · rw [concat_cons, endsWithNL_append_of_ne_nil _ _ he] at h
      exact open_of_endsWithNL _ hr h

theorem joinP_nl_safe : ∀ (xs : List (List FP)), (∀ x ∈ xs, safeGo false x = true) →
    safeGo false (joinP [.ws ['\n']] xs) = true
  | [], _ => rfl
  | [x], h => h x (List.mem_cons_self ..)
  | x :: y :: rest, h => by
    have ih := joinP_nl_safe (y :: rest) (fun z hz => h z (List.mem_cons_of_mem _ hz))
    simp only [joinP]
    rw [List.append_assoc, safeGo_append, h x (List.mem_cons_self ..)]
    simp [safeGo, ih]

theorem hasLineP_joinP_ws (s : Text) : ∀ (xs : List (List FP)), hasLineP (joinP [.ws s] xs) → ∃ x ∈ xs, hasLineP x
  | [], h => absurd h not_hasLineP_nil
  | [x], h => ⟨x, List.mem_cons_self .., h⟩
  | x :: y :: rest, h => by
    simp only [joinP] at h
    rcases hasLineP_append.mp h with h | h
    · rcases hasLineP_append.mp h with h | h
      · exact ⟨x, List.mem_cons_self .., h⟩
      · exact absurd ((hasLineP_cons.mp h).resolve_left (by rintro ⟨t, ht, _⟩; cases ht)) not_hasLineP_nil
    · obtain ⟨z, hz, hzl⟩ := hasLineP_joinP_ws s (y :: rest) h
      exact ⟨z, List.mem_cons_of_mem _ hz, hzl⟩

theorem open_false_of_noLine {ps : List FP} (h : ¬ hasLineP ps) : openAfter false ps = false := by
  cases ho : openAfter false ps with
  | false => rfl
  | true =>
    rcases openAfter_true false ps ho with h1 | h1
    · cases h1
    · exact absurd h1 h

theorem joinP_sp_safe : ∀ (xs : List (List FP)), (∀ x ∈ xs, safeGo false x = true ∧ ¬ hasLineP x) →
    safeGo false (joinP [.ws [' ']] xs) = true
  | [], _ => rfl
  | [x], h => (h x (List.mem_cons_self ..)).1
  | x :: y :: rest, h => by
    have ih := joinP_sp_safe (y :: rest) (fun z hz => h z (List.mem_cons_of_mem _ hz))
    have hx := h x (List.mem_cons_self ..)
    simp only [joinP]
    rw [List.append_assoc, safeGo_append, hx.1, open_false_of_noLine hx.2]
    simp [safeGo, ih]

theorem tok_then (t : Text) (rest : List FP) :
    safeGo false (.tok t :: rest) = safeGo false rest ∧ openAfter false (.tok t :: rest) = openAfter false rest := by
  simp [safeGo, openAfter]

theorem ws_then (t : Text) (rest : List FP) :
    safeGo false (.ws t :: rest) = safeGo false rest ∧ openAfter false (.ws t :: rest) = openAfter false rest := by
  simp [safeGo, openAfter]

/-! ### pieces that are passed through

`Thru ps`: scanned from a closed state ("closed" here: no line comment is open at this point of the text), `ps`
is safe and ends closed, so that what follows is scanned as if it came first. Layout, tokens, whitespace, an operand without trailing trivia are of this kind, and the kind is
closed under the ways the renderer puts piece lists together. -/

def Thru (ps : List FP) : Prop := safeGo false ps = true ∧ openAfter false ps = false

namespace Thru

theorem nil : Thru [] := ⟨rfl, rfl⟩

theorem tok (t : Text) {ps : List FP} (h : Thru ps) : Thru (.tok t :: ps) :=
  ⟨(tok_then t ps).1.trans h.1, (tok_then t ps).2.trans h.2⟩

theorem ws (t : Text) {ps : List FP} (h : Thru ps) : Thru (.ws t :: ps) :=
  ⟨(ws_then t ps).1.trans h.1, (ws_then t ps).2.trans h.2⟩

theorem append {a b : List FP} (ha : Thru a) (hb : Thru b) : Thru (a ++ b) :=
  ⟨by rw [safeGo_append, ha.1, ha.2, hb.1]; rfl, by rw [openAfter_append, ha.2, hb.2]⟩

theorem ite (c : Prop) [Decidable c] {a b : List FP} (ha : Thru a) (hb : Thru b) : Thru (if c then a else b) := by
  split
  · exact ha
  · exact hb

/-- what follows is scanned as if it came first -/
theorem then_ {ps : List FP} (h : Thru ps) (rest : List FP) :
    safeGo false (ps ++ rest) = safeGo false rest ∧ openAfter false (ps ++ rest) = openAfter false rest :=
  ⟨by rw [safeGo_append, h.1, h.2, Bool.true_and], by rw [openAfter_append, h.2]⟩

theorem of_then {ps : List FP}
    (h : ∀ rest, safeGo false (ps ++ rest) = safeGo false rest ∧ openAfter false (ps ++ rest) = openAfter false rest) :
    Thru ps := by
  have := h []
  rwa [List.append_nil] at this

theorem safe_append {ps rest : List FP} (h : Thru ps) (hr : safeGo false rest = true) : safeGo false (ps ++ rest) = true :=
  (h.then_ rest).1.trans hr

theorem indentP (i : Nat) (b : Bool) : Thru (indentP i b) := by
  unfold Frag.indentP; split
  · exact nil
  · exact ws _ nil

theorem fmtP {ts : List Trivia} (h : TrivOk ts) (i : Nat) : Thru (fmtP ts i) := by
  rw [fmtP_lines h.1]; exact linesP_scan i h

theorem recP (r : Bool) : Thru (recP r) := by
  cases r
  · exact nil
  · exact tok _ (ws _ nil)

/-- `{before}{indent}{opener}\n{body}{sep}{indent}{closer}` is safe when the body is, and ends closed -/
theorem multilineBlockP {before : List Trivia} (hb : TrivOk before) {op body : List FP} (closer : Char)
    (i : Nat) (b s : Bool) (hop : Thru op) (hbs : Solid body) (hbody : safeGo false body = true) :
    Thru (multilineBlockP (Frag.fmtP before i) op body closer i b s) := by
  refine of_then fun rest => ?_
  unfold Frag.multilineBlockP
  simp only [List.append_assoc]
  rw [((fmtP hb i).then_ _).1, ((fmtP hb i).then_ _).2, ((indentP i b).then_ _).1, ((indentP i b).then_ _).2,
    (hop.then_ _).1, (hop.then_ _).2]
  simp only [List.cons_append, List.nil_append, safeGo, openAfter, stepOk_false, stepOpen_ws_cons, Bool.true_and]
  rw [safeGo_append, openAfter_append, hbody, Bool.true_and]
  -- the state after the body and the separator is closed
  have key : ∀ tl, safeGo (openAfter false body)
        ((if ((concat body).isEmpty && !s) || endsWithNL (concat body) then [] else [FP.ws ['\n']]) ++ tl) = safeGo false tl ∧
      openAfter (openAfter false body)
        ((if ((concat body).isEmpty && !s) || endsWithNL (concat body) then [] else [FP.ws ['\n']]) ++ tl) = openAfter false tl := by
    intro tl
    split
    · rename_i hc
      have : openAfter false body = false := by
        simp only [Bool.or_eq_true, Bool.and_eq_true] at hc
        rcases hc with hc | hc
        · have : concat body = [] := by simpa using hc.1
          exact (scan_of_concat_nil false body this).2
        · exact open_of_endsWithNL false hbs hc
      rw [this]; exact ⟨rfl, rfl⟩
    · simp [safeGo, openAfter]
  rw [(key _).1, (key _).2]
  simp [safeGo, openAfter, stepOpen]

end Thru

theorem rstripNLP_snoc_tok : ∀ (xs : List FP) {t : Text}, solidT t → rstripNLP (xs ++ [.tok t]) = xs ++ [.tok t]
  | [], t, ht => by
    simp only [List.nil_append, rstripNLP, concat_nil, List.all_nil, if_true, text_tok, rstripNL_of_solid ht.2]
    cases t with
    | nil => exact absurd rfl ht.1
    | cons c r => rfl
  | x :: xs, t, ht => by
    have hne : (concat (xs ++ [FP.tok t])).all (· == '\n') = false := by
      rw [concat_append]
      simp only [concat_cons, concat_nil, text_tok, List.append_nil, List.all_append, Bool.and_eq_false_iff]
      right
      obtain ⟨c, hc⟩ : ∃ c, t.getLast? = some c := by
        cases hl : t.getLast? with
        | none => exact absurd (List.getLast?_eq_none_iff.mp hl) ht.1
        | some c => exact ⟨c, rfl⟩
      have hcn : c ≠ '\n' := by
        intro e; subst e; have := ht.2; simp [endsWithNL, hc] at this
      have hm : c ∈ t := List.mem_of_getLast? hc
      cases hall : t.all (· == '\n') with
      | false => rfl
      | true =>
        have := (List.all_eq_true.mp hall) c hm
        simp at this; exact absurd this hcn
    simp only [List.cons_append, rstripNLP, hne, Bool.false_eq_true, if_false, rstripNLP_snoc_tok xs ht]

theorem open_snoc_tok (o : Bool) (xs : List FP) {t : Text} (ht : t ≠ []) : openAfter o (xs ++ [.tok t]) = false := by
  rw [openAfter_append]
  cases t with
  | nil => exact absurd rfl ht
  | cons c r => simp [openAfter]

theorem trailP_nil (i : Nat) : trailP [] i = [] := rfl

def EndsTok (ps : List FP) (t : Text) : Prop := ∃ xs, ps = xs ++ [.tok t]

theorem endsTok_single (t : Text) : EndsTok [.tok t] t := ⟨[], rfl⟩
theorem endsTok_append (a : List FP) {b : List FP} {t : Text} (h : EndsTok b t) : EndsTok (a ++ b) t := by
  obtain ⟨xs, rfl⟩ := h; exact ⟨a ++ xs, by simp⟩
theorem endsTok_cons (p : FP) {b : List FP} {t : Text} (h : EndsTok b t) : EndsTok (p :: b) t := by
  obtain ⟨xs, rfl⟩ := h; exact ⟨p :: xs, rfl⟩
theorem endsTok_append_nil {a : List FP} {t : Text} (h : EndsTok a t) : EndsTok (a ++ []) t := by
  rw [List.append_nil]; exact h

theorem multilineBlockP_endsTok (bp op body : List FP) (closer : Char) (i : Nat) (b s : Bool) :
    EndsTok (multilineBlockP bp op body closer i b s) [closer] := by
  unfold multilineBlockP
  exact endsTok_append _ (endsTok_cons _ (endsTok_single _))

theorem rebuildAP_after_nil {e : Expr} (h : e.after = []) (i : Nat) (b : Bool) :
    e.rebuildAP false i b = e.rebuildAP true i b := by
  cases e with
  | list v ml inner bf af => simp only [Expr.after] at h; subst h; cases v <;> simp [Expr.rebuildAP]
  | set v ml r inner bf af => simp only [Expr.after] at h; subst h; cases v <;> simp [Expr.rebuildAP]
  | _ => simp only [Expr.after] at h; subst h; simp [Expr.rebuildAP]

/-- the sub-expression a construct renders last (argument of a call, body of `with` / `assert` / lambda, default of
    `or`, operand, right operand, `else` branch) carries no trailing trivia and is not a binding, recursively -/
def Expr.tailOk : Expr → Prop
  | .app _ x _ _ _ _ => x.after = [] ∧ x.notBinding = true ∧ x.tailOk
  | .wth _ x _ _ _ _ _ => x.after = [] ∧ x.notBinding = true ∧ x.tailOk
  | .asrt _ x _ _ _ _ => x.after = [] ∧ x.notBinding = true ∧ x.tailOk
  | .selOr _ _ _ _ x _ _ _ _ => x.after = [] ∧ x.notBinding = true ∧ x.tailOk
  | .lam _ _ _ _ x _ _ => x.after = [] ∧ x.notBinding = true ∧ x.tailOk
  | .un _ x _ _ _ _ => x.after = [] ∧ x.notBinding = true ∧ x.tailOk
  | .bin _ _ x _ _ _ _ => x.after = [] ∧ x.notBinding = true ∧ x.tailOk
  | .ite _ _ x _ _ _ _ _ _ _ _ _ _ _ _ _ => x.after = [] ∧ x.notBinding = true ∧ x.tailOk
  | _ => True

theorem mlSafe_tailOk : (e : Expr) → e.mlSafe → e.tailOk
  | .leaf .., _ => trivial
  | .list .., _ => trivial
  | .set .., _ => trivial
  | .binding .., _ => trivial
  | .paren .., _ => trivial
  | .app _ x _ _ _ _, h => ⟨h.2.2.2.2.2.1, h.2.2.2.1, mlSafe_tailOk x h.2.1⟩
  | .wth _ x _ _ _ _ _, h => ⟨h.2.2.2.2.2, h.2.2.2.1, mlSafe_tailOk x h.2.1⟩
  | .asrt _ x _ _ _ _, h => ⟨h.2.2.2.2.2, h.2.2.2.1, mlSafe_tailOk x h.2.1⟩
  | .sel .., _ => trivial
  | .selOr _ _ _ _ x _ _ _ _, h => ⟨h.2.2.2.2.2, h.2.2.2.1, mlSafe_tailOk x h.2.1⟩
  | .lam _ _ _ _ x _ _, h => ⟨h.2.2, h.2.1, mlSafe_tailOk x h.1⟩
  | .un _ x _ _ _ _, h => ⟨h.2.2, h.2.1, mlSafe_tailOk x h.1⟩
  | .bin _ _ x _ _ _ _, h => ⟨h.2.2.2.2.2, h.2.2.2.1, mlSafe_tailOk x h.2.1⟩
  | .ite _ _ x _ _ _ _ _ _ _ _ _ _ _ _ _, h => ⟨h.2.2.2.2.2.2.2.2, h.2.2.2.2.2.1, mlSafe_tailOk x h.2.2.1⟩
  | .has .., _ => trivial

theorem attrP_endsTok : ∀ (attrs : List Text), attrs ≠ [] → (∀ x ∈ attrs, solidT x) →
    ∃ t, EndsTok (attrP attrs) t ∧ solidT t
  | [], h, _ => absurd rfl h
  | [a], _, hs => ⟨a, endsTok_single a, hs a (List.mem_cons_self ..)⟩
  | a :: b :: rest, _, hs => by
    obtain ⟨t, ht, hst⟩ := attrP_endsTok (b :: rest) (by simp) (fun x hx => hs x (List.mem_cons_of_mem _ hx))
    exact ⟨t, endsTok_cons _ (endsTok_cons _ ht), hst⟩

/-- an `assert` is rendered with its body last, whatever its own trailing trivia -/
theorem asrt_endsTok_of {c bd : Expr} {x y bf af : List Trivia} {i : Nat} {t : Text}
    (hbody : EndsTok (bd.rebuildAP false i false) t) (na b : Bool) :
    EndsTok ((Expr.asrt c bd x y bf af).rebuildAP na i b) t := by
  simp only [Expr.rebuildAP]
  exact endsTok_append _ hbody

/-- rendered without its trailing trivia, a value ends with a token -/
theorem noAfter_ends_tok : (e : Expr) → e.ok → e.tailOk → e.notBinding = true → ∀ (i : Nat) (b : Bool),
    ∃ t, EndsTok (e.rebuildAP true i b) t ∧ solidT t
  | .leaf k t bf af, hok, _, _, i, b => by
    refine ⟨t, ?_, hok.1⟩
    simp only [Expr.rebuildAP, addTriviaP, if_true, trailP_nil]
    exact endsTok_append_nil (endsTok_append _ (endsTok_single _))
  | .list v ml inner bf af, _, _, _, i, b => by
    refine ⟨[']'], ?_, solidT_lit ']' (by decide)⟩
    cases v with
    | nil =>
      simp only [Expr.rebuildAP, if_true, trailP_nil]
      split
      · exact endsTok_append_nil (multilineBlockP_endsTok ..)
      · exact endsTok_append_nil (endsTok_append _ (endsTok_cons _ (endsTok_cons _ (endsTok_single _))))
    | cons x xs =>
      simp only [Expr.rebuildAP, if_true, trailP_nil]
      split
      · exact endsTok_append_nil (endsTok_append _ (multilineBlockP_endsTok ..))
      · exact endsTok_append_nil (endsTok_append _ (endsTok_cons _ (endsTok_single _)))
  | .set v ml r inner bf af, _, _, _, i, b => by
    refine ⟨['}'], ?_, solidT_lit '}' (by decide)⟩
    cases v with
    | nil =>
      simp only [Expr.rebuildAP, if_true, trailP_nil]
      split
      · exact endsTok_append_nil (multilineBlockP_endsTok ..)
      · simp only [addTriviaP, trailP_nil]
        exact endsTok_append_nil (endsTok_append _ (endsTok_append _ (endsTok_cons _ (endsTok_cons _ (endsTok_single _)))))
    | cons x xs =>
      simp only [Expr.rebuildAP, if_true, trailP_nil]
      split
      · exact endsTok_append_nil (multilineBlockP_endsTok ..)
      · simp only [addTriviaP, trailP_nil]
        exact endsTok_append_nil (endsTok_append _ (endsTok_append _ (endsTok_cons _ (endsTok_single _))))
  | .binding n v g bf af, _, _, hnb, _, _ => by cases hnb
  | .paren v lg tg lb tb bf af, _, _, _, i, b => by
    refine ⟨[')'], ?_, solidT_lit ')' (by decide)⟩
    simp only [Expr.rebuildAP, addTriviaP, if_true, trailP_nil]
    exact endsTok_append_nil (endsTok_append _ (endsTok_cons _ (endsTok_append _ (endsTok_single _))))
  | .app n x g fa bf af, hok, hml, _, i, b => by
    obtain ⟨hxa, hxnb, hxm⟩ := hml
    simp only [Expr.rebuildAP, addTriviaP, if_true, trailP_nil]
    generalize (Layout.fromGap g).onNewline = on
    generalize (if on = true then (Layout.fromGap g).indent.getD (i + 2) else i) = ai
    obtain ⟨t, ht, hst⟩ := noAfter_ends_tok x hok.2.1 hxm hxnb ai (!on)
    rw [← rebuildAP_after_nil hxa] at ht
    refine ⟨t, ?_, hst⟩
    refine endsTok_append_nil (endsTok_append _ (endsTok_append _ (endsTok_cons _ ?_)))
    split
    · exact endsTok_cons _ ht
    · exact ht

  | .wth env body awc g asc bf af, hok, hml, _, i, b => by
    obtain ⟨hxa, hxnb, hxm⟩ := hml
    obtain ⟨b', w, hsh⟩ := withBodyPartP_shape hok.2.1 awc asc i
    simp only [Expr.rebuildAP, addTriviaP, if_true, trailP_nil]
    rw [hsh]
    obtain ⟨t, ht, hst⟩ := noAfter_ends_tok body hok.2.1 hxm hxnb i b'
    rw [← rebuildAP_after_nil hxa] at ht
    exact ⟨t, endsTok_append_nil (endsTok_append _ (endsTok_append _ (endsTok_cons _ ht))), hst⟩
  | .asrt c bd x y bf af, hok, hml, _, i, b => by
    obtain ⟨hxa, hxnb, hxm⟩ := hml
    obtain ⟨t, ht, hst⟩ := noAfter_ends_tok bd hok.2.1 hxm hxnb i false
    rw [← rebuildAP_after_nil hxa] at ht
    exact ⟨t, asrt_endsTok_of ht true b, hst⟩

  | .sel e attrs g ab bf af, hok, _, _, i, b => by
    obtain ⟨t, ht, hst⟩ := attrP_endsTok attrs hok.2.1 hok.2.2.1
    refine ⟨t, ?_, hst⟩
    simp only [Expr.rebuildAP, addTriviaP, if_true, trailP_nil]
    exact endsTok_append_nil (endsTok_append _ (endsTok_append _ ht))

  | .selOr e attrs g ab d dg db bf af, hok, hml, _, i, b => by
    obtain ⟨hxa, hxnb, hxm⟩ := hml
    obtain ⟨t, ht, hst⟩ := noAfter_ends_tok d hok.2.2.2.2.1 hxm hxnb (selOrIndent dg i) true
    rw [← rebuildAP_after_nil hxa] at ht
    refine ⟨t, ?_, hst⟩
    simp only [Expr.rebuildAP, addTriviaP, if_true, trailP_nil]
    exact endsTok_append_nil (endsTok_append _ (endsTok_append _ ht))

  | .lam n bcc g k body bf af, hok, hml, _, i, b => by
    obtain ⟨hxa, hxnb, hxm⟩ := hml
    obtain ⟨t, ht, hst⟩ := noAfter_ends_tok body hok.2.2.1 hxm hxnb i (k == 0)
    rw [← rebuildAP_after_nil hxa] at ht
    refine ⟨t, ?_, hst⟩
    simp only [Expr.rebuildAP, addTriviaP, if_true, trailP_nil]
    exact endsTok_append_nil (endsTok_append _ (endsTok_append _ ht))

  | .un op e g bt bf af, hok, hml, _, i, b => by
    obtain ⟨hxa, hxnb, hxm⟩ := hml
    have key : ∀ (j : Nat) (bb : Bool), ∃ t, EndsTok (e.rebuildAP false j bb) t ∧ solidT t := by
      intro j bb
      obtain ⟨t, ht, hst⟩ := noAfter_ends_tok e hok.2.1 hxm hxnb j bb
      rw [← rebuildAP_after_nil hxa] at ht
      exact ⟨t, ht, hst⟩
    have hE : ∃ t, EndsTok (if (unLayout bt g).onNewline = true then e.rebuildAP false ((unLayout bt g).indent.getD i) false
        else e.rebuildAP false i true) t ∧ solidT t := by
      split
      · exact key _ _
      · exact key _ _
    obtain ⟨t, ht, hst⟩ := hE
    simp only [Expr.rebuildAP, addTriviaP, if_true, trailP_nil]
    exact ⟨t, endsTok_append_nil (endsTok_append _ (endsTok_append _ ht)), hst⟩

  | .bin op l r x y bf af, hok, hml, _, i, b => by
    obtain ⟨hxa, hxnb, hxm⟩ := hml
    have key : ∀ (j : Nat) (bb : Bool), ∃ t, EndsTok (r.rebuildAP false j bb) t ∧ solidT t := by
      intro j bb
      obtain ⟨t, ht, hst⟩ := noAfter_ends_tok r hok.2.2.1 hxm hxnb j bb
      rw [← rebuildAP_after_nil hxa] at ht
      exact ⟨t, ht, hst⟩
    obtain ⟨w1, w2, R, hsh, hR⟩ := binCoreP_shape (l.rebuildAP false i true)
      (FP.ws (spaces (ensureIndentPad (concat (r.rebuildAP false (binRightIndent op r i) r.before.isEmpty))
        (binRightIndent op r i))) :: r.rebuildAP false (binRightIndent op r i) r.before.isEmpty)
      (r.rebuildAP false i true) op x y i
    have hE : ∃ t, EndsTok R t ∧ solidT t := by
      rcases hR with h | h <;> subst h
      · obtain ⟨t, ht, hst⟩ := key (binRightIndent op r i) r.before.isEmpty
        exact ⟨t, endsTok_cons _ ht, hst⟩
      · exact key _ _
    obtain ⟨t, ht, hst⟩ := hE
    simp only [Expr.rebuildAP, addTriviaP, if_true, trailP_nil]
    rw [hsh]
    exact ⟨t, endsTok_append_nil (endsTok_append _ (endsTok_append _ (endsTok_cons _ (endsTok_cons _ (endsTok_cons _ ht))))), hst⟩

  | .ite c t e cg aic aig btc btg atc tg bec beg aec eg bf af, hok, hml, _, i, b => by
    obtain ⟨hxa, hxnb, hxm⟩ := hml
    have key : ∀ (j : Nat) (bb : Bool), ∃ t, EndsTok (e.rebuildAP false j bb) t ∧ solidT t := by
      intro j bb
      obtain ⟨t, ht, hst⟩ := noAfter_ends_tok e hok.2.2.1 hxm hxnb j bb
      rw [← rebuildAP_after_nil hxa] at ht
      exact ⟨t, ht, hst⟩
    have hE : ∀ (cc : Bool) (j : Nat), ∃ t, EndsTok (if cc = true then e.rebuildAP false j false
        else e.rebuildAP false i true) t ∧ solidT t := by
      intro cc j
      split
      · exact key _ _
      · exact key _ _
    obtain ⟨t, ht, hst⟩ := hE (iteLayout eg (branchHasComments aec e.before)).onNewline
      ((iteLayout eg (branchHasComments aec e.before)).indent.getD i)
    simp only [Expr.rebuildAP, addTriviaP, if_true, trailP_nil]
    exact ⟨t, endsTok_append_nil (endsTok_append _ (endsTok_append _ ht)), hst⟩

  | .has e attrs lg rg bq aq bf af, hok, _, _, i, b => by
    obtain ⟨t, ht, hst⟩ := attrP_endsTok attrs hok.2.1 hok.2.2.1
    refine ⟨t, ?_, hst⟩
    simp only [Expr.rebuildAP, addTriviaP, if_true, trailP_nil]
    exact endsTok_append_nil (endsTok_append _ (endsTok_append _ ht))

/-- the trailing trivia are rendered last -/
theorem rebuildAP_split {e : Expr} (hna : e.isAsrtE = false) (hnb : e.notBinding = true) (i : Nat) (b : Bool) :
    e.rebuildAP false i b = e.rebuildAP true i b ++ trailP e.after i := by
  cases e with
  | list v ml inner bf af =>
    cases v with
    | nil => simp only [Expr.rebuildAP, Expr.after, if_true, trailP_nil, Bool.false_eq_true, if_false]; split <;> simp
    | cons x xs => simp only [Expr.rebuildAP, Expr.after, if_true, trailP_nil, Bool.false_eq_true, if_false]; split <;> simp
  | set v ml r inner bf af =>
    cases v with
    | nil =>
      simp only [Expr.rebuildAP, Expr.after, if_true, trailP_nil, Bool.false_eq_true, if_false, addTriviaP]
      split <;> simp
    | cons x xs =>
      simp only [Expr.rebuildAP, Expr.after, if_true, trailP_nil, Bool.false_eq_true, if_false, addTriviaP]
      split <;> simp
  | binding n v g bf af => cases hnb
  | asrt c bd x y bf af => cases hna
  | _ => simp [Expr.rebuildAP, addTriviaP, trailP_nil, Expr.after]

/-- an expression without trailing trivia ends closed -/
theorem closed_of_after_nil {e : Expr} (hok : e.ok) (hml : e.mlSafe) (hnb : e.notBinding = true) (ha : e.after = [])
    (i : Nat) (b : Bool) : openAfter false (e.rebuildAP false i b) = false := by
  obtain ⟨t, ⟨xs, hx⟩, hst⟩ := noAfter_ends_tok e hok (mlSafe_tailOk e hml) hnb i b
  rw [rebuildAP_after_nil ha, hx]
  exact open_snoc_tok false xs hst.1

/-- a rendering ends inside a line comment only if the trailing trivia hold one -/
theorem rebuildAP_open {e : Expr} (hok : e.ok) (hml : e.mlSafe) (hnb : e.notBinding = true) (i : Nat) (b : Bool)
    (h : openAfter false (e.rebuildAP false i b) = true) : ¬ lineFree e.after := by
  cases hA : e.isAsrtE with
  | false =>
    obtain ⟨t, ⟨xs, hx⟩, hst⟩ := noAfter_ends_tok e hok (mlSafe_tailOk e hml) hnb i b
    rw [rebuildAP_split hA hnb, hx, openAfter_append, open_snoc_tok false xs hst.1] at h
    rcases openAfter_true false _ h with h0 | hl
    · cases h0
    · exact (trailP_safe (ok_after hok) i).2 hl
  | true =>
    exfalso
    cases e with
    | asrt c bd x y bf af =>
      obtain ⟨hxa, hxnb, hxm⟩ := mlSafe_tailOk _ hml
      obtain ⟨t, ht, hst⟩ := noAfter_ends_tok bd hok.2.1 hxm hxnb i false
      rw [← rebuildAP_after_nil hxa] at ht
      obtain ⟨xs, hx⟩ := asrt_endsTok_of (c := c) (x := x) (y := y) (bf := bf) (af := af) ht false b
      rw [hx, open_snoc_tok false xs hst.1] at h
      cases h
    | _ => cases hA

/-- the comments after the function: safe after a closed state; open afterwards only if the last one
    is a line comment -/
theorem fnAfterP_scan : ∀ (fa : List Comment) (acc : List FP) (i : Nat), (∀ c ∈ fa, cOk c) → fnOk fa →
    safeGo false acc = true → openAfter false acc = false →
    safeGo false (fnAfterP acc fa i) = true ∧ (openAfter false (fnAfterP acc fa i) = true → ¬ lineFreeC fa)
  | [], acc, i, _, _, hs, ho => by
    refine ⟨hs, fun h => ?_⟩
    simp only [fnAfterP] at h; rw [ho] at h; cases h
  | c :: rest, acc, i, hc, hfo, hs, ho => by
    have hc0 := hc c (List.mem_cons_self ..)
    have hr : ∀ c' ∈ rest, cOk c' := fun c' h => hc c' (List.mem_cons_of_mem _ h)
    have hinl : c.inline = true := by
      cases rest with
      | nil => exact hfo
      | cons d r => exact hfo.1
    have hscan : safeGo false ((acc ++ if (concat acc).getLast? == some ' ' then [] else [FP.ws [' ']]) ++ cmtP c 0) = true ∧
        openAfter false ((acc ++ if (concat acc).getLast? == some ' ' then [] else [FP.ws [' ']]) ++ cmtP c 0) =
          isLineTok (c.token 0) := by
      have h1 := cmtP_scan hc0 0 []
      simp only [List.append_nil] at h1
      rw [List.append_assoc, safeGo_append, openAfter_append, hs, ho, Bool.true_and]
      split
      · simp only [List.nil_append, h1.1, h1.2, safeGo, openAfter]; exact ⟨trivial, trivial⟩
      · simp only [List.cons_append, List.nil_append, safeGo, openAfter, stepOk_false, stepOpen_ws_false, Bool.true_and,
          h1.1, h1.2]
        exact ⟨trivial, trivial⟩
    simp only [fnAfterP, hinl, if_true]
    cases rest with
    | nil =>
      simp only [fnAfterP]
      refine ⟨hscan.1, fun h => ?_⟩
      rw [hscan.2] at h
      exact fun hf => hf c (List.mem_cons_self ..) (token_head hc0 0 h)
    | cons d r =>
      have hnl : isLineTok (c.token 0) = false := by
        cases hl : isLineTok (c.token 0) with
        | false => rfl
        | true => exact absurd (token_head hc0 0 hl) hfo.2.1
      have ih := fnAfterP_scan (d :: r) _ i hr hfo.2.2 hscan.1 (by rw [hscan.2, hnl])
      exact ⟨ih.1, fun h hf => ih.2 h (fun c' hc' => hf c' (List.mem_cons_of_mem _ hc'))⟩

theorem rebuildAllP_noLine : ∀ {es : List Expr}, allOk es → allLineFree es → ∀ (i : Nat) (b : Bool),
    ∀ x ∈ rebuildAllP es i b, ¬ hasLineP x
  | [], _, _, _, _, x, hx => by cases hx
  | e :: rest, hok, hf, i, b, x, hx => by
    simp only [rebuildAllP, List.mem_cons] at hx
    rcases hx with hx | hx
    · subst hx; exact rebuildAP_noLine hok.1 hf.1 false i b
    · exact rebuildAllP_noLine hok.2 hf.2 i b x hx

theorem asrt_join_safe {line bodyP : List FP} (hl : safeGo false line = true) (hs : Solid line)
    (hb : safeGo false bodyP = true) :
    safeGo false (line ++ [FP.ws (if endsWithNL (concat line) then [] else ['\n'])] ++ bodyP) = true := by
  rw [List.append_assoc, safeGo_append, hl, Bool.true_and]
  by_cases he : endsWithNL (concat line) = true
  · rw [open_of_endsWithNL false hs he]
    simp [he, safeGo, stepOk, stepOpen, hb]
  · simp only [he, Bool.false_eq_true, if_false]
    cases openAfter false line <;> simp [safeGo, stepOk, stepOpen, startsWithNL, hb]

namespace Thru

theorem attrP : ∀ (attrs : List Text), Thru (attrP attrs)
  | [] => nil
  | [a] => tok a nil
  | a :: b :: rest => tok a (tok _ (attrP (b :: rest)))

theorem joinP_sp {xs : List (List FP)} (h : ∀ x ∈ xs, safeGo false x = true ∧ ¬ hasLineP x) :
    Thru (joinP [.ws [' ']] xs) :=
  ⟨joinP_sp_safe xs h, open_false_of_noLine fun hl => by
    obtain ⟨x, hx, hxl⟩ := hasLineP_joinP_ws _ _ hl
    exact (h x hx).2 hxl⟩

theorem rstrip_endsTok {ps : List FP} {t : Text} (h : EndsTok ps t) (ht : solidT t) (hs : safeGo false ps = true) :
    Thru (rstripNLP ps) := by
  obtain ⟨xs, rfl⟩ := h
  rw [rstripNLP_snoc_tok xs ht]
  exact ⟨hs, open_snoc_tok false xs ht.1⟩

/-- an operand without trailing trivia -/
theorem operand {e : Expr} (hok : e.ok) (hml : e.mlSafe) (hnb : e.notBinding = true) (ha : e.after = [])
    (hs : ∀ i b, safeGo false (e.rebuildAP false i b) = true) (i : Nat) (b : Bool) : Thru (e.rebuildAP false i b) :=
  ⟨hs i b, closed_of_after_nil hok hml hnb ha i b⟩

end Thru

theorem addTriviaP_safe {before after : List Trivia} {core : List FP} (hb : TrivOk before) (ha : TrivOk after)
    (na : Bool) (hc : Thru core) (i : Nat) (b : Bool) :
    safeGo false (addTriviaP before (if na = true then [] else after) core i b) = true :=
  (((Thru.fmtP hb i).append (.indentP i b)).append hc).safe_append (trailP_safe (ite_nil_ok na ha) i).1

mutual
theorem rebuildAP_safe : (e : Expr) → e.ok → e.mlSafe → ∀ (na : Bool) (i : Nat) (b : Bool),
    safeGo false (e.rebuildAP na i b) = true
  | .leaf k t before after, hok, _, na, i, b => by
    simp only [Expr.rebuildAP]
    exact addTriviaP_safe (leafBefore_ok k t hok.2.1 i b) hok.2.2 na (.tok t .nil) i b
  | .list value ml inner before after, hok, hml, na, i, b => by
    obtain ⟨hv, hin, hb, ha⟩ := hok
    have ht := (trailP_safe (ite_nil_ok na ha) i).1
    cases value with
    | nil =>
      simp only [Expr.rebuildAP]
      split
      · exact (Thru.multilineBlockP hb ']' i b false (.tok _ .nil) (fmtP_solid hin _)
          (by rw [fmtP_lines hin.1]; exact (linesP_scan _ hin).1)).safe_append ht
      · exact (((Thru.fmtP hb i).append (.indentP i b)).append (.tok _ (.ws _ (.tok _ .nil)))).safe_append ht
    | cons v vs =>
      have ihs := fun i b => rebuildAllP_safe (v :: vs) hv hml.1 i b
      have hsol := fun i b => (rebuildAllP_lex (v :: vs) hv i b).2
      cases ml with
      | true =>
        simp only [Expr.rebuildAP, if_true, Bool.not_true]
        exact ((Thru.fmtP hb i).append (Thru.multilineBlockP (before := []) trivOk_nil ']' i b true (.tok _ .nil)
          (solid_joinP_ws _ _ (hsol _ _)) (joinP_nl_safe _ (ihs _ _)))).safe_append ht
      | false =>
        have hnl := rebuildAllP_noLine hv (hml.2 rfl) i true
        simp only [Expr.rebuildAP, Bool.false_eq_true, if_false, Bool.not_false]
        exact (((((Thru.fmtP hb i).append (.indentP i b)).append (.tok _ (.ws _ .nil))).append
          (.joinP_sp fun x hx => ⟨ihs i true x hx, hnl x hx⟩)).append (.ws _ (.tok _ .nil))).safe_append ht
  | .set values ml r inner before after, hok, hml, na, i, b => by
    obtain ⟨hv, hin, hb, ha⟩ := hok
    have ht := (trailP_safe (ite_nil_ok na ha) i).1
    have hop : Thru (recP r ++ [FP.tok ['{']]) := (Thru.recP r).append (.tok _ .nil)
    cases values with
    | nil =>
      simp only [Expr.rebuildAP]
      split
      · exact (Thru.multilineBlockP hb '}' i b false hop (fmtP_solid hin _)
          (by rw [fmtP_lines hin.1]; exact (linesP_scan _ hin).1)).safe_append ht
      · exact addTriviaP_safe hb ha na ((Thru.recP r).append (.tok _ (.ws _ (.tok _ .nil)))) i b
    | cons v vs =>
      have ihs := fun i b => rebuildAllP_safe (v :: vs) hv hml.1 i b
      have hsol := fun i b => (rebuildAllP_lex (v :: vs) hv i b).2
      cases ml with
      | true =>
        simp only [Expr.rebuildAP, if_true]
        exact (Thru.multilineBlockP hb '}' i b true hop (solid_joinP_ws _ _ (hsol _ _))
          (joinP_nl_safe _ (ihs _ _))).safe_append ht
      | false =>
        have hnl := rebuildAllP_noLine hv (hml.2 rfl) (i + 2) true
        simp only [Expr.rebuildAP, Bool.false_eq_true, if_false]
        exact addTriviaP_safe hb ha na ((((Thru.recP r).append (.tok _ (.ws _ .nil))).append
          (.joinP_sp fun x hx => ⟨ihs (i + 2) true x hx, hnl x hx⟩)).append (.ws _ (.tok _ .nil))) i b
  | .binding name value vg before after, hok, hml, na, i, b => by
    obtain ⟨hn, hv, hb, ha⟩ := hok
    have hbt := (bindingTailP_safe (trivOk_append (ok_after hv) (ite_nil_ok na ha)) i).1
    simp only [Expr.rebuildAP, previewP_getD]
    -- the value is rendered without its trailing trivia, so it ends with a token
    obtain ⟨t, het, hst⟩ := noAfter_ends_tok value hv (mlSafe_tailOk value hml.1) hml.2
      (bindValIndent vg value.before i) (!bindOnNewline vg value.before)
    exact (((((Thru.fmtP hb i).append (.indentP i b)).append (.tok _ (.ws _ (.tok _ (.ws _ .nil))))).append
      (.rstrip_endsTok het hst (rebuildAP_safe value hv hml.1 true _ _))).append (.tok _ .nil)).safe_append hbt
  | .paren value lg tg lb tb before after, hok, hml, na, i, b => by
    obtain ⟨hv, hb, ha⟩ := hok
    obtain ⟨hvm, hvnb, hvl⟩ := hml
    have ihv := rebuildAP_safe value hv hvm false
    simp only [Expr.rebuildAP]
    -- the value may end inside a line comment of its trailing trivia: then `)` is on a new line
    have hclose : ∀ (V : List FP), safeGo false V = true → (openAfter false V = true → ¬ lineFree value.after) →
        Thru ((if (Layout.fromGap tg).onNewline = true then V ++ [FP.ws (nlSep tb ++ spaces i)] else V) ++
          [FP.tok [')']]) := by
      intro V hV hop
      by_cases hon : (Layout.fromGap tg).onNewline = true
      · have hnl : startsWithNL (nlSep tb ++ spaces i) = true := by unfold nlSep; split <;> rfl
        have hne : (nlSep tb ++ spaces i).isEmpty = false := by unfold nlSep; split <;> rfl
        simp only [hon, if_true, List.append_assoc]
        refine ⟨?_, ?_⟩
        · rw [safeGo_append, hV, Bool.true_and]
          cases openAfter false V <;> simp [safeGo, stepOk, stepOpen, hnl, hne]
        · rw [openAfter_append]
          cases openAfter false V <;> simp [openAfter, stepOpen]
      · have hon' : (Layout.fromGap tg).onNewline = false := by simpa using hon
        simp only [hon', Bool.false_eq_true, if_false]
        have : openAfter false V = false := by
          cases ho : openAfter false V with
          | false => rfl
          | true => exact absurd (hvl hon') (hop ho)
        exact Thru.append ⟨hV, this⟩ (.tok _ .nil)
    refine addTriviaP_safe hb ha na (.tok _ (hclose _ ?_ ?_)) i b
    · split
      · rw [(ws_then _ _).1]; exact ihv _ _
      · exact ihv _ _
    · split
      · intro ho
        rw [(ws_then _ _).2] at ho
        exact rebuildAP_open hv hvm hvnb _ _ ho
      · exact rebuildAP_open hv hvm hvnb _ _
  | .app name arg g fa before after, hok, hml, na, i, b => by
    obtain ⟨hn, hx, hfa, hb, ha⟩ := hok
    obtain ⟨hnm, hxm, hnnb, hxnb, hna, hxa, hfo, hfl⟩ := hml
    have Tx := Thru.operand hx hxm hxnb hxa (rebuildAP_safe arg hx hxm false)
    have hf := fnAfterP_scan fa (name.rebuildAP false i true) i hfa hfo (rebuildAP_safe name hn hnm false i true)
      (closed_of_after_nil hn hnm hnnb hna i true)
    simp only [Expr.rebuildAP]
    generalize hon : (Layout.fromGap g).onNewline = on at hfl
    -- the separator is a line break whenever the comments after the function end in a line comment
    have hsep : ∀ (o : Bool) (tl : List FP), (o = true → on = true) → Thru tl →
        safeGo o (FP.ws (if (Layout.fromGap g).blankLine = true then ['\n', '\n'] else if on = true then ['\n'] else [' ']) :: tl)
          = true ∧
        openAfter o (FP.ws (if (Layout.fromGap g).blankLine = true then ['\n', '\n'] else if on = true then ['\n'] else [' ']) :: tl)
          = false := by
      intro o tl ho htl
      cases o with
      | false =>
        by_cases hbl : (Layout.fromGap g).blankLine = true <;> cases on <;>
          simp [hbl, safeGo, openAfter, stepOk, stepOpen, htl.1, htl.2]
      | true =>
        cases ho rfl
        by_cases hbl : (Layout.fromGap g).blankLine = true <;>
          simp [hbl, safeGo, openAfter, stepOk, stepOpen, startsWithNL, htl.1, htl.2]
    have hopen : openAfter false (fnAfterP (name.rebuildAP false i true) fa i) = true → on = true := fun ho => by
      cases on with
      | true => rfl
      | false => exact absurd (hfl rfl) (hf.2 ho)
    refine addTriviaP_safe hb ha na ⟨?_, ?_⟩ i b
    · rw [safeGo_append, hf.1, Bool.true_and]
      refine (hsep _ _ hopen ?_).1
      exact .ite _ (.ws _ (Tx _ _)) (Tx _ _)
    · rw [openAfter_append]
      refine (hsep _ _ hopen ?_).2
      exact .ite _ (.ws _ (Tx _ _)) (Tx _ _)
  | .wth env body awc awGap asc before after, hok, hml, na, i, b => by
    obtain ⟨he, hbd, _, _, hb, ha⟩ := hok
    obtain ⟨hem, hbm, henb, hbnb, hea, hba⟩ := hml
    have Te := Thru.operand he hem henb hea (rebuildAP_safe env he hem false)
    have Tb := Thru.operand hbd hbm hbnb hba (rebuildAP_safe body hbd hbm false)
    obtain ⟨b', w, hsh⟩ := withBodyPartP_shape hbd awc asc i
    simp only [Expr.rebuildAP]
    rw [hsh]
    exact addTriviaP_safe hb ha na ((((Thru.tok _ (.ws _ .nil)).append (.ite _ (Te _ _) (Te _ _))).append
      (.tok _ (.ws _ .nil))).append (.ws w (Tb i b'))) i b
  | .asrt cond body aac bsc before after, hok, hml, na, i, b => by
    have hsolid := (rebuildAP_lex (.asrt cond body aac bsc before after) hok na i b).2
    obtain ⟨hc, hbd, _, _, hb, ha⟩ := hok
    obtain ⟨hcm, hbm, hcnb, hbnb, hca, hba⟩ := hml
    have Tc := Thru.operand hc hcm hcnb hca (rebuildAP_safe cond hc hcm false)
    simp only [Expr.rebuildAP] at hsolid ⊢
    refine asrt_join_safe (addTriviaP_safe hb ha na (((Thru.tok _ (.ws _ .nil)).append (.ite _ (Tc _ _) (Tc _ _))).append
      (.ws _ (.tok _ .nil))) i b) ?_ (rebuildAP_safe body hbd hbm false i false)
    intro p hp
    exact hsolid p (List.mem_append_left _ (List.mem_append_left _ hp))
  | .sel expr attrs g ab before after, hok, hml, na, i, b => by
    obtain ⟨he, _, _, _, hb, ha⟩ := hok
    obtain ⟨hem, henb, hea⟩ := hml
    have Te := Thru.operand he hem henb hea (rebuildAP_safe expr he hem false)
    simp only [Expr.rebuildAP]
    exact addTriviaP_safe hb ha na (((Te i true).append (.ws _ (.tok _ .nil))).append (.attrP attrs)) i b
  | .selOr expr attrs g ab d dg db before after, hok, hml, na, i, b => by
    obtain ⟨he, _, _, _, hd, _, hb, ha⟩ := hok
    obtain ⟨hem, hdm, henb, hdnb, hea, hda⟩ := hml
    have Te := Thru.operand he hem henb hea (rebuildAP_safe expr he hem false)
    have Td := Thru.operand hd hdm hdnb hda (rebuildAP_safe d hd hdm false)
    simp only [Expr.rebuildAP]
    exact addTriviaP_safe hb ha na (((((Te i true).append (.ws _ (.tok _ .nil))).append (.attrP attrs)).append
      (.ws _ (.tok _ (.ws _ .nil)))).append (Td _ true)) i b
  | .lam name bcc g k body before after, hok, hml, na, i, b => by
    obtain ⟨_, _, hbd, hb, ha⟩ := hok
    obtain ⟨hbm, hbnb, hba⟩ := hml
    have Tb := Thru.operand hbd hbm hbnb hba (rebuildAP_safe body hbd hbm false)
    simp only [Expr.rebuildAP]
    exact addTriviaP_safe hb ha na (.tok _ (.ws _ (.tok _ (.ws _ (Tb i (k == 0)))))) i b
  | .un op expr g bt before after, hok, hml, na, i, b => by
    obtain ⟨_, he, _, hb, ha⟩ := hok
    obtain ⟨hem, henb, hea⟩ := hml
    have Te := Thru.operand he hem henb hea (rebuildAP_safe expr he hem false)
    simp only [Expr.rebuildAP]
    exact addTriviaP_safe hb ha na (((Thru.ite _ (.ws _ (.tok op .nil)) (.tok op .nil)).append (.ws _ .nil)).append
      (.ite _ (Te _ _) (Te _ _))) i b
  | .bin op left right ogl rgl before after, hok, hml, na, i, b => by
    obtain ⟨_, hl, hr, hb, ha⟩ := hok
    obtain ⟨hlm, hrm, hlnb, hrnb, hla, hra⟩ := hml
    have Tl := Thru.operand hl hlm hlnb hla (rebuildAP_safe left hl hlm false)
    have Tr := Thru.operand hr hrm hrnb hra (rebuildAP_safe right hr hrm false)
    obtain ⟨w1, w2, R, hsh, hR⟩ := binCoreP_shape (left.rebuildAP false i true)
      (FP.ws (spaces (ensureIndentPad (concat (right.rebuildAP false (binRightIndent op right i) right.before.isEmpty))
        (binRightIndent op right i))) :: right.rebuildAP false (binRightIndent op right i) right.before.isEmpty)
      (right.rebuildAP false i true) op ogl rgl i
    have hRs : Thru R := by
      rcases hR with h | h <;> subst h
      · exact .ws _ (Tr _ _)
      · exact Tr _ _
    simp only [Expr.rebuildAP]
    rw [hsh]
    exact addTriviaP_safe hb ha na ((Tl i true).append (.ws w1 (.tok op (.ws w2 hRs)))) i b
  | .ite cond thn els cg aic aig btc btg atc tg bec beg aec eg before after, hok, hml, na, i, b => by
    obtain ⟨hc, ht, he, _, _, _, _, _, hb, ha⟩ := hok
    obtain ⟨hcm, htm, hem, hcnb, htnb, henb, hca, hta, hea⟩ := hml
    have Tc := Thru.operand hc hcm hcnb hca (rebuildAP_safe cond hc hcm false)
    have Tt := Thru.operand ht htm htnb hta (rebuildAP_safe thn ht htm false)
    have Te := Thru.operand he hem henb hea (rebuildAP_safe els he hem false)
    simp only [Expr.rebuildAP]
    exact addTriviaP_safe hb ha na ((((((Thru.tok _ (.ws _ .nil)).append (.ite _ (Tc _ _) (Tc _ _))).append
      (.ws _ (.tok _ (.ws _ .nil)))).append (.ite _ (Tt _ _) (Tt _ _))).append
      (.ws _ (.tok _ (.ws _ .nil)))).append (.ite _ (Te _ _) (Te _ _))) i b
  | .has expr attrs lg rg bq aq before after, hok, hml, na, i, b => by
    obtain ⟨he, _, _, _, _, hb, ha⟩ := hok
    obtain ⟨hem, henb, hea⟩ := hml
    have Te := Thru.operand he hem henb hea (rebuildAP_safe expr he hem false)
    simp only [Expr.rebuildAP]
    exact addTriviaP_safe hb ha na (((Te i true).append (.ws _ (.tok _ (.ws _ .nil)))).append (.attrP attrs)) i b
theorem rebuildAllP_safe : (es : List Expr) → allOk es → allMlSafe es → ∀ (i : Nat) (b : Bool),
    ∀ x ∈ rebuildAllP es i b, safeGo false x = true
  | [], _, _, _, _, x, hx => by cases hx
  | e :: rest, hok, hml, i, b, x, hx => by
    simp only [rebuildAllP, List.mem_cons] at hx
    rcases hx with hx | hx
    · subst hx; exact rebuildAP_safe e hok.1 hml.1 false i b
    · exact rebuildAllP_safe rest hok.2 hml.2 i b x hx
end

theorem previewP_safe : (e : Expr) → e.ok → e.mlSafe → ∀ (i : Nat) (p : List FP), e.previewP i = some p →
    ∃ t, EndsTok p t ∧ solidT t ∧ safeGo false p = true := by
  intro e hok hml i p h
  have hnb : e.notBinding = true := by
    cases e with
    | binding => simp [Expr.previewP] at h
    | _ => rfl
  obtain ⟨t, h1, h2⟩ := noAfter_ends_tok e hok (mlSafe_tailOk e hml) hnb i true
  rw [previewP_inert h]
  exact ⟨t, h1, h2, rebuildAP_safe e hok hml true i true⟩

/-- a file with one top-level expression renders safely -/
theorem srcRebuildP_safe (s : Src) (e : Expr) (he : s.exprs = [e]) (hok : s.ok) (hml : e.mlSafe) :
    safeGo false s.rebuildP = true := by
  obtain ⟨hes, ht⟩ := hok
  rw [he] at hes
  have hr : safeGo false (rebuildAllP [e] 0 false).flatten = true := by
    simp only [rebuildAllP, List.flatten_cons, List.flatten_nil, List.append_nil]
    exact rebuildAP_safe e hes.1 hml false 0 false
  have htl : safeGo false (trimP s.trailing (fmtP s.trailing 0)) = true := by
    rw [fmtP_lines ht.1]; exact trimP_safe _ _ (linesP_scan 0 ht).1
  unfold Src.rebuildP
  rw [he]
  simp only
  split
  · exact hr
  · split
    · rw [List.append_assoc, safeGo_append, hr, Bool.true_and]
      split
      · rename_i hemp
        have : concat (rebuildAllP [e] 0 false).flatten = [] := by simpa using hemp
        rw [(scan_of_concat_nil false _ this).2]; exact htl
      · simp [safeGo, htl]
    · have hrs : safeGo false ((rebuildAllP [e] 0 false).flatten ++
          if endsWithNL (concat (rebuildAllP [e] 0 false).flatten) = true then [] else [FP.ws ['\n']]) = true := by
        rw [safeGo_append, hr, Bool.true_and]
        split
        · rfl
        · simp [safeGo]
      split <;> (try split) <;> first | exact hrs | exact hr

/-- what the scan means: whatever is written after a line-comment piece starts with a line break -/
theorem safeGo_true_spec : ∀ (post : List FP), safeGo true post = true →
    concat post = [] ∨ startsWithNL (concat post) = true
  | [], _ => Or.inl rfl
  | p :: rest, h => by
    simp only [safeGo, Bool.and_eq_true] at h
    by_cases he : p.text = []
    · rw [(step_of_empty he true).2] at h
      rcases safeGo_true_spec rest h.2 with h1 | h1
      · exact Or.inl (by rw [concat_cons, he, h1]; rfl)
      · exact Or.inr (by rw [concat_cons, he]; exact h1)
    · right
      have h1 := h.1
      unfold stepOk at h1
      have hne : p.text.isEmpty = false := by
        cases hp : p.text with
        | nil => exact absurd hp he
        | cons _ _ => rfl
      simp only [hne, Bool.false_or] at h1
      cases p with
      | ws s =>
        simp only [Bool.not_true, Bool.false_or] at h1
        rw [concat_cons, text_ws]
        simp only [text_ws] at he
        cases s with
        | nil => exact absurd rfl he
        | cons c r => simpa [startsWithNL] using h1
      | tok s => simp at h1
      | cmt s => simp at h1

theorem safeGo_spec : ∀ (o : Bool) (ps pre post : List FP) (c : Text), safeGo o ps = true →
    ps = pre ++ .cmt c :: post → isLineTok c = true → concat post = [] ∨ startsWithNL (concat post) = true
  | o, ps, [], post, c, h, he, hl => by
    subst he
    simp only [List.nil_append, safeGo, Bool.and_eq_true] at h
    have hc : c ≠ [] := by intro e; subst e; simp [isLineTok] at hl
    have : stepOpen o (FP.cmt c) = true := by
      unfold stepOpen
      cases c with
      | nil => exact absurd rfl hc
      | cons a r => simpa using hl
    rw [this] at h
    exact safeGo_true_spec post h.2
  | o, ps, p :: pre, post, c, h, he, hl => by
    subst he
    simp only [List.cons_append, safeGo, Bool.and_eq_true] at h
    exact safeGo_spec _ _ pre post c h.2 rfl hl

/-! ### the parse side: multiline flags and line comments -/

def gcNoLine (cs : GC) : Bool := cs.all fun p => !isLineCmt p.2

mutual
/-- no line comment token anywhere in the tree -/
def Cst.noLineC : Cst → Bool
  | .leaf _ _ => true
  | .list its _ => its.noLineI
  | .set _ _ its _ => its.noLineI
  | .paren its _ => its.noLineI
  | .app f cs _ a => f.noLineC && gcNoLine cs && a.noLineC
  | .kw _ c1 _ h c2 _ c3 _ b => gcNoLine c1 && h.noLineC && gcNoLine c2 && gcNoLine c3 && b.noLineC
  | .sel e c1 _ _ _ => e.noLineC && gcNoLine c1
  | .selOr e c1 _ _ _ c2 _ _ d => e.noLineC && gcNoLine c1 && gcNoLine c2 && d.noLineC
  | .lam _ c1 _ c2 _ b => gcNoLine c1 && gcNoLine c2 && b.noLineC
  | .un _ c _ e => gcNoLine c && e.noLineC
  | .bin l c1 _ _ c2 _ r => l.noLineC && gcNoLine c1 && gcNoLine c2 && r.noLineC
  | .ite c1 _ c c2 _ c3 _ t c4 _ c5 _ e =>
    gcNoLine c1 && c.noLineC && gcNoLine c2 && gcNoLine c3 && t.noLineC && gcNoLine c4 && gcNoLine c5 && e.noLineC
  | .has e c1 _ c2 _ _ => e.noLineC && gcNoLine c1 && gcNoLine c2
def Items.noLineI : Items → Bool
  | .nil => true
  | .cmt _ t rest => !isLineCmt t && rest.noLineI
  | .elem _ c rest => c.noLineC && rest.noLineI
  | .bind _ _ c1 _ c2 _ v c3 _ rest => gcNoLine c1 && gcNoLine c2 && v.noLineC && gcNoLine c3 && rest.noLineI
end

theorem containsNL_of_startsWithNL {s : Text} (h : startsWithNL s = true) : containsNL s = true := by
  cases s with
  | nil => simp [startsWithNL] at h
  | cons c r =>
    have : c = '\n' := by simpa [startsWithNL] using h
    subst this; simp [containsNL]

theorem closedBy_noNL {t next : Text} (h : closedBy t next false = true) (hn : containsNL next = false) :
    isLineCmt t = false := by
  unfold closedBy at h
  cases hl : isLineCmt t with
  | false => rfl
  | true =>
    simp only [hl, Bool.not_true, Bool.false_or, Bool.false_and, Bool.or_false] at h
    rw [containsNL_of_startsWithNL h] at hn; cases hn

theorem gcNoLine_of_noNL : ∀ (cs : GC) (next : Text), gcOk cs next = true →
    containsNL (flattenGC cs ++ next) = false → gcNoLine cs = true
  | [], _, _, _ => rfl
  | [p], next, h, hn => by
    simp only [gcOk, Bool.and_eq_true] at h
    simp only [flattenGC, List.flatMap_cons, List.flatMap_nil, List.append_nil] at hn
    have := (noNL_append.mp hn).2
    simp [gcNoLine, closedBy_noNL h.2 this]
  | p :: q :: rest, next, h, hn => by
    simp only [gcOk, Bool.and_eq_true] at h
    have hn' : containsNL ((p.1 ++ p.2) ++ (q.1 ++ (q.2 ++ (flattenGC rest ++ next)))) = false := by
      simpa [flattenGC, List.append_assoc] using hn
    have h1 := (noNL_append.mp hn').2
    have hq := (noNL_append.mp h1).1
    have ih := gcNoLine_of_noNL (q :: rest) next h.2 (by simpa [flattenGC, List.append_assoc] using h1)
    simp only [gcNoLine, List.all_cons, Bool.and_eq_true] at ih ⊢
    exact ⟨by simp [closedBy_noNL h.1.2 hq], ih⟩

theorem firstGap_prefix : ∀ (its : Items) (cg : Text), ∃ tl, its.flatten ++ cg = its.firstGap.getD cg ++ tl
  | .nil, cg => ⟨[], by simp [Items.flatten, Items.firstGap]⟩
  | .cmt g t rest, cg => ⟨t ++ rest.flatten ++ cg, by simp [Items.flatten, Items.firstGap]⟩
  | .elem g c rest, cg => ⟨c.flatten ++ rest.flatten ++ cg, by simp [Items.flatten, Items.firstGap]⟩
  | .bind g n c1 g1 c2 g2 v c3 g3 rest, cg => ⟨_, by simp only [Items.flatten, Items.firstGap, Option.getD_some, List.append_assoc]; rfl⟩

theorem ite_flatten_noNL {g1 g2 g3 g4 g5 : Text} {c t e : Cst}
    (hn : containsNL (Cst.ite [] g1 c [] g2 [] g3 t [] g4 [] g5 e).flatten = false) :
    (containsNL c.flatten = false ∧ containsNL t.flatten = false ∧ containsNL e.flatten = false) ∧
      (containsNL g1 = false ∧ containsNL g2 = false ∧ containsNL g3 = false ∧ containsNL g4 = false ∧
        containsNL g5 = false) := by
  simp only [Cst.flatten, flattenGC, List.flatMap_nil, List.append_nil, noNL_append, noNL_cons] at hn
  simp only [hn, and_self]

theorem has_flatten_noNL {g1 g2 : Text} {e : Cst} {attrs : List Text}
    (hn : containsNL (Cst.has e [] g1 [] g2 attrs).flatten = false) :
    containsNL e.flatten = false ∧ containsNL g1 = false ∧ containsNL g2 = false := by
  simp only [Cst.flatten, flattenGC, List.flatMap_nil, List.append_nil, noNL_append, noNL_cons] at hn
  simp only [hn, and_self]

mutual
theorem cst_noLine_of_noNL : (c : Cst) → c.wf = true → containsNL c.flatten = false → c.noLineC = true
  | .leaf _ _, _ => fun _ => rfl
  | .list its cg, hwf => fun hn => by
    simp only [Cst.wf, Bool.and_eq_true] at hwf
    simp only [Cst.flatten, List.cons_append, noNL_append, noNL_cons] at hn
    exact items_noLine_of_noNL its .list cg hwf.1 (by decide) (noNL_append.mpr hn.2.1)
  | .set r rg its cg, hwf => fun hn => by
    simp only [Cst.wf, Bool.and_eq_true] at hwf
    simp only [Cst.flatten, List.cons_append, noNL_append, noNL_cons] at hn
    exact items_noLine_of_noNL its .set cg hwf.1.2 (by decide) (noNL_append.mpr ⟨hn.1.1.2.2, hn.1.2⟩)
  | .paren its cg, hwf => fun hn => by
    simp only [Cst.wf, Bool.and_eq_true] at hwf
    simp only [Cst.flatten, List.cons_append, noNL_append, noNL_cons] at hn
    exact items_noLine_of_noNL its .paren cg hwf.1.1 (by decide) (noNL_append.mpr hn.2.1)
  | .app f cs g a, hwf => fun hn => by
    simp only [Cst.wf, Bool.and_eq_true] at hwf
    obtain ⟨⟨⟨hfw, hcs⟩, _⟩, haw⟩ := hwf
    simp only [Cst.flatten, noNL_append] at hn
    simp only [Cst.noLineC, Bool.and_eq_true]
    exact ⟨⟨cst_noLine_of_noNL f hfw (by simp only [hn]), gcNoLine_of_noNL cs g hcs (by simp only [noNL_append, hn, and_self])⟩, cst_noLine_of_noNL a haw (by simp only [hn])⟩
  | .kw w c1 g1 h c2 g2 c3 g3 b, hwf => fun hn => by
    simp only [Cst.wf, Bool.and_eq_true, List.isEmpty_iff] at hwf
    obtain ⟨⟨⟨⟨⟨⟨⟨hc1, _⟩, hhw⟩, hc2⟩, _⟩, hc3⟩, _⟩, hbw⟩ := hwf
    subst hc1; subst hc2; subst hc3
    simp only [Cst.flatten, kwText, noNL_append, noNL_cons] at hn
    simp only [Cst.noLineC, gcNoLine, List.all_nil, Bool.true_and, Bool.and_true, Bool.and_eq_true]
    exact ⟨cst_noLine_of_noNL h hhw (by simp only [hn]), cst_noLine_of_noNL b hbw (by simp only [hn])⟩
  | .sel e c1 g1 gd attrs, hwf => fun hn => by
    simp only [Cst.wf, Bool.and_eq_true, List.isEmpty_iff] at hwf
    obtain ⟨⟨⟨⟨⟨hew, hc1⟩, _⟩, _⟩, _⟩, _⟩ := hwf
    subst hc1
    simp only [Cst.flatten, noNL_append, noNL_cons] at hn
    simp only [Cst.noLineC, gcNoLine, List.all_nil, Bool.and_true]
    exact cst_noLine_of_noNL e hew (by simp only [hn])
  | .selOr e c1 g1 gd attrs c2 g2 g3 d, hwf => fun hn => by
    simp only [Cst.wf, Bool.and_eq_true, List.isEmpty_iff] at hwf
    obtain ⟨⟨⟨⟨⟨⟨⟨⟨⟨hew, hc1⟩, _⟩, _⟩, _⟩, _⟩, hc2⟩, _⟩, _⟩, hdw⟩ := hwf
    subst hc1; subst hc2
    simp only [Cst.flatten, noNL_append, noNL_cons] at hn
    simp only [Cst.noLineC, gcNoLine, List.all_nil, Bool.and_true, Bool.and_eq_true]
    exact ⟨cst_noLine_of_noNL e hew (by simp only [hn]), cst_noLine_of_noNL d hdw (by simp only [hn])⟩
  | .lam n c1 g1 c2 g2 b, hwf => fun hn => by
    simp only [Cst.wf, Bool.and_eq_true, List.isEmpty_iff] at hwf
    obtain ⟨⟨⟨⟨⟨_, hc1⟩, _⟩, hc2⟩, _⟩, hbw⟩ := hwf
    subst hc1; subst hc2
    simp only [Cst.flatten, noNL_append, noNL_cons] at hn
    simp only [Cst.noLineC, gcNoLine, List.all_nil, Bool.true_and]
    exact cst_noLine_of_noNL b hbw (by simp only [hn])
  | .un op c g e, hwf => fun hn => by
    simp only [Cst.wf, Bool.and_eq_true, List.isEmpty_iff] at hwf
    obtain ⟨⟨⟨_, hc⟩, _⟩, hew⟩ := hwf
    subst hc
    simp only [Cst.flatten, noNL_append] at hn
    simp only [Cst.noLineC, gcNoLine, List.all_nil, Bool.true_and]
    exact cst_noLine_of_noNL e hew (by simp only [hn])
  | .bin l c1 g1 op c2 g2 r, hwf => fun hn => by
    simp only [Cst.wf, Bool.and_eq_true, List.isEmpty_iff] at hwf
    obtain ⟨⟨⟨⟨⟨⟨⟨hlw, hc1⟩, _⟩, _⟩, _⟩, hc2⟩, _⟩, hrw⟩ := hwf
    subst hc1; subst hc2
    simp only [Cst.flatten, noNL_append] at hn
    simp only [Cst.noLineC, gcNoLine, List.all_nil, Bool.and_true, Bool.and_eq_true]
    exact ⟨cst_noLine_of_noNL l hlw (by simp only [hn]), cst_noLine_of_noNL r hrw (by simp only [hn])⟩
  | .ite c1 g1 c c2 g2 c3 g3 t c4 g4 c5 g5 e, hwf => fun hn => by
    obtain ⟨⟨h1, h2, h3, h4, h5⟩, ⟨hcw, htw, hew⟩, _⟩ := ite_wf hwf
    subst h1; subst h2; subst h3; subst h4; subst h5
    obtain ⟨⟨n1, n2, n3⟩, _⟩ := ite_flatten_noNL hn
    simp only [Cst.noLineC, gcNoLine, List.all_nil, Bool.and_true, Bool.true_and, Bool.and_eq_true]
    exact ⟨⟨cst_noLine_of_noNL c hcw n1, cst_noLine_of_noNL t htw n2⟩, cst_noLine_of_noNL e hew n3⟩
  | .has e c1 g1 c2 g2 attrs, hwf => fun hn => by
    obtain ⟨⟨h1, h2⟩, hew, _, _, _⟩ := has_wf hwf
    subst h1; subst h2
    simp only [Cst.noLineC, gcNoLine, List.all_nil, Bool.and_true]
    exact cst_noLine_of_noNL e hew (has_flatten_noNL hn).1
theorem items_noLine_of_noNL : (its : Items) → ∀ (m : Mode) (cg : Text), its.wf m cg = true → m ≠ .file →
    containsNL (its.flatten ++ cg) = false → its.noLineI = true
  | .nil, _, _, _, _ => fun _ => rfl
  | .cmt g t rest, m, cg, hwf, hm => fun hn => by
    simp only [Items.wf, Bool.and_eq_true] at hwf
    have hmf : (m == Mode.file) = false := by cases m <;> simp at hm ⊢
    rw [hmf] at hwf
    simp only [Items.flatten, List.append_assoc] at hn
    have h1 := (noNL_append.mp (noNL_append.mp hn).2).2
    obtain ⟨tl, htl⟩ := firstGap_prefix rest cg
    have h2 : containsNL (rest.firstGap.getD cg) = false := by
      rw [htl] at h1; exact (noNL_append.mp h1).1
    simp only [Items.noLineI, Bool.and_eq_true]
    exact ⟨by simp [closedBy_noNL hwf.1.2 h2], items_noLine_of_noNL rest m cg hwf.2 hm h1⟩
  | .elem g c rest, m, cg, hwf, hm => fun hn => by
    simp only [Items.wf, Bool.and_eq_true] at hwf
    simp only [Items.flatten, List.append_assoc] at hn
    have h1 := (noNL_append.mp hn).2
    have h2 := noNL_append.mp h1
    simp only [Items.noLineI, Bool.and_eq_true]
    exact ⟨cst_noLine_of_noNL c hwf.1.2 h2.1, items_noLine_of_noNL rest m cg hwf.2 hm h2.2⟩
  | .bind g n c1 g1 c2 g2 v c3 g3 rest, m, cg, hwf, hm => fun hn => by
    simp only [Items.wf, Bool.and_eq_true] at hwf
    obtain ⟨⟨⟨⟨⟨⟨⟨⟨⟨⟨_, _⟩, _⟩, h1⟩, _⟩, h2⟩, _⟩, hv⟩, h3⟩, _⟩, hrest⟩ := hwf
    simp only [Items.flatten, noNL_append, noNL_cons] at hn
    simp only [Items.noLineI, Bool.and_eq_true]
    exact ⟨⟨⟨⟨gcNoLine_of_noNL c1 g1 h1 (by simp only [noNL_append, hn, and_self]), gcNoLine_of_noNL c2 g2 h2 (by simp only [noNL_append, hn, and_self])⟩, cst_noLine_of_noNL v hv (by simp only [hn])⟩,
      gcNoLine_of_noNL c3 g3 h3 (by simp only [noNL_append, hn, and_self])⟩, items_noLine_of_noNL rest m cg hrest hm (by simp only [noNL_append, hn, and_self])⟩
end

theorem mkComment_block {t : Text} (h : isCommentTok t = true) (hl : isLineCmt t = false) (b : Bool) :
    (mkComment t b).kind ≠ .line := by
  unfold isCommentTok at h
  unfold isLineCmt at hl
  simp only [hl, Bool.false_and, Bool.false_or, Bool.and_eq_true] at h
  have hs := h.1.1.1
  show (Comment.fromText 0 t).kind ≠ .line
  rw [fromText_block 0 t hs]
  split <;> simp

theorem lineFree_single_layout {t : Trivia} (h : t.isLayout = true) : lineFree [t] := by
  intro c hc; simp at hc; subst hc; cases h

theorem lineFree_comment {c : Comment} (h : c.kind ≠ .line) : lineFree [Trivia.comment c] := by
  intro c' hc; simp at hc; subst hc; exact h

theorem lineFree_appendGap {ts : List Trivia} (h : lineFree ts) (g : Text) (b : Bool) :
    lineFree (appendGapTriviaOff ts g b) := by
  unfold appendGapTriviaOff; split
  · exact h
  · split
    · exact lineFree_append.mpr ⟨h, lineFree_single_layout rfl⟩
    · split
      · exact lineFree_append.mpr ⟨h, lineFree_single_layout rfl⟩
      · exact h

theorem lineFree_pushGap {st : SeqSt} (h : lineFree st.before) (g : Text) : lineFree (pushGap st g) := by
  unfold pushGap; split
  · exact h
  · exact lineFree_appendGap h _ _

theorem gcTrivia_lineFree' : ∀ (cs : GC) (acc : List Trivia),
    (∀ p ∈ cs, isCommentTok p.2 = true ∧ isLineCmt p.2 = false) → lineFree acc → lineFree (gcTrivia acc cs)
  | [], acc, _, ha => ha
  | p :: rest, acc, h, ha => by
    have hp := h p (List.mem_cons_self ..)
    rw [gcTrivia]
    exact gcTrivia_lineFree' rest _ (fun q hq => h q (List.mem_cons_of_mem _ hq))
      (lineFree_append.mpr ⟨lineFree_appendGap ha _ _, lineFree_comment (mkComment_block hp.1 hp.2 false)⟩)

theorem gcTrivia_lineFree (cs : GC) (acc : List Trivia) (next : Text) (h : gcOk cs next = true)
    (hn : gcNoLine cs = true) (ha : lineFree acc) : lineFree (gcTrivia acc cs) :=
  gcTrivia_lineFree' cs acc
    (fun p hp => ⟨gcOk_all cs next h p hp, by simpa using List.all_eq_true.mp hn p hp⟩) ha

/-! lineFreeE / mlSafe under the field updates of the parser -/

theorem lineFreeE_setBefore {e : Expr} (h : e.lineFreeE) {b : List Trivia} (hb : lineFree b) : (e.setBefore b).lineFreeE := by
  cases e with
  | leaf k t b' a => exact ⟨hb, h.2⟩
  | binding n v g b' a => exact ⟨h.1, hb, h.2.2⟩
  | paren v lg tg lb tb b' a => exact ⟨h.1, hb, h.2.2⟩
  | app n x g fa b' a => exact ⟨h.1, h.2.1, h.2.2.1, hb, h.2.2.2.2⟩
  | sel e ats g ab b' a => exact ⟨h.1, hb, h.2.2⟩
  | lam n c g k bd b' a => exact ⟨h.1, hb, h.2.2⟩
  | un o e g bt b' a => exact ⟨h.1, hb, h.2.2⟩
  | ite c t e cg aic aig btc btg atc tg bec beg aec eg b' a => exact ⟨h.1, h.2.1, h.2.2.1, hb, h.2.2.2.2⟩
  | has e ats lg rg bq aq b' a => exact ⟨h.1, hb, h.2.2⟩
  | _ => exact ⟨h.1, h.2.1, hb, h.2.2.2⟩

theorem lineFreeE_addAfter {e : Expr} (h : e.lineFreeE) {a : List Trivia} (ha : lineFree a) : (e.addAfter a).lineFreeE := by
  have haa := lineFree_append.mpr ⟨lineFreeE_after h, ha⟩
  cases e with
  | leaf k t b a' => exact ⟨h.1, haa⟩
  | binding n v g b a' => exact ⟨h.1, h.2.1, haa⟩
  | paren v lg tg lb tb b a' => exact ⟨h.1, h.2.1, haa⟩
  | app n x g fa b a' => exact ⟨h.1, h.2.1, h.2.2.1, h.2.2.2.1, haa⟩
  | sel e ats g ab b a' => exact ⟨h.1, h.2.1, haa⟩
  | lam n c g k bd b a' => exact ⟨h.1, h.2.1, haa⟩
  | un o e g bt b a' => exact ⟨h.1, h.2.1, haa⟩
  | ite c t e cg aic aig btc btg atc tg bec beg aec eg b a' => exact ⟨h.1, h.2.1, h.2.2.1, h.2.2.2.1, haa⟩
  | has e ats lg rg bq aq b a' => exact ⟨h.1, h.2.1, haa⟩
  | _ => exact ⟨h.1, h.2.1, h.2.2.1, haa⟩

theorem mlSafe_setBefore {e : Expr} (h : e.mlSafe) (b : List Trivia) : (e.setBefore b).mlSafe := by
  cases e <;> exact h
theorem mlSafe_addAfter {e : Expr} (h : e.mlSafe) (a : List Trivia) : (e.addAfter a).mlSafe := by
  cases e <;> exact h
theorem notBinding_setBefore (e : Expr) (b : List Trivia) : (e.setBefore b).notBinding = e.notBinding := by
  cases e <;> rfl
theorem notBinding_addAfter (e : Expr) (a : List Trivia) : (e.addAfter a).notBinding = e.notBinding := by
  cases e <;> rfl

theorem allLineFree_append : ∀ {a b : List Expr}, allLineFree a → allLineFree b → allLineFree (a ++ b)
  | [], _, _, hb => hb
  | _ :: _, _, ha, hb => ⟨ha.1, allLineFree_append ha.2 hb⟩
theorem allMlSafe_append : ∀ {a b : List Expr}, allMlSafe a → allMlSafe b → allMlSafe (a ++ b)
  | [], _, _, hb => hb
  | _ :: _, _, ha, hb => ⟨ha.1, allMlSafe_append ha.2 hb⟩

theorem modifyLast_lineFree : ∀ {items : List Expr} {ts : List Trivia}, allLineFree items → lineFree ts →
    allLineFree (modifyLast (fun e => e.addAfter ts) items)
  | [], _, _, _ => trivial
  | [_], _, h, ht => ⟨lineFreeE_addAfter h.1 ht, trivial⟩
  | _ :: e' :: rest, _, h, ht => ⟨h.1, modifyLast_lineFree (items := e' :: rest) h.2 ht⟩
theorem modifyLast_mlSafe : ∀ {items : List Expr} (ts : List Trivia), allMlSafe items →
    allMlSafe (modifyLast (fun e => e.addAfter ts) items)
  | [], _, _ => trivial
  | [_], ts, h => ⟨mlSafe_addAfter h.1 ts, trivial⟩
  | _ :: e' :: rest, ts, h => ⟨h.1, modifyLast_mlSafe (items := e' :: rest) ts h.2⟩

theorem finishSeq_inv (st : SeqSt) (cgo : Option Text) (hc : Bool) (hml : allMlSafe st.items) :
    allMlSafe (finishSeq st cgo hc).1 ∧
    (allLineFree st.items → lineFree st.before →
      allLineFree (finishSeq st cgo hc).1 ∧ lineFree (finishSeq st cgo hc).2) := by
  exact finishSeq_ind (P := fun items inner => allMlSafe items ∧
      (allLineFree st.items → lineFree st.before → allLineFree items ∧ lineFree inner)) st cgo hc
    (fun _ => ⟨hml, fun h1 _ => ⟨h1, lineFree_nil⟩⟩)
    (fun _ _ => ⟨trivial, fun _ h2 => ⟨trivial, h2⟩⟩)
    (fun _ _ => ⟨modifyLast_mlSafe _ hml, fun h1 h2 => ⟨modifyLast_lineFree h1 h2, lineFree_nil⟩⟩)
    (fun _ _ h => ⟨h.1, fun a b => ⟨(h.2 a b).1, lineFree_append.mpr ⟨(h.2 a b).2, lineFree_single_layout rfl⟩⟩⟩)
    (fun _ _ _ _ h => ⟨modifyLast_mlSafe _ h.1,
      fun a b => ⟨modifyLast_lineFree (h.2 a b).1 (lineFree_single_layout rfl), (h.2 a b).2⟩⟩)

theorem emptyInner_lineFree {items : List Expr} {inner : List Trivia} (h : lineFree inner) (between : Text) :
    lineFree (emptyInner items inner between) := by
  unfold emptyInner
  split
  · split
    · exact lineFree_single_layout rfl
    · exact lineFree_nil
  · exact h

theorem openBefore_lineFree (its : Items) : lineFree (openBefore its) := by
  unfold openBefore
  cases its.firstGap with
  | none => exact lineFree_nil
  | some g => simp only; split
              · exact lineFree_single_layout rfl
              · exact lineFree_nil

theorem lineFreeE_before {e : Expr} (h : e.lineFreeE) : lineFree e.before := by
  cases e with
  | leaf k t b a => exact h.1
  | binding n v g b a => exact h.2.1
  | paren v lg tg lb tb b a => exact h.2.1
  | app n x g fa b a => exact h.2.2.2.1
  | sel e ats g ab b a => exact h.2.1
  | lam n c g k bd b a => exact h.2.1
  | un o e g bt b a => exact h.2.1
  | ite c t e cg aic aig btc btg atc tg bec beg aec eg b a => exact h.2.2.2.1
  | has e ats lg rg bq aq b a => exact h.2.1
  | _ => exact h.2.2.1

theorem binding_inv {n : Text} {c1 c2 c3 : GC} {g1 g2 g3 : Text} {ve b : Expr} {before : List Trivia}
    (h1 : gcOk c1 g1 = true) (h2 : gcOk c2 g2 = true) (h3 : gcOk c3 g3 = true)
    (hb : bindingFromCst n c1 c2 g2 ve c3 before = .ok b) (hml : ve.mlSafe) (hnb : ve.notBinding = true) :
    b.mlSafe ∧ (gcNoLine c1 = true → gcNoLine c2 = true → gcNoLine c3 = true → ve.lineFreeE → lineFree before →
      b.lineFreeE) := by
  have htail : gcNoLine c3 = true → lineFree (bindTail c3) := by
    intro a3
    cases c3 with
    | nil => exact lineFree_nil
    | cons p rest =>
      obtain ⟨hp, hrest⟩ := gcOk_tail h3
      simp only [bindTail]
      split
      · simp only [gcNoLine, List.all_cons, Bool.and_eq_true, Bool.not_eq_true'] at a3
        exact lineFree_append (a := [_]).mpr ⟨lineFree_comment (mkComment_block hp a3.1 true),
          gcTrivia_lineFree rest [] g3 hrest a3.2 lineFree_nil⟩
      · exact gcTrivia_lineFree (p :: rest) [] g3 h3 a3 lineFree_nil
  rw [bindingFromCst_ok hb]
  refine ⟨⟨mlSafe_addAfter (mlSafe_setBefore hml _) _, by rw [notBinding_addAfter, notBinding_setBefore]; exact hnb⟩,
    fun a1 a2 a3 hv hbf => ⟨lineFreeE_addAfter (lineFreeE_setBefore hv (lineFree_append.mpr ⟨lineFree_appendGap
      (gcTrivia_lineFree c2 _ g2 h2 a2 (gcTrivia_lineFree c1 _ g1 h1 a1 lineFree_nil)) _ _, lineFreeE_before hv⟩))
      (htail a3), hbf, lineFree_nil⟩⟩

theorem seqComment_inv (m : Mode) (st : SeqSt) (g t : Text) (ht : isCommentTok t = true) (hml : allMlSafe st.items) :
    allMlSafe (seqComment m st g t).items ∧
    (isLineCmt t = false → allLineFree st.items → lineFree st.before →
      allLineFree (seqComment m st g t).items ∧ lineFree (seqComment m st g t).before) := by
  unfold seqComment
  split
  · exact ⟨modifyLast_mlSafe _ hml, fun hl h1 h2 =>
      ⟨modifyLast_lineFree h1 (lineFree_comment (mkComment_block ht hl true)), lineFree_pushGap h2 g⟩⟩
  · exact ⟨hml, fun hl h1 h2 =>
      ⟨h1, lineFree_append.mpr ⟨lineFree_pushGap h2 g, lineFree_comment (mkComment_block ht hl false)⟩⟩⟩

theorem leafFromCst_shape {k : LeafKind} {t : Text} {e : Expr} (h : leafFromCst k t = .ok e) :
    ∃ k' t', e = .leaf k' t' [] [] := by
  cases k with
  | int =>
    simp only [leafFromCst] at h
    split at h
    · cases h
    · injection h with h; exact ⟨_, _, h.symm⟩
  | ident => simp only [leafFromCst] at h; injection h with h; exact ⟨_, _, h.symm⟩
  | float => simp only [leafFromCst] at h; injection h with h; exact ⟨_, _, h.symm⟩
  | str => simp only [leafFromCst] at h; injection h with h; exact ⟨_, _, h.symm⟩
  | path => simp only [leafFromCst] at h; injection h with h; exact ⟨_, _, h.symm⟩

/-! parentheses and calls: what the parser guarantees about trailing trivia -/

theorem modifyLast_all {P : Expr → Prop} (f : Expr → Expr) (hf : ∀ e, P e → P (f e)) :
    ∀ (items : List Expr), (∀ e ∈ items, P e) → ∀ e ∈ modifyLast f items, P e
  | [], _, e, he => by cases he
  | [x], h, e, he => by
    simp only [modifyLast, List.mem_singleton] at he; subst he; exact hf x (h x (List.mem_cons_self ..))
  | x :: y :: rest, h, e, he => by
    rw [modifyLast, List.mem_cons] at he
    rcases he with rfl | he
    · exact h _ (List.mem_cons_self ..)
    · exact modifyLast_all f hf (y :: rest) (fun e' he' => h e' (List.mem_cons_of_mem _ he')) e he

theorem seqComment_items_all {P : Expr → Prop} (m : Mode) (st : SeqSt) (g t : Text)
    (hadd : ∀ e, P e → P (e.addAfter [.comment (mkComment t true)])) (h : ∀ e ∈ st.items, P e) :
    ∀ e ∈ (seqComment m st g t).items, P e := by
  unfold seqComment; split
  · exact modifyLast_all _ hadd _ h
  · exact h

theorem finishSeq_none_all {P : Expr → Prop} (st : SeqSt) (hc : Bool) (h : ∀ e ∈ st.items, P e)
    (hadd : ∀ e, P e → P (e.addAfter st.before)) : ∀ e ∈ (finishSeq st none hc).1, P e := by
  unfold finishSeq
  by_cases hb : st.before.isEmpty = true
  · simp only [hb, if_true]; exact h
  · by_cases hi : st.items.isEmpty = true
    · simp only [hb, hi, if_true, Bool.false_eq_true, if_false]; intro e he; cases he
    · simp only [hb, hi, Bool.false_eq_true, if_false]; exact modifyLast_all _ hadd _ h

theorem lineFree_after_addAfter {e : Expr} {a : List Trivia} (h : lineFree e.after) (ha : lineFree a) :
    lineFree (e.addAfter a).after := by
  rw [after_addAfter]; exact lineFree_append.mpr ⟨h, ha⟩

/-- the comments after the value of a parenthesis, when none of them is a line comment -/
theorem paren_tail : ∀ (its : Items) (cg : Text) (st st' : SeqSt), its.wf .paren cg = true →
    its.parseSeq .paren st = .ok st' → its.countElems = 0 → its.noLineI = true →
    (∀ e ∈ st.items, lineFree e.after) → lineFree st.before →
    (∀ e ∈ st'.items, lineFree e.after) ∧ lineFree st'.before
  | .nil, _, st, st', _, hp, _, _, h1, h2 => by
    simp only [Items.parseSeq] at hp; injection hp with hp; subst hp; exact ⟨h1, h2⟩
  | .cmt g t rest, cg, st, st', hwf, hp, hc, hnl, h1, h2 => by
    simp only [Items.wf, Bool.and_eq_true] at hwf
    simp only [Items.parseSeq] at hp
    simp only [Items.noLineI, Bool.and_eq_true, Bool.not_eq_true'] at hnl
    have hblk := fun b => mkComment_block hwf.1.1.2 hnl.1 b
    refine paren_tail rest cg _ st' hwf.2 hp (by simpa [Items.countElems] using hc) hnl.2
      (seqComment_items_all _ _ _ _ (fun e he => lineFree_after_addAfter he (lineFree_comment (hblk true))) h1) ?_
    unfold seqComment; split
    · exact lineFree_pushGap h2 g
    · exact lineFree_append.mpr ⟨lineFree_pushGap h2 g, lineFree_comment (hblk false)⟩
  | .elem g c rest, _, _, _, _, _, hc, _, _, _ => by simp [Items.countElems] at hc
  | .bind .., _, _, _, hwf, _, _, _, _, _ => by simp [Items.wf] at hwf

/-- the value of a parenthesis whose closing token is on the row the last content ends on -/
theorem paren_after : ∀ (its : Items) (cg : Text) (st st' : SeqSt), its.wf .paren cg = true →
    its.parseSeq .paren st = .ok st' → its.countElems = 1 → st.items = [] →
    containsNL (its.postElem ++ cg) = false →
    (∀ e ∈ st'.items, lineFree e.after) ∧ lineFree st'.before
  | .nil, _, _, _, _, _, hc, _, _ => by simp [Items.countElems] at hc
  | .cmt g t rest, cg, st, st', hwf, hp, hc, hi, hn => by
    simp only [Items.wf, Bool.and_eq_true] at hwf
    simp only [Items.parseSeq] at hp
    refine paren_after rest cg _ st' hwf.2 hp (by simpa [Items.countElems] using hc) ?_ (by simpa [Items.postElem] using hn)
    unfold seqComment canInline
    simp [hi]
  | .elem g c rest, cg, st, st', hwf, hp, hc, hi, hn => by
    simp only [Items.wf, Bool.and_eq_true] at hwf
    simp only [Items.parseSeq] at hp
    obtain ⟨e, hpe, _, _, hea, _⟩ := cst_parse_spec false c hwf.1.2 (fun h => by cases h)
    rw [hpe] at hp
    simp only at hp
    have hnl : rest.noLineI = true :=
      items_noLine_of_noNL rest .paren cg hwf.2 (by decide) (by simpa [Items.postElem] using hn)
    refine paren_tail rest cg _ st' hwf.2 hp (by simpa [Items.countElems] using hc) hnl ?_ lineFree_nil
    intro e' he'
    rw [hi] at he'
    simp only [List.nil_append, List.mem_singleton] at he'
    subst he'
    rw [after_setBefore, hea]; exact lineFree_nil
  | .bind .., _, _, _, hwf, _, _, _, _ => by simp [Items.wf] at hwf

theorem fromGap_onNewline_eq (g : Text) : (Layout.fromGap g).onNewline = containsNL g := by
  unfold Layout.fromGap; split <;> simp_all

theorem lineFree_trimLeading {ts : List Trivia} (h : lineFree ts) : lineFree (trimLeadingLayoutTrivia ts) := by
  intro c hc
  exact h c ((List.dropWhile_sublist _).subset hc)

/-- a line comment ends the row: nothing after it is on the function's row -/
theorem appSplit_line_last {p : Text × Text} {cs : GC} {next : Text} (h : gcOk (p :: cs) next = true)
    (hl : isLineCmt p.2 = true) (f sr : Bool) (pend : Text) : (appSplit cs f sr pend).inl = [] := by
  cases cs with
  | nil => rfl
  | cons q cs' =>
    simp only [gcOk, Bool.and_eq_true] at h
    have hc := h.1.2
    unfold closedBy at hc
    simp only [hl, Bool.not_true, Bool.false_or, Bool.false_and, Bool.or_false] at hc
    have hnl := containsNL_of_startsWithNL hc
    simp only [appSplit, hnl, Bool.not_true, Bool.and_false, Bool.false_and, Bool.false_eq_true, if_false]
    exact appSplit_inl_nil cs' false []

theorem appSplit_fnOk : ∀ (cs : GC) (first sr : Bool) (pend next : Text), gcOk cs next = true →
    fnOk ((appSplit cs first sr pend).inl.map fun t => mkComment t true)
  | [], _, _, _, _, _ => trivial
  | p :: cs, first, sr, pend, next, h => by
    obtain ⟨hp, hrest⟩ := gcOk_tail h
    simp only [appSplit]
    split
    · have ih := appSplit_fnOk cs false (sr && !containsNL p.1) (pend ++ p.1 ++ p.2) next hrest
      simp only [List.map_cons]
      cases hr : (appSplit cs false (sr && !containsNL p.1) (pend ++ p.1 ++ p.2)).inl with
      | nil => exact rfl
      | cons d r =>
        rw [hr] at ih
        refine ⟨rfl, ?_, ih⟩
        by_cases hl : isLineCmt p.2 = true
        · have := appSplit_line_last h hl false (sr && !containsNL p.1) (pend ++ p.1 ++ p.2)
          rw [hr] at this; cases this
        · exact mkComment_block hp (by simpa using hl) true
    · exact appSplit_fnOk cs false (sr && !containsNL p.1) [] next hrest

theorem gcNoLine_all : ∀ (cs : GC), gcNoLine cs = true → ∀ p ∈ cs, isLineCmt p.2 = false := by
  intro cs h p hp
  have := (List.all_eq_true.mp h) p hp
  simpa using this

/-- `FunctionCall.from_cst`: the invariants of the renderer -/
theorem app_inv {fe ae : Expr} {cs : GC} {g : Text} (hcs : gcOk cs g = true)
    (hfm : fe.mlSafe) (hfnb : fe.notBinding = true) (hfa : fe.after = [])
    (ham : ae.mlSafe) (hanb : ae.notBinding = true) (haa : ae.after = []) :
    (appFromCst fe ae cs g).mlSafe ∧
    (fe.lineFreeE → gcNoLine cs = true → ae.lineFreeE → (appFromCst fe ae cs g).lineFreeE) := by
  have hall := gcOk_all cs g hcs
  unfold appFromCst
  refine ⟨⟨hfm, mlSafe_setBefore ham _, hfnb, by rw [notBinding_setBefore]; exact hanb, hfa,
    by rw [after_setBefore]; exact haa, appSplit_fnOk cs true true [] g hcs, fun hon => ?_⟩, fun hf hg ha => ?_⟩
  · rw [fromGap_onNewline_eq] at hon
    have hg := gcNoLine_all cs (gcNoLine_of_noNL cs g hcs hon)
    have hmem := appSplit_mem (fun t => isCommentTok t = true ∧ isLineCmt t = false) cs true true []
      (fun p hp => ⟨hall p hp, hg p hp⟩)
    intro c hc
    obtain ⟨t, ht, rfl⟩ := List.mem_map.mp hc
    exact mkComment_block (hmem.1 t ht).1 (hmem.1 t ht).2 true
  · have hgl := gcNoLine_all cs hg
    have hmem := appSplit_mem (fun t => isCommentTok t = true ∧ isLineCmt t = false) cs true true []
      (fun p hp => ⟨hall p hp, hgl p hp⟩)
    have hba : lineFree (appBeforeArg (appSplit cs true true []) g) := by
      unfold appBeforeArg
      split
      · exact lineFree_nil
      · refine lineFree_append.mpr ⟨gcTrivia_lineFree' _ _ hmem.2 lineFree_nil, ?_⟩
        split
        · exact lineFree_single_layout rfl
        · exact lineFree_nil
    have hbf : lineFree (appBeforeArg (appSplit cs true true []) g ++ ae.before) :=
      lineFree_append.mpr ⟨hba, lineFreeE_before ha⟩
    refine ⟨hf, lineFreeE_setBefore ha ?_, ?_, lineFree_nil, lineFree_nil⟩
    · split
      · exact lineFree_trimLeading hbf
      · exact hbf
    · intro c hc
      obtain ⟨t, ht, rfl⟩ := List.mem_map.mp hc
      exact mkComment_block (hmem.1 t ht).1 (hmem.1 t ht).2 true

theorem seqComment_notBinding (m : Mode) (st : SeqSt) (g t : Text) (h : ∀ e ∈ st.items, e.notBinding = true) :
    ∀ e ∈ (seqComment m st g t).items, e.notBinding = true :=
  seqComment_items_all m st g t (fun e he => by rw [notBinding_addAfter]; exact he) h

/-- layout markers put in front of a parsed body keep what `cst_parse_inv` says of it -/
theorem layoutBefore_inv {be : Expr} {P : Prop} (hm : be.mlSafe) (hnb : be.notBinding = true) (ha : be.after = [])
    (hl : P → be.lineFreeE) {ts : List Trivia} (hts : lineFree ts) :
    (if ts.isEmpty then be else be.setBefore (ts ++ be.before)).mlSafe ∧
    (if ts.isEmpty then be else be.setBefore (ts ++ be.before)).notBinding = true ∧
    (if ts.isEmpty then be else be.setBefore (ts ++ be.before)).after = [] ∧
    (P → (if ts.isEmpty then be else be.setBefore (ts ++ be.before)).lineFreeE) := by
  split
  · exact ⟨hm, hnb, ha, hl⟩
  · exact ⟨mlSafe_setBefore hm _, by rw [notBinding_setBefore]; exact hnb, by rw [after_setBefore]; exact ha,
      fun hp => lineFreeE_setBefore (hl hp) (lineFree_append.mpr ⟨hts, lineFreeE_before (hl hp)⟩)⟩

/- What else the parser guarantees about its result, for the safety of the renderer: it is `mlSafe` (sub-expressions
   carry no trailing trivia where the renderer could not close a line comment, and a container recorded as
   one-line holds no line comment), it is not a binding, and it holds no line comment at all when the tree has none
   (`noLineC`). `items_parse_inv` carries the same three facts through the item loop. -/
mutual
theorem cst_parse_inv : (c : Cst) → c.wf = true → ∀ (e : Expr), c.parse = .ok e →
    e.mlSafe ∧ e.notBinding = true ∧ (c.noLineC = true → e.lineFreeE)
  | .leaf k t, _, e, hp => by
    simp only [Cst.parse] at hp
    obtain ⟨k', t', rfl⟩ := leafFromCst_shape hp
    exact ⟨trivial, rfl, fun _ => ⟨lineFree_nil, lineFree_nil⟩⟩
  | .list its cg, hwf, e, hp => by
    simp only [Cst.wf, Bool.and_eq_true] at hwf
    obtain ⟨st', hps, rfl⟩ := parse_list_ok hp
    have hinv := items_parse_inv its .list cg { before := openBefore its } st' hwf.1 hps trivial
    have hf := finishSeq_inv st' (some cg) (!its.isNil) hinv.1
    refine ⟨⟨hf.1, fun hml => ?_⟩, rfl, fun hnl => ?_⟩
    · have hnl : its.noLineI = true :=
        cst_noLine_of_noNL (.list its cg) (by simp [Cst.wf, hwf.1, hwf.2]) (by simpa [Cst.flatten] using hml)
      have := hinv.2.1 hnl trivial (openBefore_lineFree its)
      exact (hf.2 this.1 this.2).1
    · have := hinv.2.1 hnl trivial (openBefore_lineFree its)
      have h2 := hf.2 this.1 this.2
      exact ⟨h2.1, emptyInner_lineFree h2.2 _, lineFree_nil, lineFree_nil⟩
  | .set isRec rg its cg, hwf, e, hp => by
    have hwf0 := hwf
    simp only [Cst.wf, Bool.and_eq_true] at hwf
    obtain ⟨st', hps, rfl⟩ := parse_set_ok hp
    have hinv := items_parse_inv its .set cg { before := openBefore its } st' hwf.1.2 hps trivial
    have hf := finishSeq_inv st' (some cg) (!its.isNil) hinv.1
    refine ⟨⟨hf.1, fun hml => ?_⟩, rfl, fun hnl => ?_⟩
    · have hnl : its.noLineI = true := cst_noLine_of_noNL (.set isRec rg its cg) hwf0 (by simpa using hml)
      have := hinv.2.1 hnl trivial (openBefore_lineFree its)
      exact (hf.2 this.1 this.2).1
    · have := hinv.2.1 hnl trivial (openBefore_lineFree its)
      have h2 := hf.2 this.1 this.2
      exact ⟨h2.1, emptyInner_lineFree h2.2 _, lineFree_nil, lineFree_nil⟩
  | .paren its cg, hwf, e, hp => by
    simp only [Cst.wf, Bool.and_eq_true, beq_iff_eq] at hwf
    obtain ⟨st', v, hps, hr, rfl⟩ := parse_paren_ok hp
    have hinv := items_parse_inv its .paren cg {} st' hwf.1.1 hps trivial
    have hf := finishSeq_inv st' none (!its.isNil) hinv.1
    have hnb := finishSeq_none_all (P := fun e => e.notBinding = true) st' (!its.isNil)
      (hinv.2.2 (by decide) (fun e he => by cases he)) (fun e he => by rw [notBinding_addAfter]; exact he)
    rw [hr] at hf hnb
    refine ⟨⟨hf.1.1, hnb v (List.mem_cons_self ..), fun hon => ?_⟩, rfl, fun hnl => ?_⟩
    · rw [fromGap_onNewline_eq] at hon
      have hq := paren_after its cg {} st' hwf.1.1 hps hwf.1.2 rfl hon
      have := finishSeq_none_all (P := fun e => lineFree e.after) st' (!its.isNil) hq.1
        (fun e he => lineFree_after_addAfter he hq.2)
      rw [hr] at this
      exact this v (List.mem_cons_self ..)
    · have h1 := hinv.2.1 hnl trivial lineFree_nil
      have h2 := hf.2 h1.1 h1.2
      exact ⟨h2.1.1, lineFree_nil, lineFree_nil⟩
  | .app f cs g a, hwf, e, hp => by
    simp only [Cst.wf, Bool.and_eq_true] at hwf
    obtain ⟨⟨⟨hfw, hcs⟩, _⟩, haw⟩ := hwf
    obtain ⟨fe, hpf, _, _, hfa, _⟩ := cst_parse_spec false f hfw (fun h => by cases h)
    obtain ⟨ae, hpa, _, _, haa, _⟩ := cst_parse_spec false a haw (fun h => by cases h)
    simp only [Cst.parse, hpf, hpa] at hp
    injection hp with hp; subst hp
    have hif := cst_parse_inv f hfw fe hpf
    have hia := cst_parse_inv a haw ae hpa
    have hai := app_inv hcs hif.1 hif.2.1 hfa hia.1 hia.2.1 haa
    refine ⟨hai.1, rfl, fun hnl => ?_⟩
    simp only [Cst.noLineC, Bool.and_eq_true] at hnl
    exact hai.2 (hif.2.2 hnl.1.1) hnl.1.2 (hia.2.2 hnl.2)
  | .kw w c1 g1 h c2 g2 c3 g3 b, hwf, e, hp => by
    simp only [Cst.wf, Bool.and_eq_true, List.isEmpty_iff] at hwf
    obtain ⟨⟨⟨⟨⟨⟨⟨hc1, _⟩, hhw⟩, hc2⟩, _⟩, hc3⟩, _⟩, hbw⟩ := hwf
    subst hc1; subst hc2; subst hc3
    obtain ⟨he, hph, _, _, hha, _⟩ := cst_parse_spec false h hhw (fun h => by cases h)
    obtain ⟨be, hpb, _, hbb, hba, _⟩ := cst_parse_spec false b hbw (fun h => by cases h)
    have hih := cst_parse_inv h hhw he hph
    have hib := cst_parse_inv b hbw be hpb
    simp only [Cst.parse, hph, hpb] at hp
    injection hp with hp; subst hp
    have hbody := fun ts hts => layoutBefore_inv hib.1 hib.2.1 hba hib.2.2 (ts := ts) hts
    cases w with
    | true =>
      rw [if_pos rfl, withFromCst_shape]
      have hts : lineFree (appendGapTrivia [] (g2 ++ ';' :: g3)) := by
        rcases appendGapTrivia_cases (g2 ++ ';' :: g3) with e | e | e <;> rw [e]
        · exact lineFree_nil
        · exact lineFree_single_layout rfl
        · exact lineFree_single_layout rfl
      have hb' := hbody _ hts
      refine ⟨⟨hih.1, hb'.1, hih.2.1, hb'.2.1, hha, hb'.2.2.1⟩, rfl, fun hnl => ?_⟩
      simp only [Cst.noLineC, Bool.and_eq_true] at hnl
      exact ⟨hih.2.2 hnl.1.1.1.2, hb'.2.2.2 hnl.2, lineFree_nil, lineFree_nil⟩
    | false =>
      simp only [Bool.false_eq_true, if_false]
      unfold asrtFromCst
      simp only [collectTrivia, collectGo, List.isEmpty_nil, Bool.not_true, Bool.false_and, Bool.false_eq_true,
        if_false, if_true, Bool.true_and]
      have key : ∀ (ts aac : List Trivia), lineFree ts →
          (Expr.asrt he (if ts.isEmpty then be else be.setBefore (ts ++ be.before)) aac [] [] []).mlSafe ∧
          (Expr.asrt he (if ts.isEmpty then be else be.setBefore (ts ++ be.before)) aac [] [] []).notBinding = true ∧
          ((Cst.kw false [] g1 h [] g2 [] g3 b).noLineC = true →
            (Expr.asrt he (if ts.isEmpty then be else be.setBefore (ts ++ be.before)) aac [] [] []).lineFreeE) := by
        intro ts aac hts
        have hb' := hbody ts hts
        refine ⟨⟨hih.1, hb'.1, hih.2.1, hb'.2.1, hha, hb'.2.2.1⟩, rfl, fun hnl => ?_⟩
        simp only [Cst.noLineC, Bool.and_eq_true] at hnl
        exact ⟨hih.2.2 hnl.1.1.1.2, hb'.2.2.2 hnl.2, lineFree_nil, lineFree_nil⟩
      cases gapHasEmptyLine g3
      · simpa [splitInline] using key [] (appendGapTrivia [] g1) lineFree_nil
      · simpa [splitInline] using key [.emptyLine] (appendGapTrivia [] g1) (lineFree_single_layout rfl)
  | .sel e c1 g1 gd attrs, hwf, ex, hp => by
    simp only [Cst.wf, Bool.and_eq_true, List.isEmpty_iff] at hwf
    obtain ⟨⟨⟨⟨⟨hew, hc1⟩, _⟩, _⟩, _⟩, _⟩ := hwf
    subst hc1
    obtain ⟨ee, hpe, _, _, hea, _⟩ := cst_parse_spec false e hew (fun h => by cases h)
    have hie := cst_parse_inv e hew ee hpe
    simp only [Cst.parse, hpe] at hp
    injection hp with hp; subst hp
    refine ⟨⟨hie.1, hie.2.1, hea⟩, rfl, fun hnl => ?_⟩
    simp only [Cst.noLineC, Bool.and_eq_true] at hnl
    exact ⟨hie.2.2 hnl.1, lineFree_nil, lineFree_nil⟩
  | .selOr e c1 g1 gd attrs c2 g2 g3 d, hwf, ex, hp => by
    simp only [Cst.wf, Bool.and_eq_true, List.isEmpty_iff] at hwf
    obtain ⟨⟨⟨⟨⟨⟨⟨⟨⟨hew, hc1⟩, _⟩, _⟩, _⟩, _⟩, hc2⟩, _⟩, _⟩, hdw⟩ := hwf
    subst hc1; subst hc2
    obtain ⟨ee, hpe, _, _, hea, _⟩ := cst_parse_spec false e hew (fun h => by cases h)
    obtain ⟨de, hpd, _, _, hda, _⟩ := cst_parse_spec false d hdw (fun h => by cases h)
    have hie := cst_parse_inv e hew ee hpe
    have hid := cst_parse_inv d hdw de hpd
    simp only [Cst.parse, hpe, hpd] at hp
    injection hp with hp; subst hp
    refine ⟨⟨hie.1, hid.1, hie.2.1, hid.2.1, hea, hda⟩, rfl, fun hnl => ?_⟩
    simp only [Cst.noLineC, Bool.and_eq_true] at hnl
    exact ⟨hie.2.2 hnl.1.1.1, hid.2.2 hnl.2, lineFree_nil, lineFree_nil⟩
  | .lam n c1 g1 c2 g2 b, hwf, ex, hp => by
    simp only [Cst.wf, Bool.and_eq_true, List.isEmpty_iff] at hwf
    obtain ⟨⟨⟨⟨⟨_, hc1⟩, _⟩, hc2⟩, _⟩, hbw⟩ := hwf
    subst hc1; subst hc2
    obtain ⟨be, hpb, _, hbb, hba, _⟩ := cst_parse_spec false b hbw (fun h => by cases h)
    have hib := cst_parse_inv b hbw be hpb
    simp only [Cst.parse, hpb] at hp
    injection hp with hp; subst hp
    have hlf : ∀ (k : Nat), lineFree (List.replicate k Trivia.emptyLine) := by
      intro k c hc
      simp [List.mem_replicate] at hc
    have hbody := fun ts hts => layoutBefore_inv hib.1 hib.2.1 hba hib.2.2 (ts := ts) hts
    have hb' := hbody _ (hlf (g2.count '\n' - 1))
    unfold lamFromCst
    refine ⟨⟨hb'.1, hb'.2.1, hb'.2.2.1⟩, rfl, fun hnl => ?_⟩
    simp only [Cst.noLineC, Bool.and_eq_true] at hnl
    exact ⟨hb'.2.2.2 hnl.2, lineFree_nil, lineFree_nil⟩
  | .un op c g e, hwf, ex, hp => by
    simp only [Cst.wf, Bool.and_eq_true, List.isEmpty_iff] at hwf
    obtain ⟨⟨⟨_, hc⟩, _⟩, hew⟩ := hwf
    subst hc
    obtain ⟨ee, hpe, _, _, hea, _⟩ := cst_parse_spec false e hew (fun h => by cases h)
    have hie := cst_parse_inv e hew ee hpe
    simp only [Cst.parse, hpe] at hp
    injection hp with hp; subst hp
    refine ⟨⟨hie.1, hie.2.1, hea⟩, rfl, fun hnl => ?_⟩
    simp only [Cst.noLineC, Bool.and_eq_true] at hnl
    exact ⟨hie.2.2 hnl.2, lineFree_nil, lineFree_nil⟩
  | .bin l c1 g1 op c2 g2 r, hwf, ex, hp => by
    simp only [Cst.wf, Bool.and_eq_true, List.isEmpty_iff] at hwf
    obtain ⟨⟨⟨⟨⟨⟨⟨hlw, hc1⟩, _⟩, _⟩, _⟩, hc2⟩, _⟩, hrw⟩ := hwf
    subst hc1; subst hc2
    obtain ⟨le, hpl, _, _, hla, _⟩ := cst_parse_spec false l hlw (fun h => by cases h)
    obtain ⟨re, hpr, _, _, hra, _⟩ := cst_parse_spec false r hrw (fun h => by cases h)
    have hil := cst_parse_inv l hlw le hpl
    have hir := cst_parse_inv r hrw re hpr
    simp only [Cst.parse, hpl, hpr] at hp
    injection hp with hp; subst hp
    refine ⟨⟨hil.1, hir.1, hil.2.1, hir.2.1, hla, hra⟩, rfl, fun hnl => ?_⟩
    simp only [Cst.noLineC, Bool.and_eq_true] at hnl
    exact ⟨hil.2.2 hnl.1.1.1, hir.2.2 hnl.2, lineFree_nil, lineFree_nil⟩
  | .ite c1 g1 c c2 g2 c3 g3 t c4 g4 c5 g5 e, hwf, ex, hp => by
    obtain ⟨⟨h1, h2, h3, h4, h5⟩, ⟨hcw, htw, hew⟩, _⟩ := ite_wf hwf
    subst h1; subst h2; subst h3; subst h4; subst h5
    obtain ⟨ce, hpc, _, _, hca, _⟩ := cst_parse_spec false c hcw (fun h => by cases h)
    obtain ⟨te, hpt, _, _, hta, _⟩ := cst_parse_spec false t htw (fun h => by cases h)
    obtain ⟨ee, hpe, _, _, hea, _⟩ := cst_parse_spec false e hew (fun h => by cases h)
    have hic := cst_parse_inv c hcw ce hpc
    have hit := cst_parse_inv t htw te hpt
    have hie := cst_parse_inv e hew ee hpe
    simp only [Cst.parse, hpc, hpt, hpe, iteFromCst_nil] at hp
    injection hp with hp; subst hp
    refine ⟨⟨hic.1, hit.1, hie.1, hic.2.1, hit.2.1, hie.2.1, hca, hta, hea⟩, rfl, fun hnl => ?_⟩
    simp only [Cst.noLineC, gcNoLine, List.all_nil, Bool.and_true, Bool.true_and, Bool.and_eq_true] at hnl
    exact ⟨hic.2.2 hnl.1.1, hit.2.2 hnl.1.2, hie.2.2 hnl.2, lineFree_nil, lineFree_nil⟩
  | .has e c1 g1 c2 g2 attrs, hwf, ex, hp => by
    obtain ⟨⟨h1, h2⟩, hew, _, _, _⟩ := has_wf hwf
    subst h1; subst h2
    obtain ⟨ee, hpe, _, _, hea, _⟩ := cst_parse_spec false e hew (fun h => by cases h)
    have hie := cst_parse_inv e hew ee hpe
    simp only [Cst.parse, hpe] at hp
    injection hp with hp; subst hp
    refine ⟨⟨hie.1, hie.2.1, hea⟩, rfl, fun hnl => ?_⟩
    simp only [Cst.noLineC, gcNoLine, List.all_nil, Bool.and_true] at hnl
    exact ⟨hie.2.2 hnl, lineFree_nil, lineFree_nil⟩
theorem items_parse_inv : (its : Items) → ∀ (m : Mode) (cg : Text) (st st' : SeqSt), its.wf m cg = true →
    its.parseSeq m st = .ok st' → allMlSafe st.items →
    allMlSafe st'.items ∧ (its.noLineI = true → allLineFree st.items → lineFree st.before →
      allLineFree st'.items ∧ lineFree st'.before) ∧
    (m ≠ .set → (∀ e ∈ st.items, e.notBinding = true) → ∀ e ∈ st'.items, e.notBinding = true)
  | .nil, m, cg, st, st', _, hp, hml => by
    simp only [Items.parseSeq] at hp; injection hp with hp; subst hp
    exact ⟨hml, fun _ h1 h2 => ⟨h1, h2⟩, fun _ h => h⟩
  | .cmt g t rest, m, cg, st, st', hwf, hp, hml => by
    simp only [Items.wf, Bool.and_eq_true] at hwf
    simp only [Items.parseSeq] at hp
    have hc := seqComment_inv m st g t hwf.1.1.2 hml
    have ih := items_parse_inv rest m cg _ st' hwf.2 hp hc.1
    refine ⟨ih.1, fun hnl h1 h2 => ?_, fun hm hnb => ih.2.2 hm (seqComment_notBinding m st g t hnb)⟩
    simp only [Items.noLineI, Bool.and_eq_true, Bool.not_eq_true'] at hnl
    have := hc.2 hnl.1 h1 h2
    exact ih.2.1 hnl.2 this.1 this.2
  | .elem g c rest, m, cg, st, st', hwf, hp, hml => by
    simp only [Items.wf, Bool.and_eq_true] at hwf
    obtain ⟨e, hpe, _, hp'⟩ := parseSeq_elem_ok hp
    have hce := cst_parse_inv c hwf.1.2 e hpe
    have ih := items_parse_inv rest m cg _ st' hwf.2 hp' (allMlSafe_append hml ⟨mlSafe_setBefore hce.1 _, trivial⟩)
    refine ⟨ih.1, fun hnl h1 h2 => ?_, fun hm hnb => ih.2.2 hm (fun e' he' => ?_)⟩
    · simp only [Items.noLineI, Bool.and_eq_true] at hnl
      have he := hce.2.2 hnl.1
      have hbf : lineFree (pushGap st g ++ if m = Mode.list then [] else e.before) :=
        lineFree_append.mpr ⟨lineFree_pushGap h2 g, by split; exact lineFree_nil; exact lineFreeE_before he⟩
      exact ih.2.1 hnl.2 (allLineFree_append h1 ⟨lineFreeE_setBefore he hbf, trivial⟩) lineFree_nil
    · rcases List.mem_append.mp he' with h | h
      · exact hnb e' h
      · simp only [List.mem_singleton] at h; subst h; rw [notBinding_setBefore]; exact hce.2.1
  | .bind g n c1 g1 c2 g2 v c3 g3 rest, m, cg, st, st', hwf, hp, hml => by
    simp only [Items.wf, Bool.and_eq_true, beq_iff_eq] at hwf
    obtain ⟨⟨⟨⟨⟨⟨⟨⟨⟨⟨_, _⟩, _⟩, h1⟩, _⟩, h2⟩, _⟩, hv⟩, h3⟩, _⟩, hrest⟩ := hwf
    obtain ⟨ve, b, hpv, rfl, hb, hp'⟩ := parseSeq_bind_ok hp
    have hcv := cst_parse_inv v hv ve hpv
    have hbi := binding_inv (g1 := g1) (g2 := g2) (g3 := g3) h1 h2 h3 hb hcv.1 hcv.2.1
    have ih := items_parse_inv rest .set cg _ st' hrest hp' (allMlSafe_append hml ⟨hbi.1, trivial⟩)
    refine ⟨ih.1, fun hnl a1 a2 => ?_, fun hm _ => absurd rfl hm⟩
    simp only [Items.noLineI, Bool.and_eq_true] at hnl
    obtain ⟨⟨⟨⟨n1, n2⟩, nv⟩, n3⟩, nr⟩ := hnl
    exact ih.2.1 nr (allLineFree_append a1 ⟨hbi.2 n1 n2 n3 (hcv.2.2 nv) (lineFree_pushGap a2 g), trivial⟩) lineFree_nil
end

/-- what `Cst.parse` returns carries no trivia of its own and is not a binding: the caller adds them -/
theorem parse_fresh {c : Cst} {e : Expr} (hwf : c.wf = true) (hp : c.parse = .ok e) :
    e.before = [] ∧ e.after = [] ∧ e.notBinding = true := by
  obtain ⟨e', hpe, _, heb, hea, _⟩ := cst_parse_spec false c hwf (fun h => by cases h)
  rw [hp] at hpe; injection hpe with hpe; subst hpe
  exact ⟨heb, hea, (cst_parse_inv c hwf e hp).2.1⟩


/-- A COMMENT NEVER ABSORBS CODE, scan form: the pieces of the rebuilt file pass the safety scan. -/
theorem file_safe (f : File) (s : Src) (hwf : f.wf = true) (hp : f.parse = .ok s) :
    safeGo false s.rebuildP = true := by
  have hok := (file_parse_ok false hwf (fun h => by cases h) hp).1
  have hwf' := hwf
  simp only [File.wf, Bool.and_eq_true, decide_eq_true_eq] at hwf'
  simp only [File.parse] at hp
  cases hps : f.items.parseSeq .file {} with
  | error err => rw [hps] at hp; cases hp
  | ok st' =>
    rw [hps] at hp
    injection hp with hp
    have hcount := items_parse_count f.items .file {} st' hps (Or.inl rfl)
    have hinv := items_parse_inv f.items .file f.endGap {} st' hwf'.1.1 hps trivial
    have hf := finishSeq_inv st' none (!f.items.isNil) hinv.1
    have hlen := finishSeq_length st' none (!f.items.isNil)
    have hex : s.exprs = (finishSeq st' none (!f.items.isNil)).1 := by rw [← hp]
    have h1 : s.exprs.length = 1 := by
      rw [hex, hlen, hcount, hwf'.1.2]; rfl
    match hse : s.exprs, h1 with
    | [e], _ =>
      have hml : e.mlSafe := by
        have := hf.1; rw [← hex, hse] at this; exact this.1
      exact srcRebuildP_safe s e hse hok hml

end Nima.Frag
