import NimaVerif.Lemmas.ScopedEdit
import NimaVerif.Lemmas.Mapping
/-! Creation of the innermost layer (`@name` on a document without layers); the shortcut the tool
documents (with no layer present, `@path` for a path that exists in the target is the plain `set path`);
and the refusals for a selector that asks for more layers than there are. -/
namespace Nima
-- name tokens are compared by spelling in this file (see `NameCmp` in Model/Edit.lean)
attribute [local instance] NameCmp.spelled

open Node EditM

/-! ### missing layer -/

theorem setValue_missing_layer (d : Doc) (k : Nat) (name : Text) (v : Node) (hn : d.noTarget = none)
    (hk : 1 ≤ k) (hne : name ≠ []) (hh : name.head? ≠ some '@')
    (hkn : (collectScopeLayers d).length < k)
    (hnot : ¬ ((collectScopeLayers d).length = 0 ∧ k = 1)) :
    setValue (atSigns k ++ name) (.one v) d = (.error .value, d) := by
  have hs := splitScopeNpath_ats k name hk hne hh
  rw [setValue_one, dispatch_eq, route_of_layer hn hs, ← (splitScopeNpath_some hs).2]
  unfold setScoped
  have hc : ((collectScopeLayers d).isEmpty && k == 1) = false := by
    cases h : collectScopeLayers d with
    | nil =>
      have : k ≠ 1 := fun e => hnot ⟨by simp [h], e⟩
      simp [this]
    | cons _ _ => rfl
  simp only [hc, Bool.false_eq_true, if_false]
  have : k > (collectScopeLayers d).length := hkn
  simp only [this, if_true]

theorem removeValue_missing_layer (d : Doc) (k : Nat) (name : Text) (hn : d.noTarget = none)
    (hk : 1 ≤ k) (hne : name ≠ []) (hh : name.head? ≠ some '@')
    (hkn : (collectScopeLayers d).length < k) :
    removeValue (atSigns k ++ name) d = (.error .value, d) := by
  have hs := splitScopeNpath_ats k name hk hne hh
  have : k > (collectScopeLayers d).length := hkn
  rw [removeValue_eq, dispatch_eq, route_of_layer hn hs, ← (splitScopeNpath_some hs).2]
  simp only [removeScoped, this, if_true]

/-! ### the shortcut and the creation branch -/

/-- the layer `set_value` creates: empty scope, the set's own trivia as body trivia -/
def newLayerOf (d : Doc) : Layer :=
  { scope := [], order := [], bodyBefore := d.tBefore, bodyAfter := d.tAfter, afterLet := none }
/-- `target_expr.before = []; target_expr.after = []` -/
def clearBody (d : Doc) : Doc := { d with tBefore := [], tAfter := [] }
@[simp] theorem clearBody_next (d : Doc) : (clearBody d).next = d.next := rfl

theorem setValue_no_layers (d : Doc) (name : Text) (v : Node) (hn : d.noTarget = none)
    (hne : name ≠ []) (hh : name.head? ≠ some '@') (h0 : collectScopeLayers d = []) :
    setValue (atSigns 1 ++ name) (.one v) d =
      match formatNPath currentAnchor name with
      | .error e => (.error e, d)
      | .ok segs =>
        if pathExistsInAttrset d.target segs then setValueInAttrset d.target true name v d
        else
          match onLayer [newLayerOf d] false 0 (fun s => setValueInAttrset s false name v)
              (clearBody d) with
          | (.ok layers', d') => (.ok (), writeScopeLayers layers' none d')
          | (.error e, d') => (.error e, d') := by
  have hs := splitScopeNpath_ats 1 name (Nat.le_refl 1) hne hh
  rw [setValue_one, dispatch_eq, route_of_layer hn hs, ← (splitScopeNpath_some hs).2]
  simp only [setScoped, h0, List.isEmpty_nil, beq_self_eq_true, Bool.and_self, if_true]
  cases formatNPath currentAnchor name with
  | error e => rfl
  | ok segs =>
    simp only
    by_cases hp : pathExistsInAttrset d.target segs = true
    · simp only [hp, if_true]
    · simp only [hp, Bool.false_eq_true, if_false, List.length_cons, List.length_nil, Nat.zero_add,
        gt_iff_lt, Nat.lt_irrefl, Nat.sub_self]
      rfl

/-! ### a successful `set` on an empty set leaves it non-empty -/

theorem findAttrpathLeaf_emptyset (sid : Nat) (m r : Bool) (segs : List Text) :
    findAttrpathLeaf (.set sid [] [] m r) segs = none := by
  unfold findAttrpathLeaf walkAttrpathStack
  cases segs with
  | nil => rfl
  | cons a rest =>
    cases rest with
    | nil => rfl
    | cons b more => simp [findAttrpathRoot_spelled, setValues]

theorem scratch_updSet_self (d : Doc) (sid : Nat) (f : Node → Node) (n : Node)
    (hs : d.scratch = some n) (hn : n.setSid? = some sid) :
    (d.updSet sid f).scratch = some (f n) := by
  simp [Doc.updSet, hs, updSet_of_sid hn]

theorem grow_scratch_nonempty {A S : Nat → Prop} {N : Nat} (m' : EditM Unit)
    (htr : Traced true A S N m' (fun _ => True)) (d : Doc) (hN : N ≤ d.next)
    (hs : ∃ Sm, d.scratch = some Sm ∧ Sm.isSet = true ∧ Sm.setValues ≠ []) :
    ∃ S', (m' d).2.scratch = some S' ∧ S'.isSet = true ∧ S'.setValues ≠ [] := by
  obtain ⟨Sm, hs1, hs2, hs3⟩ := hs
  obtain ⟨us, t1, t2, _⟩ := htr d hN
  rw [t1, applyAll_scratch, hs1]
  have hg := applyAllNode_grows us t2 Sm hs2
  exact ⟨_, rfl, hg.1, List.length_pos_iff.1 (Nat.lt_of_lt_of_le (List.length_pos_iff.2 hs3) hg.2)⟩

/-- a binding appended to the empty scratch set leaves it a non-empty set -/
theorem appendBoth_scratch (d : Doc) (sid : Nat) (m r : Bool) (nb : Node)
    (hsc : d.scratch = some (.set sid [] [] m r)) :
    ∃ Sm, (d.updSet sid (appendOrderFn nb ∘ appendValueFn nb)).scratch = some Sm ∧
      Sm.isSet = true ∧ Sm.setValues ≠ [] :=
  ⟨.set sid [nb] [] m r, scratch_updSet_self _ sid _ _ hsc rfl, rfl, List.cons_ne_nil _ _⟩

theorem set_on_empty_nonempty (sid : Nat) (m r : Bool) (name : Text) (v : Node) (d0 : Doc)
    (hsc : d0.scratch = some (.set sid [] [] m r)) (hN : sid < d0.next)
    (hok : (setValueInAttrset (.set sid [] [] m r) false name v d0).1 = .ok ()) :
    ∃ S', (setValueInAttrset (.set sid [] [] m r) false name v d0).2.scratch = some S' ∧
      S'.isSet = true ∧ S'.setValues ≠ [] := by
  unfold setValueInAttrset at hok ⊢
  cases hf : formatNPath currentAnchor name with
  | error e => rw [hf] at hok; cases hok
  | ok segs =>
    cases segs with
    | nil => rw [hf] at hok; cases hok
    | cons seg0 segRest =>
      rw [hf] at hok
      simp only [setSid?, findAttrpathLeaf_emptyset, setValues_set, findAttrpathRoot_nil,
        findBinding_nil, Option.isSome_none, Bool.false_eq_true, if_false] at hok ⊢
      cases segRest with
      | nil =>
        simp only [List.isEmpty_nil, if_true] at hok ⊢
        have hnew := setSetItem_new (s := .set sid [] [] m r) (k := seg0) (sid := sid) v d0
          (by rw [setValues_set]; rfl) rfl
        rw [hnew]
        exact appendBoth_scratch _ sid m r _ hsc
      | cons s1 more =>
        simp only [List.isEmpty_cons, Bool.false_eq_true, if_false] at hok ⊢
        have hdl : (seg0 :: s1 :: more).dropLast = seg0 :: (s1 :: more).dropLast := rfl
        rw [hdl] at hok ⊢
        generalize hmid : (({ d0 with next := d0.next + 1 + 1 } : Doc).updSet sid
          (appendOrderFn (.bind (d0.next + 1) seg0 false (.set d0.next [] [] m false) [] []) ∘
           appendValueFn (.bind (d0.next + 1) seg0 false (.set d0.next [] [] m false) [] []))) = dmid
        have hstep := rpw_empty_cons sid m r seg0 (s1 :: more).dropLast d0
        rw [hmid] at hstep
        have hmsc : ∃ Sm, dmid.scratch = some Sm ∧ Sm.isSet = true ∧ Sm.setValues ≠ [] := by
          rw [← hmid]
          exact appendBoth_scratch _ sid m r _ hsc
        have hmnext : sid ≤ dmid.next := by
          rw [← hmid]; simp only [Doc.updSet]; omega
        rw [bind_congr_apply _ _ _ _ _ hstep]
        -- the rest of the run is a growing trace from `dmid`
        refine grow_scratch_nonempty (A := fun _ => False) (S := fun s => sid ≤ s) (N := sid) _ ?_
          dmid hmnext hmsc
        refine Traced.bind (traced_resolveParentWalk (ni := true) (fun i h => h) true _ _
          (within_empty_set (by omega))) fun parent hp => ?_
        split
        · exact Traced.throw
        · split
          · rename_i b hb
            exact traced_assignExisting (Or.inl rfl) _ parent false (within_findBinding hp hb) v
          · exact traced_setSetItem hp _ _

/-! ### the creation branch, assembled -/

theorem scoped_create_core (d : Doc) (name : Text) (v : Node) (hn : d.noTarget = none)
    (hne : name ≠ []) (hh : name.head? ≠ some '@') (h0 : collectScopeLayers d = [])
    (segs : List Text) (hfmt : formatNPath currentAnchor name = .ok segs)
    (hnp : pathExistsInAttrset d.target segs = false) :
    ∃ us, (∀ u ∈ us, u.Allowed true (fun _ => False) (fun s => d.next ≤ s)) ∧
      (setValueInAttrset (layerAsSet d.next (newLayerOf d)) false name v
          (scratchDoc (clearBody d) (newLayerOf d))).2 =
        applyAll us (scratchDoc (clearBody d) (newLayerOf d)) ∧
      (setValue (atSigns 1 ++ name) (.one v) d).1 =
        (setValueInAttrset (layerAsSet d.next (newLayerOf d)) false name v
          (scratchDoc (clearBody d) (newLayerOf d))).1 ∧
      ((setValue (atSigns 1 ++ name) (.one v) d).1 = .ok () →
        let d' := (setValue (atSigns 1 ++ name) (.one v) d).2
        let S' := applyAllNode us (layerAsSet d.next (newLayerOf d))
        S'.setValues ≠ [] ∧
        collectScopeLayers d' = [{ newLayerOf d with scope := S'.setValues, order := S'.setOrder }] ∧
        d'.stack = [] ∧ d'.tBefore = [] ∧ d'.tAfter = [] ∧ d'.target = applyAllNode us d.target ∧
        d'.noTarget = d.noTarget ∧ d'.trailing = d.trailing ∧ d'.scratch = none) := by
  have hddn : (clearBody d).next = d.next := rfl
  obtain ⟨us, h1, h2, _⟩ := traced_setValueInAttrset (grow := true) (N := d.next)
    (A := fun _ => False) (S := fun s => d.next ≤ s) (ni := true) (fun _ h => h) (Or.inl rfl)
    (ts := layerAsSet d.next (newLayerOf d)) (within_empty_set (Nat.le_refl _)) false name v
    (scratchDoc (clearBody d) (newLayerOf d)) (by simp)
  refine ⟨us, h2, h1, ?_⟩
  rw [setValue_no_layers d name v hn hne hh h0]
  simp only [hfmt, hnp, Bool.false_eq_true, if_false]
  have hl : [newLayerOf d][0]? = some (newLayerOf d) := rfl
  have hrun := onLayer_run [newLayerOf d] false 0 (fun s => setValueInAttrset s false name v) (clearBody d) hl
    (us := us) h1
  simp only [hddn] at hrun
  rw [hrun]
  simp only [Bool.false_eq_true, if_false]
  cases hr : (setValueInAttrset (layerAsSet d.next (newLayerOf d)) false name v
      (scratchDoc (clearBody d) (newLayerOf d))).1 with
  | error e => exact ⟨rfl, fun h => by cases h⟩
  | ok u =>
    cases u
    refine ⟨rfl, fun _ => ?_⟩
    simp only
    obtain ⟨t1, t2, t3, t4, t5, _⟩ := afterRun_fields us (clearBody d) (newLayerOf d)
    obtain ⟨S'', hs1, _, hs3⟩ := set_on_empty_nonempty d.next true false name v
      (scratchDoc (clearBody d) (newLayerOf d)) rfl (by simp) hr
    have hS : S'' = applyAllNode us (layerAsSet d.next (newLayerOf d)) := by
      have hs1' : (setValueInAttrset (layerAsSet d.next (newLayerOf d)) false name v
          (scratchDoc (clearBody d) (newLayerOf d))).2.scratch = some S'' := hs1
      rw [h1, applyAll_scratch] at hs1'
      simpa [scratchDoc] using hs1'.symm
    rw [hS] at hs3
    have hne1 : (setLayerFrom (newLayerOf d) (applyAllNode us (layerAsSet d.next (newLayerOf d)))).nonEmpty
        = true := by
      simpa [Layer.nonEmpty, setLayerFrom] using hs3
    refine ⟨hs3, ?_, rfl, t3, t4, t1, t2, t5, rfl⟩
    rw [collect_write_filter]
    simp only [listSet, List.getElem?_cons_zero, Option.getD_some, List.set_cons_zero,
      List.filter_cons, hne1, if_true, List.filter_nil]
    rfl

/-- single-segment path: the layer holds exactly the new binding -/
theorem scoped_create_single (d : Doc) (name : Text) (v : Node) (seg : Text)
    (hfmt : formatNPath currentAnchor name = .ok [seg]) :
    (setValueInAttrset (layerAsSet d.next (newLayerOf d)) false name v (scratchDoc (clearBody d) (newLayerOf d))).1
        = .ok () ∧
    (setValueInAttrset (layerAsSet d.next (newLayerOf d)) false name v
        (scratchDoc (clearBody d) (newLayerOf d))).2.scratch =
      some (.set d.next [.bind (d.next + 1) seg false v [] []] [] true false) := by
  have hop : setValueInAttrset (layerAsSet d.next (newLayerOf d)) false name v
      (scratchDoc (clearBody d) (newLayerOf d)) =
      setSetItem (layerAsSet d.next (newLayerOf d)) seg v (scratchDoc (clearBody d) (newLayerOf d)) := by
    unfold setValueInAttrset
    simp only [hfmt, layerAsSet, newLayerOf, setSid?, findAttrpathLeaf_emptyset, setValues_set,
      findAttrpathRoot_nil, findBinding_nil, Option.isSome_none, Bool.false_eq_true, if_false,
      List.isEmpty_nil, if_true]
  have hnew := setSetItem_new (s := layerAsSet d.next (newLayerOf d)) (k := seg) (sid := d.next) v
    (scratchDoc (clearBody d) (newLayerOf d)) rfl rfl
  rw [hop, hnew]
  refine ⟨rfl, ?_⟩
  rw [scratch_updSet_self _ d.next _ (layerAsSet d.next (newLayerOf d)) rfl rfl]
  simp [Function.comp, appendValueFn, appendOrderFn, layerAsSet, newLayerOf, scratchDoc]

/-- the documented shortcut: with no layer present, `@path` for a path that exists in the set is
    the plain `set path` — and no layer appears -/
theorem scoped_shortcut_core (d : Doc) (name : Text) (v : Node) (hn : d.noTarget = none)
    (hne : name ≠ []) (hh : name.head? ≠ some '@') (h0 : collectScopeLayers d = [])
    (segs : List Text) (hfmt : formatNPath currentAnchor name = .ok segs)
    (hp : pathExistsInAttrset d.target segs = true) :
    setValue (atSigns 1 ++ name) (.one v) d = setValue name (.one v) d ∧
    collectScopeLayers (setValue (atSigns 1 ++ name) (.one v) d).2 = [] := by
  have h1 : setValue (atSigns 1 ++ name) (.one v) d = setValueInAttrset d.target true name v d := by
    rw [setValue_no_layers d name v hn hne hh h0]
    simp only [hfmt, hp, if_true]
  refine ⟨by rw [h1, setValue_unscoped name v d hn (splitScopeNpath_plain hh)], ?_⟩
  rw [h1]
  obtain ⟨us, t1, _, _⟩ := traced_setValueInAttrset (grow := false) (N := 0)
    (A := fun _ => True) (S := fun _ => True) (ni := false) (fun _ _ => trivial)
    (Or.inr fun _ => trivial) (within_top d.target) true name v d (Nat.zero_le _)
  rw [t1, collect_applyAll, h0]
  rfl

end Nima
