import NimaVerif.Model.MappingSpec
import NimaVerif.Lemmas.NodeUpd
import NimaVerif.Model.LayerSpec
import NimaVerif.Lemmas.NodeEq
/-! The mapping operations (`__setitem__`, `__delitem__` on a set and on `target.scope`) keep
`attrpath_order` aligned with `values` — the document invariant `DocGood` of Model/MappingSpec.lean —
in every set of the document, nested ones included. -/
namespace Nima
-- name tokens are compared by spelling in this file (see `NameCmp` in Model/Edit.lean)
attribute [local instance] NameCmp.spelled

open Node EditM

/-! ### alignment -/

theorem syncedL_iff (vs o : List Node) : syncedL vs o = true ↔ o = [] ∨ o = vs := by
  simp [syncedL, Node.beqL_iff, List.isEmpty_iff]

theorem renderItems_of_synced {vs o : List Node} (h : syncedL vs o = true) :
    renderItems vs o = vs := by
  rcases (syncedL_iff vs o).1 h with rfl | rfl
  · cases vs <;> simp [renderItems]
  · cases o <;> simp [renderItems]

theorem good_iff (s : Node) :
    Good s = true ↔ noEntriesL s.setOrder = true ∧ (s.setOrder = [] ∨ s.setOrder = s.setValues) := by
  simp [Good, NoEntries, Synced, syncedL_iff]

/-- what `_collect_attrpath_order` builds: each item of `values` is kept, or replaced by an entry -/
theorem order_eq_values_of_noEntries (g : Node → Node) (vs : List Node)
    (hg : ∀ v, g v = v ∨ (g v).isEntry = true) (hn : noEntriesL (vs.map g) = true) :
    vs.map g = vs := by
  induction vs with
  | nil => rfl
  | cons x xs ih =>
    simp only [noEntriesL, List.map_cons, List.all_cons, Bool.and_eq_true, Bool.not_eq_eq_eq_not,
      Bool.not_true] at hn
    rcases hg x with he | he
    · rw [List.map_cons, he, ih (by simpa [noEntriesL] using hn.2)]
    · rw [hn.1] at he; cases he

/-! ### names and kinds are kept by `updBind` -/

@[simp] theorem updBind_isEntry (id : Nat) (v n : Node) :
    (updBind id v n).isEntry = n.isEntry := by
  cases n with
  | bind i nm ne val b a => rw [updBind_bind_eq]; rfl
  | _ => rfl

@[simp] theorem itemKeys_updBind (id : Nat) (v n : Node) :
    (updBind id v n).itemKeys = n.itemKeys := by
  cases n with
  | bind i nm ne val b a => rw [updBind_bind_eq]; rfl
  | _ => rfl

@[simp] theorem keysOf_updBindL (id : Nat) (v : Node) (xs : List Node) :
    keysOf (updBindL id v xs) = keysOf xs := by
  simp [keysOf, updBindL_eq_map, List.flatMap_map]

/-! ### alignment under a map that keeps the kind of every item -/

theorem noEntriesL_map (g : Node → Node) (hg : ∀ n, (g n).isEntry = n.isEntry) (xs : List Node) :
    noEntriesL (xs.map g) = noEntriesL xs := by
  simp [noEntriesL, List.all_map, Function.comp_def, hg]

theorem syncedL_map (g : Node → Node) {vs o : List Node} (h : syncedL vs o = true) :
    syncedL (vs.map g) (o.map g) = true := by
  rcases (syncedL_iff vs o).1 h with rfl | rfl <;> simp [syncedL_iff]

theorem good_set_map (g : Node → Node) (hg : ∀ n, (g n).isEntry = n.isEntry) {s : Nat}
    {vs o : List Node} {m r : Bool} (h : Good (.set s vs o m r) = true) :
    Good (.set s (vs.map g) (o.map g) m r) = true := by
  simp only [Good, NoEntries, Synced, setOrder, setValues, Bool.and_eq_true] at h ⊢
  exact ⟨by rw [noEntriesL_map g hg]; exact h.1, syncedL_map g h.2⟩

theorem goodScope_mapNodes (g : Node → Node) (hg : ∀ n, (g n).isEntry = n.isEntry) (d : Doc)
    (h : GoodScope d = true) : GoodScope (d.mapNodes g) = true := by
  simp only [GoodScope, Bool.and_eq_true] at h ⊢
  exact ⟨by rw [← h.1]; exact noEntriesL_map g hg _, syncedL_map g h.2⟩

/-! ### `allSets` -/

@[simp] theorem allSetsL_append (p : Node → Bool) (xs ys : List Node) :
    allSetsL p (xs ++ ys) = (allSetsL p xs && allSetsL p ys) := by
  induction xs with
  | nil => simp [allSetsL]
  | cons x xs ih => simp [allSetsL, ih, Bool.and_assoc]

theorem allSetsL_mem {p : Node → Bool} {xs : List Node} (h : allSetsL p xs = true) {x : Node}
    (hx : x ∈ xs) : x.allSets p = true := by
  induction xs with
  | nil => cases hx
  | cons y ys ih =>
    simp only [allSetsL, Bool.and_eq_true] at h
    rcases List.mem_cons.1 hx with rfl | hm
    · exact h.1
    · exact ih h.2 hm

theorem allSetsL_of_forall {p : Node → Bool} {xs : List Node}
    (h : ∀ x ∈ xs, x.allSets p = true) : allSetsL p xs = true := by
  induction xs with
  | nil => rfl
  | cons y ys ih =>
    simp only [allSetsL, Bool.and_eq_true]
    exact ⟨h y (by simp), ih fun x hx => h x (by simp [hx])⟩

theorem allSetsL_sublist {p : Node → Bool} {xs ys : List Node} (hs : List.Sublist xs ys)
    (h : allSetsL p ys = true) : allSetsL p xs = true :=
  allSetsL_of_forall fun _ hx => allSetsL_mem h (hs.subset hx)

theorem allSetsL_map {p : Node → Bool} (g : Node → Node)
    (hg : ∀ n, n.allSets p = true → (g n).allSets p = true) {xs : List Node}
    (h : allSetsL p xs = true) : allSetsL p (xs.map g) = true :=
  allSetsL_of_forall fun y hy => by
    obtain ⟨x, hx, rfl⟩ := List.mem_map.1 hy
    exact hg x (allSetsL_mem h hx)

theorem doc_allSets_mapNodes {p : Node → Bool} (g : Node → Node)
    (hg : ∀ n, n.allSets p = true → (g n).allSets p = true) (d : Doc)
    (h : d.allSets p = true) : (d.mapNodes g).allSets p = true := by
  simp only [Doc.allSets, Bool.and_eq_true, List.all_eq_true] at h
  obtain ⟨⟨⟨⟨⟨h1, h2⟩, h3⟩, h4⟩, h5⟩, h6⟩ := h
  simp only [Doc.allSets, Doc.mapNodes, Bool.and_eq_true, List.all_eq_true, List.mem_map]
  refine ⟨⟨⟨⟨⟨hg _ h1, ?_⟩, allSetsL_map g hg h3⟩, allSetsL_map g hg h4⟩, ?_⟩, ?_⟩
  · cases hs : d.scratch with
    | none => rfl
    | some s => rw [hs] at h2; exact hg _ h2
  · rintro _ ⟨l, hl, rfl⟩
    have := h5 l hl
    simp only [Layer.allSets, Layer.mapNodes, Bool.and_eq_true] at this ⊢
    exact ⟨allSetsL_map g hg this.1, allSetsL_map g hg this.2⟩
  · cases hs : d.topScope with
    | none => rfl
    | some s => rw [hs] at h6; exact allSetsL_map g hg h6

theorem docGood_iff (d : Doc) : DocGood d = true ↔ d.allSets Good = true ∧ GoodScope d = true := by
  simp [DocGood]

/-- the document invariant survives a map that keeps every node's sets aligned and the kind of
    every item -/
theorem docGood_mapNodes (g : Node → Node)
    (hg : ∀ n, n.allSets Good = true → (g n).allSets Good = true)
    (he : ∀ n, (g n).isEntry = n.isEntry) (d : Doc) (h : DocGood d = true) :
    DocGood (d.mapNodes g) = true := by
  rw [docGood_iff] at h ⊢
  exact ⟨doc_allSets_mapNodes g hg d h.1, goodScope_mapNodes g he d h.2⟩

/-! ### `updBind` -/

mutual
  theorem allSets_updBind (id : Nat) (v : Node) (hv : v.allSets Good = true) :
      ∀ n : Node, n.allSets Good = true → (updBind id v n).allSets Good = true
    | .atom _, _ => by simp [updBind, allSets]
    | .ident _, _ => by simp [updBind, allSets]
    | .set sid vs o m r, h => by
        simp only [allSets, Bool.and_eq_true] at h
        simp only [updBind, allSets, Bool.and_eq_true]
        refine ⟨⟨?_, allSetsL_updBind id v hv vs h.1.2⟩, allSetsL_updBind id v hv o h.2⟩
        simpa only [updBindL_eq_map] using good_set_map _ (updBind_isEntry id v) h.1.1
    | .bind i n ne val b a, h => by
        simp only [allSets] at h
        by_cases hi : i = id
        · simp [updBind, hi, allSets, hv]
        · simp only [updBind, hi, if_false, allSets]
          exact allSets_updBind id v hv val h
    | .inherit _ _, _ => by simp [updBind, allSets]
    | .entry segs leaf b a, h => by
        simp only [allSets] at h
        simp only [updBind, allSets]
        exact allSets_updBind id v hv leaf h
  theorem allSetsL_updBind (id : Nat) (v : Node) (hv : v.allSets Good = true) :
      ∀ xs : List Node, allSetsL Good xs = true → allSetsL Good (updBindL id v xs) = true
    | [], _ => by simp [updBindL, allSetsL]
    | x :: xs, h => by
        simp only [allSetsL, Bool.and_eq_true] at h
        simp only [updBindL, allSetsL, Bool.and_eq_true]
        exact ⟨allSets_updBind id v hv x h.1, allSetsL_updBind id v hv xs h.2⟩
end

theorem docGood_updBind (id : Nat) (v : Node) (hv : v.allSets Good = true) (d : Doc)
    (h : DocGood d = true) : DocGood (d.updBind id v) = true := by
  rw [Doc.updBind_eq_mapNodes]
  exact docGood_mapNodes _ (allSets_updBind id v hv) (updBind_isEntry id v) d h

/-! ### `updSet` -/

theorem isEntry_of_isSet {n : Node} (h : n.isSet = true) : n.isEntry = false := by
  cases n <;> simp_all [isSet, isEntry]

theorem updSet_isEntry (sid : Nat) (f : Node → Node)
    (hset : ∀ n, n.isSet = true → (f n).isSet = true) (n : Node) :
    (updSet sid f n).isEntry = n.isEntry := by
  cases n with
  | set s vs o m r =>
    by_cases h : s = sid
    · simp only [updSet, h, if_true]
      rw [isEntry_of_isSet (hset _ rfl)]; rfl
    · simp [updSet, h, isEntry]
  | _ => simp [updSet, isEntry]

mutual
  theorem allSets_updSet (sid : Nat) (f : Node → Node)
      (hset : ∀ n, n.isSet = true → (f n).isSet = true)
      (hf : ∀ n, n.setSid? = some sid → n.allSets Good = true → (f n).allSets Good = true) :
      ∀ n : Node, n.allSets Good = true → (updSet sid f n).allSets Good = true
    | .atom _, _ => by simp [updSet, allSets]
    | .ident _, _ => by simp [updSet, allSets]
    | .set s vs o m r, h => by
        by_cases hs : s = sid
        · simp only [updSet, hs, if_true]
          exact hf _ (by simp [setSid?]) (by simpa [hs] using h)
        · simp only [allSets, Bool.and_eq_true] at h
          simp only [updSet, hs, if_false, allSets, Bool.and_eq_true]
          refine ⟨⟨?_, allSetsL_updSet sid f hset hf vs h.1.2⟩, allSetsL_updSet sid f hset hf o h.2⟩
          simpa only [updSetL_eq_map] using good_set_map _ (updSet_isEntry sid f hset) h.1.1
    | .bind i n ne val b a, h => by
        simp only [allSets] at h
        simp only [updSet, allSets]
        exact allSets_updSet sid f hset hf val h
    | .inherit _ _, _ => by simp [updSet, allSets]
    | .entry segs leaf b a, h => by
        simp only [allSets] at h
        simp only [updSet, allSets]
        exact allSets_updSet sid f hset hf leaf h
  theorem allSetsL_updSet (sid : Nat) (f : Node → Node)
      (hset : ∀ n, n.isSet = true → (f n).isSet = true)
      (hf : ∀ n, n.setSid? = some sid → n.allSets Good = true → (f n).allSets Good = true) :
      ∀ xs : List Node, allSetsL Good xs = true → allSetsL Good (updSetL sid f xs) = true
    | [], _ => by simp [updSetL, allSetsL]
    | x :: xs, h => by
        simp only [allSetsL, Bool.and_eq_true] at h
        simp only [updSetL, allSetsL, Bool.and_eq_true]
        exact ⟨allSets_updSet sid f hset hf x h.1, allSetsL_updSet sid f hset hf xs h.2⟩
end

/-- an in-place mutation of the set object `sid` by a function that keeps that object aligned
    keeps the document invariant -/
theorem docGood_updSet (sid : Nat) (f : Node → Node)
    (hset : ∀ n, n.isSet = true → (f n).isSet = true)
    (hf : ∀ n, n.setSid? = some sid → n.allSets Good = true → (f n).allSets Good = true)
    (d : Doc) (h : DocGood d = true) : DocGood (d.updSet sid f) = true := by
  rw [Doc.updSet_eq_mapNodes]
  exact docGood_mapNodes _ (allSets_updSet sid f hset hf) (updSet_isEntry sid f hset) d h

/-! ### the set functions keep alignment -/

theorem isSet_appendValueFn (b n : Node) (h : n.isSet = true) : (appendValueFn b n).isSet = true := by
  cases n <;> simp_all [isSet, appendValueFn]
theorem isSet_appendOrderFn (b n : Node) (h : n.isSet = true) : (appendOrderFn b n).isSet = true := by
  cases n with
  | set s vs o m r => by_cases ho : o.isEmpty = true <;> simp [appendOrderFn, ho, isSet]
  | _ => simp_all [isSet]
theorem isSet_delItemFn (bid : Nat) (n : Node) (h : n.isSet = true) : (delItemFn bid n).isSet = true := by
  cases n <;> simp_all [isSet, delItemFn]

theorem good_appendBoth (nb : Node) (hne : nb.isEntry = false) (hnb : nb.allSets Good = true)
    (n : Node) (h : n.allSets Good = true) :
    ((appendOrderFn nb ∘ appendValueFn nb) n).allSets Good = true := by
  cases n with
  | set s vs o m r =>
    simp only [allSets, Bool.and_eq_true] at h
    obtain ⟨⟨hg, hvs⟩, ho⟩ := h
    rw [good_iff] at hg
    simp only [setOrder, setValues] at hg
    simp only [Function.comp, appendValueFn, appendOrderFn]
    rcases hg.2 with rfl | rfl
    · simp [allSets, good_iff, setOrder, setValues, noEntriesL, hvs, hnb, allSetsL]
    · cases o with
      | nil => simp [allSets, good_iff, setOrder, setValues, noEntriesL, hnb, allSetsL]
      | cons x xs =>
        have hn := hg.1
        simp only [noEntriesL, List.all_cons, Bool.and_eq_true] at hn
        simp only [allSetsL, Bool.and_eq_true] at hvs
        simp [allSets, good_iff, setOrder, setValues, noEntriesL, hnb, allSetsL, hne, hn.1, hvs.1,
          hvs.2]
        simpa using hn.2
  | _ => simpa [Function.comp, appendValueFn, appendOrderFn] using h

theorem eraseP_bindId_eq (bid : Nat) (vs : List Node) :
    (vs.eraseP fun n => n.isBind && n.bindId? == some bid) =
      vs.eraseP fun n => n.bindId? == some bid := by
  congr 1
  funext n
  cases n <;> simp [isBind, bindId?]

theorem noEntriesL_sublist {xs ys : List Node} (hs : List.Sublist xs ys)
    (h : noEntriesL ys = true) : noEntriesL xs = true := by
  simp only [noEntriesL, List.all_eq_true] at h ⊢
  exact fun x hx => h x (hs.subset hx)

theorem good_delItemFn (bid : Nat) (n : Node) (h : n.allSets Good = true) :
    (delItemFn bid n).allSets Good = true := by
  cases n with
  | set s vs o m r =>
    simp only [allSets, Bool.and_eq_true] at h
    obtain ⟨⟨hg, hvs⟩, ho⟩ := h
    rw [good_iff] at hg
    simp only [setOrder, setValues] at hg
    simp only [delItemFn, allSets, Bool.and_eq_true]
    refine ⟨⟨?_, allSetsL_sublist List.eraseP_sublist hvs⟩, ?_⟩
    · rw [good_iff]
      simp only [setOrder, setValues]
      rcases hg.2 with rfl | rfl
      · simp [noEntriesL]
      · cases o with
        | nil => simp [noEntriesL]
        | cons x xs =>
          simp only [List.isEmpty_cons, Bool.false_eq_true, if_false, eraseP_bindId_eq]
          exact ⟨noEntriesL_sublist List.eraseP_sublist hg.1, by simp⟩
    · split
      · exact ho
      · exact allSetsL_sublist List.eraseP_sublist ho
  | _ => simpa [delItemFn] using h

/-! ### preservation of the document invariant -/

theorem docGood_target {d : Doc} (h : DocGood d = true) : d.target.allSets Good = true := by
  simp only [DocGood, Doc.allSets, Bool.and_eq_true] at h
  exact h.1.1.1.1.1.1

theorem good_of_allSets {s : Node} (hs : s.isSet = true) (h : s.allSets Good = true) :
    Good s = true := by
  cases s <;> simp_all [isSet, allSets]

theorem renderItems_of_allSets_good {t : Node} (h : t.allSets Good = true) :
    renderItems t.setValues t.setOrder = t.setValues := by
  cases t with
  | set sid vs o m r =>
    simp only [allSets, Good, Bool.and_eq_true] at h
    exact renderItems_of_synced h.1.1.2
  | _ => rfl

theorem allSets_bind_value {p : Node → Bool} {b v : Node} (hb : b.allSets p = true)
    (hv : b.bindValue? = some v) : v.allSets p = true := by
  cases b <;> simp [bindValue?] at hv
  subst hv
  simpa [allSets] using hb

theorem docGood_setSetItem (s : Node) (k : Text) (v : Node) (d : Doc)
    (hv : v.allSets Good = true) (h : DocGood d = true) :
    DocGood (setSetItem s k v d).2 = true := by
  cases hb : findBinding s.setValues k with
  | some b =>
    obtain ⟨bid, hid⟩ := isBind_bindId (findBinding_some hb).2.1
    rw [setSetItem_existing v d hb hid]
    exact docGood_updBind bid v hv d h
  | none =>
    cases hs : s.setSid? with
    | none => rw [setSetItem_notSet v d hb hs]; exact h
    | some sid =>
      rw [setSetItem_new v d hb hs]
      exact docGood_updSet sid _ (fun n hn => isSet_appendOrderFn _ _ (isSet_appendValueFn _ _ hn))
        (fun n _ hn => good_appendBoth _ rfl (by simpa [allSets] using hv) n hn) _ h

theorem docGood_setDelItem (s : Node) (k : Text) (d : Doc) (h : DocGood d = true) :
    DocGood (setDelItem s k d).2 = true := by
  cases hb : findBinding s.setValues k with
  | none => rw [setDelItem_missing d hb]; exact h
  | some b =>
    obtain ⟨bid, hid⟩ := isBind_bindId (findBinding_some hb).2.1
    cases hs : s.setSid? with
    | none =>
      have : setDelItem s k d = (.error .key, d) := by
        unfold setDelItem; simp only [hb, hs]; rfl
      rw [this]; exact h
    | some sid =>
      rw [setDelItem_existing d hb hid hs]
      exact docGood_updSet sid _ (isSet_delItemFn bid) (fun n _ hn => good_delItemFn bid n hn) d h

/-! ### the scope mapping -/

theorem scopeSetItem_existing {k : Text} {b : Node} {bid : Nat} (v : Node) (d : Doc)
    (hb : findBinding d.scope k = some b) (hid : b.bindId? = some bid) :
    scopeSetItem k v d = (.ok (), d.updBind bid v) := by
  unfold scopeSetItem
  simp only [hb, hid]
  rfl

theorem scopeSetItem_new {k : Text} (v : Node) (d : Doc) (hb : findBinding d.scope k = none) :
    scopeSetItem k v d = (.ok (), { d with
      next := d.next + 1, scope := d.scope ++ [.bind d.next k false v [] []],
      stOrder := if d.stOrder.isEmpty then d.stOrder
                 else d.stOrder ++ [.bind d.next k false v [] []] }) := by
  unfold scopeSetItem
  simp only [hb]

def scopeOrderPred (bid : Nat) : Node → Bool
  | .bind i .. => i == bid
  | .entry _ leaf _ _ => leaf.bindId? == some bid
  | _ => false

theorem scopeDelItem_existing {k : Text} {b : Node} {bid : Nat} (d : Doc)
    (hb : findBinding d.scope k = some b) (hid : b.bindId? = some bid) :
    scopeDelItem k d = (.ok (), { d with
      scope := d.scope.eraseP fun n => n.isBind && n.bindId? == some bid
      stOrder := if d.stOrder.isEmpty then d.stOrder else d.stOrder.eraseP (scopeOrderPred bid) }) := by
  unfold scopeDelItem
  simp only [hb, hid]
  congr

theorem scopeDelItem_missing {k : Text} (d : Doc) (hb : findBinding d.scope k = none) :
    scopeDelItem k d = (.error .key, d) := by
  unfold scopeDelItem
  simp only [hb]

theorem eraseP_congr_on {p q : Node → Bool} (xs : List Node) (h : ∀ x ∈ xs, p x = q x) :
    xs.eraseP p = xs.eraseP q := by
  induction xs with
  | nil => rfl
  | cons x xs ih =>
    simp only [List.eraseP_cons, h x (by simp)]
    rw [ih fun y hy => h y (by simp [hy])]

theorem scopeOrderPred_eq (bid : Nat) (n : Node) (h : n.isEntry = false) :
    scopeOrderPred bid n = (n.isBind && n.bindId? == some bid) := by
  cases n <;> simp_all [scopeOrderPred, isBind, bindId?, isEntry]

/-- The scope mapping's two writes replace `scope` and, unless it is unused, `stOrder`. The
    invariant survives if the new lists hold aligned sets only, the new order has no entry, and the
    two new lists are equal whenever the old ones were. -/
theorem docGood_scope_update {d : Doc} (h : DocGood d = true) (n : Nat) {S' O' : List Node}
    (hS : allSetsL Good d.scope = true → allSetsL Good S' = true)
    (hO : allSetsL Good d.stOrder = true → allSetsL Good O' = true)
    (hne : noEntriesL d.stOrder = true → noEntriesL O' = true ∧ (d.stOrder = d.scope → O' = S')) :
    DocGood { d with next := n, scope := S',
                     stOrder := if d.stOrder.isEmpty then d.stOrder else O' } = true := by
  rw [docGood_iff] at h ⊢
  obtain ⟨ha, hg⟩ := h
  simp only [Doc.allSets, Bool.and_eq_true] at ha
  simp only [GoodScope, Bool.and_eq_true] at hg
  by_cases he : d.stOrder.isEmpty = true
  · have h0 : d.stOrder = [] := by simpa using he
    simp only [Doc.allSets, GoodScope, he, if_true, Bool.and_eq_true]
    exact ⟨⟨⟨⟨⟨ha.1.1.1.1, hS ha.1.1.1.2⟩, ha.1.1.2⟩, ha.1.2⟩, ha.2⟩, hg.1, by simp [h0, syncedL_iff]⟩
  · simp only [Doc.allSets, GoodScope, he, Bool.and_eq_true]
    refine ⟨⟨⟨⟨⟨ha.1.1.1.1, hS ha.1.1.1.2⟩, hO ha.1.1.2⟩, ha.1.2⟩, ha.2⟩, (hne hg.1).1, ?_⟩
    rcases (syncedL_iff _ _).1 hg.2 with h0 | h0
    · simp [h0] at he
    · rw [syncedL_iff]; exact Or.inr ((hne hg.1).2 h0)

theorem docGood_scopeSetItem (k : Text) (v : Node) (d : Doc)
    (hv : v.allSets Good = true) (h : DocGood d = true) :
    DocGood (scopeSetItem k v d).2 = true := by
  cases hb : findBinding d.scope k with
  | some b =>
    obtain ⟨bid, hid⟩ := isBind_bindId (findBinding_some hb).2.1
    rw [scopeSetItem_existing v d hb hid]
    exact docGood_updBind bid v hv d h
  | none =>
    rw [scopeSetItem_new v d hb]
    have hnb : (Node.bind d.next k false v [] []).allSets Good = true := by simpa [allSets] using hv
    refine docGood_scope_update h _ (fun h => ?_) (fun h => ?_) (fun hn => ⟨?_, fun h0 => by rw [h0]⟩)
    · simp [h, allSetsL, hnb]
    · simp [h, allSetsL, hnb]
    · simp only [noEntriesL, List.all_append, Bool.and_eq_true] at hn ⊢
      exact ⟨hn, rfl⟩

theorem docGood_scopeDelItem (k : Text) (d : Doc) (h : DocGood d = true) :
    DocGood (scopeDelItem k d).2 = true := by
  cases hb : findBinding d.scope k with
  | none => rw [scopeDelItem_missing d hb]; exact h
  | some b =>
    obtain ⟨bid, hid⟩ := isBind_bindId (findBinding_some hb).2.1
    rw [scopeDelItem_existing d hb hid]
    refine docGood_scope_update h d.next (allSetsL_sublist List.eraseP_sublist)
      (allSetsL_sublist List.eraseP_sublist)
      (fun hn => ⟨noEntriesL_sublist List.eraseP_sublist hn, fun h0 => ?_⟩)
    -- on an entry-free list the two predicates pick the same item
    rw [h0]
    apply eraseP_congr_on
    intro x hx
    apply scopeOrderPred_eq
    simp only [noEntriesL, List.all_eq_true, h0] at hn
    simpa using hn x hx

/-! ### reaching nested sets -/

theorem allSets_setValues {p : Node → Bool} {n : Node} (h : n.allSets p = true) :
    allSetsL p n.setValues = true := by
  cases n <;> simp_all [allSets, setValues, allSetsL]

theorem setGetItem_allSets {p : Node → Bool} {s : Node} {k : Text} {v : Node}
    (hs : s.allSets p = true) (h : setGetItem s k = .ok v) : v.allSets p = true :=
  setGetItem_induct (P := fun n => n.allSets p = true)
    (fun hn hb hw => allSets_bind_value (allSetsL_mem (allSets_setValues hn) (findBinding_some hb).1) hw)
    (fun _ => rfl) hs h

theorem reachFrom_allSets {p : Node → Bool} (path : List Text) :
    ∀ {cur s : Node}, cur.allSets p = true → reachFrom cur path = .ok s → s.allSets p = true := by
  induction path with
  | nil => intro cur s hc h; simp only [reachFrom] at h; injection h with h; subst h; exact hc
  | cons k ks ih =>
    intro cur s hc h
    simp only [reachFrom] at h
    split at h
    · rename_i v _ _ _ _ _ hv
      exact ih (setGetItem_allSets hc hv) h
    · cases h
    · cases h

end Nima
