import NimaVerif.Lemmas.LayerOps
/-! The scoped branches of `setValue` / `removeValue`, assembled from dispatch + `onLayer` + traces. -/
namespace Nima
-- name tokens are compared by spelling in this file (see `NameCmp` in Model/Edit.lean)
attribute [local instance] NameCmp.spelled

open Node EditM

theorem scratch_within (d : Doc) (l : Layer) (ni : Bool) (A : Nat → Prop)
    (hA : ∀ i ∈ l.bindIds, A i) (hni : ni = true → l.plain = true) :
    (layerAsSet d.next l).Within A (l.fpSet d.next) ni := by
  apply within_of_idLists
  · intro i hi
    exact hA i (by simpa [layerAsSet, bindIdList, Layer.bindIds] using hi)
  · intro s hs
    simp only [layerAsSet, setIdList, List.mem_cons] at hs
    rcases hs with rfl | hs
    · exact Or.inr (Nat.le_refl _)
    · exact Or.inl (by simpa [Layer.setIds] using hs)
  · intro h
    have := hni h
    simp only [Layer.plain, Bool.and_eq_true, Bool.not_eq_eq_eq_not, Bool.not_true] at this
    simp [layerAsSet, hasIdentValue, this.1, this.2]

theorem fpSet_fresh (l : Layer) (N : Nat) : ∀ i, N ≤ i → l.fpSet N i := fun _ h => Or.inr h

theorem write_cons_fields (ls : List Layer) (r : Option Layer) (d : Doc) (h : ls ≠ []) :
    let w := writeScopeLayers ls r d
    w.target = d.target ∧ w.tBefore = d.tBefore ∧ w.tAfter = d.tAfter ∧ w.trailing = d.trailing ∧
    w.noTarget = d.noTarget ∧ w.scratch = d.scratch ∧ w.next = d.next ∧ w.topScope = d.topScope := by
  cases ls with
  | nil => exact absurd rfl h
  | cons o rest => exact ⟨rfl, rfl, rfl, rfl, rfl, rfl, rfl, rfl⟩

theorem write_fields (ls : List Layer) (r : Option Layer) (d : Doc) :
    let w := writeScopeLayers ls r d
    w.target = d.target ∧ w.noTarget = d.noTarget ∧ w.scratch = d.scratch ∧ w.next = d.next ∧
    w.topScope = d.topScope ∧ w.trailing = d.trailing := by
  cases ls with
  | nil => cases r <;> exact ⟨rfl, rfl, rfl, rfl, rfl, rfl⟩
  | cons o rest => exact ⟨rfl, rfl, rfl, rfl, rfl, rfl⟩

theorem write_nil_some (r : Layer) (d : Doc) :
    (writeScopeLayers [] (some r) d).tBefore = (if r.bodyBefore.isEmpty then d.tBefore else r.bodyBefore) ∧
    (writeScopeLayers [] (some r) d).tAfter = r.bodyAfter ++ d.tAfter.filter (!r.bodyAfter.contains ·) :=
  ⟨rfl, rfl⟩

/-! ### storing the layers after one of them was replaced -/

/-- a list of non-empty layers with one replaced by a non-empty layer is stored as it is -/
theorem write_listSet (L : List Layer) (idx : Nat) (X : Layer) (d2 : Doc) (hidx : idx < L.length)
    (hL : ∀ m ∈ L, m.nonEmpty = true) (hX : X.scope ≠ []) :
    let w := writeScopeLayers (listSet L idx X) none d2
    collectScopeLayers w = listSet L idx X ∧ w.target = d2.target ∧ w.tBefore = d2.tBefore ∧
    w.tAfter = d2.tAfter ∧ w.trailing = d2.trailing ∧ w.noTarget = d2.noTarget ∧
    w.scratch = d2.scratch := by
  have hne : listSet L idx X ≠ [] := by
    intro h
    have := congrArg List.length h
    simp only [listSet_length, List.length_nil] at this
    omega
  obtain ⟨w1, w2, w3, w4, w5, w6, _, _⟩ := write_cons_fields _ none d2 hne
  refine ⟨?_, w1, w2, w3, w4, w5, w6⟩
  rw [collect_write_filter, filter_nonEmpty_of_all]
  intro m hm
  rcases mem_listSet hm with rfl | hm
  · simpa [Layer.nonEmpty] using hX
  · exact hL m hm

/-- The tail of a scoped `rm` on a list of non-empty layers in which layer `idx` was replaced by
    `X`: an emptied `X` is dropped (and, as the last layer, gives its body trivia back to the set),
    a non-empty one is stored. -/
theorem rmFinish_listSet (d d2 : Doc) (L : List Layer) (idx : Nat) (X : Layer)
    (hidx : idx < L.length) (hL : ∀ m ∈ L, m.nonEmpty = true) :
    let r := rmFinish d idx (listSet L idx X) d2
    (X.scope = [] → collectScopeLayers r = L.eraseIdx idx ∧
      (L.length ≠ 1 → r.tBefore = d2.tBefore ∧ r.tAfter = d2.tAfter) ∧
      (L.length = 1 →
        r.tBefore = (if X.bodyBefore.isEmpty then d2.tBefore else X.bodyBefore) ∧
        r.tAfter = X.bodyAfter ++ d2.tAfter.filter (!X.bodyAfter.contains ·))) ∧
    (X.scope ≠ [] →
      collectScopeLayers r = listSet L idx X ∧ r.tBefore = d2.tBefore ∧ r.tAfter = d2.tAfter) ∧
    r.target = d2.target ∧ r.noTarget = d2.noTarget ∧ r.scratch = d2.scratch := by
  obtain ⟨f1, f2, f3, f4, f5, f6, _, _⟩ := rmFinish_fields d idx (listSet L idx X) d2
  obtain ⟨g1, g2, g3, _⟩ := write_fields (rmLayers idx (listSet L idx X))
    (rmRemoved idx (listSet L idx X)) d2
  have hget : (listSet L idx X)[idx]? = some X := listSet_getElem?_self _ _ _ hidx
  refine ⟨fun hemp => ?_, fun hnemp => ?_, f2.trans g1, f6.trans g2, f5.trans g3⟩
  · have hrem : rmRemoved idx (listSet L idx X) = some X := by simp [rmRemoved, hget, hemp]
    have hlay : rmLayers idx (listSet L idx X) = L.eraseIdx idx := by
      simp [rmLayers, hrem, listSet_eraseIdx]
    rw [hrem, hlay] at f1 f3 f4
    have hlen := List.length_eraseIdx_of_lt hidx
    refine ⟨?_, fun hn1 => ?_, fun h1 => ?_⟩
    · rw [f1, collect_write_filter, filter_nonEmpty_of_all]
      exact fun m hm => hL m (List.mem_of_mem_eraseIdx hm)
    · have : L.eraseIdx idx ≠ [] := by
        intro h
        rw [h, List.length_nil] at hlen
        omega
      obtain ⟨_, w2, w3, _⟩ := write_cons_fields (L.eraseIdx idx) (some X) d2 this
      exact ⟨f3.trans w2, f4.trans w3⟩
    · have : L.eraseIdx idx = [] := List.eq_nil_of_length_eq_zero (by omega)
      rw [this] at f3 f4
      exact ⟨f3.trans (write_nil_some X d2).1, f4.trans (write_nil_some X d2).2⟩
  · have hrem : rmRemoved idx (listSet L idx X) = none := by
      have : X.scope.isEmpty = false := by simpa using hnemp
      simp [rmRemoved, hget, this]
    have hlay : rmLayers idx (listSet L idx X) = listSet L idx X := by simp [rmLayers, hrem]
    rw [hrem, hlay] at f1 f3 f4
    obtain ⟨c, _, w2, w3, _⟩ := write_listSet L idx X d2 hidx hL hnemp
    exact ⟨f1.trans c, f3.trans w2, f4.trans w3⟩

/-! ### the run on the scratch set -/

/-- the state once the writes `us` were made from `scratchDoc d l` and the scratch set dropped -/
theorem afterRun_fields (us : List Upd) (d : Doc) (l : Layer) :
    let d2 : Doc := { applyAll us (scratchDoc d l) with scratch := none }
    d2.target = applyAllNode us d.target ∧ d2.noTarget = d.noTarget ∧ d2.tBefore = d.tBefore ∧
    d2.tAfter = d.tAfter ∧ d2.trailing = d.trailing ∧ d2.scratch = none := by
  have hfr := applyAll_frame us (scratchDoc d l)
  exact ⟨by simp only [applyAll_target, scratchDoc_target], hfr.noTarget, hfr.tBefore, hfr.tAfter,
    hfr.trailing, rfl⟩

theorem layers_after_nonEmpty (us : List Upd) (d : Doc) :
    ∀ m ∈ (collectScopeLayers d).map (applyAllLayer us), m.nonEmpty = true := by
  intro m hm
  obtain ⟨m0, hm0, rfl⟩ := List.mem_map.1 hm
  rw [(applyAllLayer_frame us m0).2.2.2]
  exact collect_nonEmpty d m0 hm0

theorem getElem?_map_getD {α} (f : α → α) (xs : List α) (i : Nat) (x : α) (h : xs[i]? = some x) :
    ((xs.map f)[i]?).getD x = f x := by simp [h]

/-- The scoped `set` on an existing layer, in full: which scratch set the attrset-level operation
    runs on, what it may touch, and what is written back. -/
theorem scoped_set_core (d : Doc) (k : Nat) (name : Text) (v : Node) (hn : d.noTarget = none)
    (hk : 1 ≤ k) (hne : name ≠ []) (hh : name.head? ≠ some '@')
    (hkn : k ≤ (collectScopeLayers d).length) (ni : Bool) (A : Nat → Prop) {l : Layer}
    (hl : (collectScopeLayers d)[(collectScopeLayers d).length - k]? = some l)
    (hor : ni = true ∨ ∀ i, A i) (hA : ∀ i ∈ l.bindIds, A i) (hni : ni = true → l.plain = true) :
    ∃ us, (∀ u ∈ us, u.Allowed true A (l.fpSet d.next)) ∧
      (setValueInAttrset (layerAsSet d.next l) false name v (scratchDoc d l)).2 =
        applyAll us (scratchDoc d l) ∧
      (setValue (atSigns k ++ name) (.one v) d).1 =
        (setValueInAttrset (layerAsSet d.next l) false name v (scratchDoc d l)).1 ∧
      ((setValue (atSigns k ++ name) (.one v) d).1 = .ok () →
        let d' := (setValue (atSigns k ++ name) (.one v) d).2
        let S' := applyAllNode us (layerAsSet d.next l)
        collectScopeLayers d' =
          listSet ((collectScopeLayers d).map (applyAllLayer us)) ((collectScopeLayers d).length - k)
            { applyAllLayer us l with scope := S'.setValues, order := S'.setOrder } ∧
        d'.target = applyAllNode us d.target ∧ d'.noTarget = d.noTarget ∧ d'.tBefore = d.tBefore ∧
        d'.tAfter = d.tAfter ∧ d'.trailing = d.trailing ∧ d'.scratch = none) := by
  obtain ⟨us, h1, h2, _⟩ := traced_setValueInAttrset (grow := true) (N := d.next)
    (fpSet_fresh l d.next) hor (scratch_within d l ni A hA hni) false name v (scratchDoc d l)
    (by simp)
  refine ⟨us, h2, h1, ?_⟩
  rw [setValue_scoped d k name v hn hk hne hh hkn,
    onLayer_run _ true _ (fun s => setValueInAttrset s false name v) d hl h1]
  simp only [if_true]
  cases hr : (setValueInAttrset (layerAsSet d.next l) false name v (scratchDoc d l)).1 with
  | error e => exact ⟨rfl, fun h => by cases h⟩
  | ok u =>
    cases u
    refine ⟨rfl, fun _ => ?_⟩
    simp only
    rw [getElem?_map_getD (applyAllLayer us) _ _ l hl]
    -- additions only: the layer, non-empty before, is non-empty after
    have hX : (setLayerFrom (applyAllLayer us l) (applyAllNode us (layerAsSet d.next l))).scope ≠ [] := by
      have hg := applyAllNode_grows us h2 (layerAsSet d.next l) rfl
      have hlne : l.scope ≠ [] := by
        simpa [Layer.nonEmpty] using collect_nonEmpty d l (List.mem_of_getElem? hl)
      exact List.length_pos_iff.1 (Nat.lt_of_lt_of_le (List.length_pos_iff.2 hlne) hg.2)
    obtain ⟨t1, t2, t3, t4, t5, t6⟩ := afterRun_fields us d l
    obtain ⟨c, w1, w2, w3, w4, w5, w6⟩ := write_listSet
      ((collectScopeLayers d).map (applyAllLayer us)) ((collectScopeLayers d).length - k) _
      ({ applyAll us (scratchDoc d l) with scratch := none } : Doc)
      (by rw [List.length_map]; omega) (layers_after_nonEmpty us d) hX
    exact ⟨c, w1.trans t1, w5.trans t2, w2.trans t3, w3.trans t4, w4.trans t5, w6.trans t6⟩

/-- The scoped `rm`, in full. -/
theorem scoped_rm_core (d : Doc) (k : Nat) (name : Text) (hn : d.noTarget = none)
    (hk : 1 ≤ k) (hne : name ≠ []) (hh : name.head? ≠ some '@')
    (hkn : k ≤ (collectScopeLayers d).length) {l : Layer}
    (hl : (collectScopeLayers d)[(collectScopeLayers d).length - k]? = some l) :
    ∃ us, (∀ u ∈ us, u.Allowed false l.fpBind (l.fpSet d.next)) ∧
      (removeValueInAttrset (layerAsSet d.next l) name (scratchDoc d l)).2 =
        applyAll us (scratchDoc d l) ∧
      (removeValue (atSigns k ++ name) d).1 =
        (removeValueInAttrset (layerAsSet d.next l) name (scratchDoc d l)).1 ∧
      ((removeValue (atSigns k ++ name) d).1 = .ok () →
        let d' := (removeValue (atSigns k ++ name) d).2
        let S' := applyAllNode us (layerAsSet d.next l)
        let L' := (collectScopeLayers d).map (applyAllLayer us)
        let idx := (collectScopeLayers d).length - k
        (S'.setValues = [] → collectScopeLayers d' = L'.eraseIdx idx ∧
          ((collectScopeLayers d).length ≠ 1 → d'.tBefore = d.tBefore ∧ d'.tAfter = d.tAfter) ∧
          ((collectScopeLayers d).length = 1 →
            d'.tBefore = (if l.bodyBefore.isEmpty then d.tBefore else l.bodyBefore) ∧
            d'.tAfter = l.bodyAfter ++ d.tAfter.filter (!l.bodyAfter.contains ·))) ∧
        (S'.setValues ≠ [] → collectScopeLayers d' =
            listSet L' idx { applyAllLayer us l with scope := S'.setValues, order := S'.setOrder } ∧
          d'.tBefore = d.tBefore ∧ d'.tAfter = d.tAfter) ∧
        d'.target = applyAllNode us d.target ∧ d'.noTarget = d.noTarget ∧ d'.scratch = none) := by
  obtain ⟨us, h1, h2, _⟩ := traced_removeValueInAttrset (N := d.next) (ni := false)
    (fpSet_fresh l d.next) (scratch_within d l false l.fpBind (fun _ h => h) (fun h => by cases h))
    name (scratchDoc d l) (by simp)
  refine ⟨us, h2, h1, ?_⟩
  rw [removeValue_scoped d k name hn hk hne hh hkn,
    onLayer_run _ true _ (fun s => removeValueInAttrset s name) d hl h1]
  simp only [if_true]
  cases hr : (removeValueInAttrset (layerAsSet d.next l) name (scratchDoc d l)).1 with
  | error e => exact ⟨rfl, fun h => by cases h⟩
  | ok u =>
    cases u
    refine ⟨rfl, fun _ => ?_⟩
    simp only
    rw [getElem?_map_getD (applyAllLayer us) _ _ l hl]
    obtain ⟨t1, t2, t3, t4, _, t6⟩ := afterRun_fields us d l
    obtain ⟨r1, r2, r3, r4, r5⟩ := rmFinish_listSet d
      ({ applyAll us (scratchDoc d l) with scratch := none } : Doc)
      ((collectScopeLayers d).map (applyAllLayer us)) ((collectScopeLayers d).length - k)
      (setLayerFrom (applyAllLayer us l) (applyAllNode us (layerAsSet d.next l)))
      (by rw [List.length_map]; omega) (layers_after_nonEmpty us d)
    rw [List.length_map] at r1
    refine ⟨fun hemp => ?_, fun hnemp => ?_, r3.trans t1, r4.trans t2, r5.trans t6⟩
    · obtain ⟨a, b, c⟩ := r1 hemp
      refine ⟨a, fun hn1 => ⟨(b hn1).1.trans t3, (b hn1).2.trans t4⟩, fun h1 => ?_⟩
      have hb := applyAllLayer_frame us l
      rw [(c h1).1, (c h1).2, t3, t4]
      simp only [setLayerFrom, hb.1, hb.2.1, and_self]
    · obtain ⟨a, b, c⟩ := r2 hnemp
      exact ⟨a, b.trans t3, c.trans t4⟩

end Nima
