import NimaVerif.Lemmas.Edit
import NimaVerif.Lemmas.SameName
/-!
Two name comparisons that agree on the tokens an operation can meet give the same operation.

`toks n` lists the name tokens a lookup below the node `n` can compare with a key: the names of the
bindings reachable through `values`, and identifier values (a reference's target is looked up among
the siblings). The lookups of `set`/`rm` only ever read SNAPSHOTS that are sub-nodes of the target set
(or of a scope layer) they started from, or fresh empty sets, so no invariant about the evolving
document is needed: `Agree I1 I2 T` together with "the document's tokens and the keys are in `T`"
makes every function of Model/Edit.lean the same function for `I1` and `I2`.

Instantiated with `NameCmp.model` (`_same_attr_name`) and `NameCmp.spelled` (`==`), `Agree` is
`NoSpellingClash`: no two tokens of `T` are different spellings of one name.
-/
namespace Nima.NameAgree
open Nima Node EditM

mutual
  def toks : Node → List Text
    | .set _ vs _ _ _ => toksL vs
    | .bind _ n _ v _ _ => n :: toks v
    | .ident n => [n]
    | _ => []
  def toksL : List Node → List Text
    | [] => []
    | x :: xs => toks x ++ toksL xs
end

/-- every token below `n` is in `T` -/
def Within (T : List Text) (n : Node) : Prop := ∀ t ∈ toks n, t ∈ T
def WithinL (T : List Text) (vs : List Node) : Prop := ∀ t ∈ toksL vs, t ∈ T

/-- the two comparisons give the same answer on every pair of tokens of `T` -/
def Agree (I1 I2 : NameCmp) (T : List Text) : Prop :=
  ∀ a ∈ T, ∀ b ∈ T, I1.same a b = I2.same a b

/-! ### `Within` goes down to sub-nodes -/

theorem toksL_mem {x : Node} {vs : List Node} (h : x ∈ vs) : ∀ t ∈ toks x, t ∈ toksL vs := by
  induction vs with
  | nil => cases h
  | cons y ys ih =>
    intro t ht
    simp only [toksL, List.mem_append]
    rcases List.mem_cons.mp h with rfl | h'
    · exact Or.inl ht
    · exact Or.inr (ih h' t ht)

theorem withinL_mem {T : List Text} {vs : List Node} (h : WithinL T vs) {x : Node} (hx : x ∈ vs) :
    Within T x := fun t ht => h t (toksL_mem hx t ht)

theorem within_values {T : List Text} {s : Node} (h : Within T s) : WithinL T s.setValues := by
  cases s with
  | set _ vs _ _ _ => exact h
  | _ => intro t ht; cases ht

theorem within_value {T : List Text} {b v : Node} (h : Within T b) (hv : b.bindValue? = some v) :
    Within T v := by
  cases b <;> simp [bindValue?] at hv
  subst hv
  intro t ht
  exact h t (by simp [toks, ht])

theorem within_name {T : List Text} {b : Node} {nm : Text} (h : Within T b) (hn : b.bindName? = some nm) :
    nm ∈ T := by
  cases b <;> simp [bindName?] at hn
  subst hn
  exact h _ (by simp [toks])

theorem within_ident {T : List Text} {n : Text} (h : Within T (.ident n)) : n ∈ T :=
  h n (by simp [toks])

theorem within_fresh_set (T : List Text) (sid : Nat) (m r : Bool) : Within T (.set sid [] [] m r) := by
  intro t ht; simp [toks, toksL] at ht

theorem find?_agree {vs : List Node} (p q : Node → Bool) (h : ∀ n ∈ vs, p n = q n) :
    vs.find? p = vs.find? q := by
  induction vs with
  | nil => rfl
  | cons x xs ih =>
    simp only [List.find?_cons, h x (by simp)]
    rw [ih (fun n hn => h n (by simp [hn]))]

/-! ### lookups and read-only walks -/

section
variable {I1 I2 : NameCmp} {T : List Text} (hA : Agree I1 I2 T)
include hA

theorem nameIs_agree {n : Node} {key : Text} (hn : Within T n) (hk : key ∈ T) :
    @nameIs I1 n key = @nameIs I2 n key := by
  unfold nameIs
  cases hb : n.bindName? with
  | none => rfl
  | some nm => exact hA nm (within_name hn hb) key hk

/-- the three lookups differ only in what else they ask of a binding besides its name (`q`) -/
theorem find?_nameIs_agree {vs : List Node} {key : Text} (hvs : WithinL T vs) (hk : key ∈ T)
    (q : Node → Bool → Bool) :
    vs.find? (fun n => q n (@nameIs I1 n key)) = vs.find? (fun n => q n (@nameIs I2 n key)) :=
  find?_agree _ _ fun n hn => by rw [nameIs_agree hA (withinL_mem hvs hn) hk]

theorem findBinding_agree {vs : List Node} {key : Text} (hvs : WithinL T vs) (hk : key ∈ T) :
    @findBinding I1 vs key = @findBinding I2 vs key :=
  find?_nameIs_agree hA hvs hk fun n b => n.isBind && b

theorem findNamedBinding_agree {vs : List Node} {key : Text} (nested : Option Bool)
    (hvs : WithinL T vs) (hk : key ∈ T) :
    @findNamedBinding I1 vs key nested = @findNamedBinding I2 vs key nested :=
  find?_nameIs_agree hA hvs hk fun n b =>
    n.isBind && b && (match nested with | none => true | some b => n.bindNested == b)

theorem findAttrpathRoot_agree {vs : List Node} {key : Text} (hvs : WithinL T vs) (hk : key ∈ T) :
    @findAttrpathRoot I1 vs key = @findAttrpathRoot I2 vs key :=
  find?_nameIs_agree hA hvs hk fun n b => n.isBind && n.bindNested && b

omit hA in
theorem find?_within {T : List Text} {vs : List Node} {p : Node → Bool} {b : Node}
    (hvs : WithinL T vs) (h : vs.find? p = some b) : Within T b :=
  withinL_mem hvs (List.mem_of_find?_eq_some h)

omit hA in
/-- Every walk goes on only into a set value of the binding it found: two such walks are related by
    `R` if their continuations are, on that value. -/
theorem bindValue_set_rel {β : Type} {R : β → β → Prop} {b : Node} {B : β} {F G : Node → β} (hB : R B B)
    (h : ∀ v, b.bindValue? = some v → R (F v) (G v)) :
    R (match b.bindValue? with
        | some (v@(.set ..)) => F v
        | _ => B)
      (match b.bindValue? with
        | some (v@(.set ..)) => G v
        | _ => B) := by
  cases hv : b.bindValue? with
  | none => exact hB
  | some v => cases v <;> first | exact hB | exact h _ hv

theorem walkGo_agree (ln rr : Bool) (segs : List Text) (hs : ∀ s ∈ segs, s ∈ T) :
    ∀ (cur : Node) (stack : List (Node × Node)), Within T cur →
      @walkAttrpathStack.go I1 ln rr cur stack segs = @walkAttrpathStack.go I2 ln rr cur stack segs := by
  induction segs with
  | nil => intro cur stack _; rfl
  | cons seg more ih =>
    intro cur stack hcur
    have hseg : seg ∈ T := hs seg (by simp)
    have hvs := within_values hcur
    cases more with
    | nil =>
      simp only [walkAttrpathStack.go]
      rw [findNamedBinding_agree hA (some ln) hvs hseg]
    | cons s2 more2 =>
      simp only [walkAttrpathStack.go]
      rw [findNamedBinding_agree hA (some true) hvs hseg]
      cases hf : @findNamedBinding I2 cur.setValues seg (some true) with
      | none => rfl
      | some b =>
        exact bindValue_set_rel rfl fun v hv =>
          ih (fun s h => hs s (by simp [h])) _ _ (within_value (find?_within hvs hf) hv)

theorem walkAttrpathStack_agree (ts : Node) (segs : List Text) (ln rr : Bool)
    (hts : Within T ts) (hs : ∀ s ∈ segs, s ∈ T) :
    @walkAttrpathStack I1 ts segs ln rr = @walkAttrpathStack I2 ts segs ln rr := by
  unfold walkAttrpathStack
  cases segs with
  | nil => rfl
  | cons root rest =>
    cases rest with
    | nil => rfl
    | cons s2 rest2 =>
      have hvs := within_values hts
      simp only []
      rw [findAttrpathRoot_agree hA hvs (hs root (by simp))]
      cases hf : @findAttrpathRoot I2 ts.setValues root with
      | none => rfl
      | some rootB =>
        exact bindValue_set_rel rfl fun v hv =>
          walkGo_agree hA ln rr _ (fun s h => hs s (by simp [h])) _ _ (within_value (find?_within hvs hf) hv)

theorem findAttrpathLeaf_agree (ts : Node) (segs : List Text)
    (hts : Within T ts) (hs : ∀ s ∈ segs, s ∈ T) :
    @findAttrpathLeaf I1 ts segs = @findAttrpathLeaf I2 ts segs := by
  unfold findAttrpathLeaf
  rw [walkAttrpathStack_agree hA ts segs false false hts hs]

/-- a key all of whose readings are in `T`: the key itself and, when `AttributeSet.__getitem__`
    reads it as a dotted path, its segments -/
def KeyOK (T : List Text) (key : Text) : Prop :=
  key ∈ T ∧ ∀ segs, splitAttrpath key = .ok segs → ∀ s ∈ segs, s ∈ T

/-- the two results are the same, and a node returned is within `T` -/
def SameWithin (T : List Text) (r1 r2 : Except Err Node) : Prop :=
  r1 = r2 ∧ ∀ v, r2 = .ok v → Within T v

omit hA in
theorem SameWithin.error (T : List Text) (e : Err) : SameWithin T (.error e) (.error e) :=
  ⟨rfl, fun _ h => nomatch h⟩

omit hA in
theorem SameWithin.ok {T : List Text} {v : Node} (h : Within T v) : SameWithin T (.ok v) (.ok v) :=
  ⟨rfl, fun _ h' => by cases h'; exact h⟩

theorem getWalk_agree (segs : List Text) (hs : ∀ s ∈ segs, s ∈ T) :
    ∀ cur : Node, Within T cur →
      SameWithin T (@setGetItem.walk I1 cur segs) (@setGetItem.walk I2 cur segs) := by
  induction segs with
  | nil => intro cur _; exact .error T _
  | cons seg more ih =>
    intro cur hcur
    have hvs := within_values hcur
    have hseg : seg ∈ T := hs seg (by simp)
    cases more with
    | nil =>
      simp only [setGetItem.walk]
      rw [findBinding_agree hA hvs hseg]
      cases hf : @findBinding I2 cur.setValues seg with
      | none => exact .error T _
      | some b =>
        dsimp only
        cases hv : b.bindValue? with
        | none => exact .error T _
        | some v => exact .ok (within_value (find?_within hvs hf) hv)
    | cons s2 more2 =>
      simp only [setGetItem.walk]
      rw [findBinding_agree hA hvs hseg]
      cases hf : @findBinding I2 cur.setValues seg with
      | none => exact .error T _
      | some b =>
        exact bindValue_set_rel (.error T _) fun v hv =>
          ih (fun s h => hs s (by simp [h])) _ (within_value (find?_within hvs hf) hv)

theorem setGetItem_agree (s : Node) (key : Text) (hs : Within T s) (hk : KeyOK T key) :
    SameWithin T (@setGetItem I1 s key) (@setGetItem I2 s key) := by
  unfold setGetItem
  rw [findBinding_agree hA (within_values hs) hk.1]
  cases hf : @findBinding I2 s.setValues key with
  | some b =>
    dsimp only
    cases hv : b.bindValue? with
    | none => exact .error T _
    | some v => exact .ok (within_value (find?_within (within_values hs) hf) hv)
  | none =>
    simp only []
    split
    · exact .ok fun t ht => by rw [toks, List.mem_singleton] at ht; rw [ht]; exact hk.1
    · cases hsp : splitAttrpath key with
      | error e => exact .error T _
      | ok segs =>
        simp only []
        split
        · exact .error T _
        · exact getWalk_agree hA segs (hk.2 segs hsp) s hs

theorem pathGo_agree (segs : List Text) (hs : ∀ s ∈ segs, s ∈ T) :
    ∀ cur : Node, Within T cur →
      @pathExistsInAttrset.go I1 cur segs = @pathExistsInAttrset.go I2 cur segs := by
  induction segs with
  | nil => intro cur _; rfl
  | cons seg more ih =>
    intro cur hcur
    have hvs := within_values hcur
    have hseg : seg ∈ T := hs seg (by simp)
    cases more with
    | nil =>
      simp only [pathExistsInAttrset.go]
      rw [findNamedBinding_agree hA (some false) hvs hseg]
    | cons s2 more2 =>
      simp only [pathExistsInAttrset.go]
      rw [findNamedBinding_agree hA (some false) hvs hseg]
      cases hf : @findNamedBinding I2 cur.setValues seg (some false) with
      | none => rfl
      | some b =>
        exact bindValue_set_rel rfl fun v hv =>
          ih (fun s h => hs s (by simp [h])) _ (within_value (find?_within hvs hf) hv)

theorem pathExistsInAttrset_agree (ts : Node) (segs : List Text)
    (hts : Within T ts) (hs : ∀ s ∈ segs, s ∈ T) :
    @pathExistsInAttrset I1 ts segs = @pathExistsInAttrset I2 ts segs := by
  unfold pathExistsInAttrset
  rw [findAttrpathLeaf_agree hA ts segs hts hs, pathGo_agree hA segs hs ts hts]

/-! ### the state-keeping functions

Functions that return a node are compared in continuation-passing style: whatever node they hand to
the rest of the computation is within `T` again (a sub-node of the one they were given, or a fresh
empty set), so the rest agrees as well. -/

omit hA in
theorem em_bind_assoc {α β γ} (m : EditM α) (f : α → EditM β) (g : β → EditM γ) :
    (m >>= f) >>= g = m >>= fun a => f a >>= g := by
  funext d
  show bind' (bind' m f) g d = bind' m (fun a => bind' (f a) g) d
  unfold bind'
  cases h : m d with
  | mk r d' => cases r <;> simp

omit hA in
theorem em_bind_congr {α β} (m : EditM α) (f g : α → EditM β) (h : ∀ a, f a = g a) :
    m >>= f = m >>= g := by
  have : f = g := funext h
  rw [this]

theorem setAttrpathWalk_agree (segs : List Text) (hs : ∀ s ∈ segs, s ∈ T) :
    ∀ (cur : Node), Within T cur → ∀ {α : Type} (k1 k2 : Node → EditM α),
      (∀ n, Within T n → k1 n = k2 n) →
      (@setAttrpathWalk I1 cur segs >>= k1) = (@setAttrpathWalk I2 cur segs >>= k2) := by
  induction segs with
  | nil =>
    intro cur hcur α k1 k2 hk
    simp only [setAttrpathWalk]
    exact hk cur hcur
  | cons seg more ih =>
    intro cur hcur α k1 k2 hk
    have hvs := within_values hcur
    have hseg : seg ∈ T := hs seg (by simp)
    have hmore : ∀ s ∈ more, s ∈ T := fun s h => hs s (by simp [h])
    simp only [setAttrpathWalk]
    rw [findNamedBinding_agree hA (some true) hvs hseg, findNamedBinding_agree hA (some false) hvs hseg]
    cases hf : @findNamedBinding I2 cur.setValues seg (some true) with
    | some b =>
      exact bindValue_set_rel (R := fun m1 m2 => m1 >>= k1 = m2 >>= k2) rfl fun v hv =>
        ih hmore _ (within_value (find?_within hvs hf) hv) k1 k2 hk
    | none =>
      simp only []
      split
      · rfl
      · cases hsid : cur.setSid? with
        | none => rfl
        | some csid =>
          simp only [em_bind_assoc]
          apply em_bind_congr; intro sid
          apply em_bind_congr; intro bid
          apply em_bind_congr; intro _
          exact ih hmore _ (within_fresh_set T sid _ _) k1 k2 hk

theorem setSetItem_agree (s : Node) (key : Text) (v : Node) (hs : Within T s) (hk : key ∈ T) :
    @setSetItem I1 s key v = @setSetItem I2 s key v := by
  unfold setSetItem
  rw [findBinding_agree hA (within_values hs) hk]

theorem setDelItem_agree (s : Node) (key : Text) (hs : Within T s) (hk : key ∈ T) :
    @setDelItem I1 s key = @setDelItem I2 s key := by
  unfold setDelItem
  rw [findBinding_agree hA (within_values hs) hk]

theorem setAttrpathValue_agree (tsSid : Nat) (root : Node) (segs : List Text) (v : Node)
    (hroot : Within T root) (hs : ∀ s ∈ segs, s ∈ T) :
    @setAttrpathValue I1 tsSid root segs v = @setAttrpathValue I2 tsSid root segs v := by
  unfold setAttrpathValue
  refine bindValue_set_rel rfl fun rv hv => ?_
  apply setAttrpathWalk_agree hA _ (fun s h => hs s (List.mem_of_mem_drop (List.dropLast_subset _ h)))
    _ (within_value hroot hv)
  intro n hn
  cases hl : segs.getLast? with
  | none => rfl
  | some finalKey =>
    have hfk : finalKey ∈ T := hs _ (List.mem_of_getLast? hl)
    simp only []
    rw [findNamedBinding_agree hA (some true) (within_values hn) hfk,
      findNamedBinding_agree hA (some false) (within_values hn) hfk]

theorem removeAttrpathValue_agree (ts : Node) (segs : List Text)
    (hts : Within T ts) (hs : ∀ s ∈ segs, s ∈ T) :
    @removeAttrpathValue I1 ts segs = @removeAttrpathValue I2 ts segs := by
  unfold removeAttrpathValue
  rw [walkAttrpathStack_agree hA ts segs false true hts hs]

theorem resolveParentWalk_agree (cm : Bool) (keys : List Text) (hs : ∀ k ∈ keys, KeyOK T k) :
    ∀ (cur : Node), Within T cur → ∀ {α : Type} (k1 k2 : Node → EditM α),
      (∀ n, Within T n → k1 n = k2 n) →
      (@resolveParentWalk I1 cm cur keys >>= k1) = (@resolveParentWalk I2 cm cur keys >>= k2) := by
  induction keys with
  | nil =>
    intro cur hcur α k1 k2 hk
    simp only [resolveParentWalk]
    exact hk cur hcur
  | cons key more ih =>
    intro cur hcur α k1 k2 hk
    have hkey := hs key (by simp)
    have hmore : ∀ k ∈ more, KeyOK T k := fun k h => hs k (by simp [h])
    simp only [resolveParentWalk]
    obtain ⟨hget, hwithin⟩ := setGetItem_agree hA cur key hcur hkey
    rw [hget]
    cases hg : @setGetItem I2 cur key with
    | ok v =>
      have hv : Within T v := hwithin v hg
      cases v <;> try rfl
      exact ih hmore _ hv k1 k2 hk
    | error e =>
      simp only []
      split
      · rfl
      · cases hsid : cur.setSid? with
        | none => rfl
        | some csid =>
          simp only [em_bind_assoc]
          apply em_bind_congr; intro sid
          rw [setSetItem_agree hA cur key _ hcur hkey.1]
          apply em_bind_congr; intro _
          exact ih hmore _ (within_fresh_set T sid _ _) k1 k2 hk

theorem assignExisting_agree (ts parent : Node) (wl : Bool) (b v : Node)
    (hparent : Within T parent) (hb : Within T b) :
    @assignExisting I1 ts parent wl b v = @assignExisting I2 ts parent wl b v := by
  unfold assignExisting
  cases hid : b.bindId? with
  | none => rfl
  | some bid =>
    cases hv : b.bindValue? with
    | none => rfl
    | some val =>
      cases val <;> try rfl
      rename_i targetName
      have htn : targetName ∈ T := within_ident (within_value hb hv)
      simp only [findBinding_agree hA (within_values hparent) htn]

/-- every segment `_format_npath_segments` makes of the path text is a key within `T` -/
def PathOK (T : List Text) (npath : Text) : Prop :=
  ∀ segs, formatNPath currentAnchor npath = .ok segs → ∀ s ∈ segs, KeyOK T s

/-- the last step of `_set_value_in_attrset`: assign to the binding `parent` has for the key, or insert -/
theorem assignOrInsert_agree (ts parent : Node) (wl : Bool) (key : Text) (v : Node)
    (hparent : Within T parent) (hk : key ∈ T) :
    @finalSet I1 ts parent wl key v = @finalSet I2 ts parent wl key v := by
  have hpv := within_values hparent
  unfold finalSet
  rw [findBinding_agree hA hpv hk]
  cases hb : @findBinding I2 parent.setValues key with
  | some b => exact assignExisting_agree hA ts parent wl b v hparent (find?_within hpv hb)
  | none => exact setSetItem_agree hA parent key v hparent hk

theorem setValueInAttrset_agree (ts : Node) (wl : Bool) (npath : Text) (v : Node)
    (hts : Within T ts) (hp : PathOK T npath) :
    @setValueInAttrset I1 ts wl npath v = @setValueInAttrset I2 ts wl npath v := by
  unfold setValueInAttrset
  cases hf : formatNPath currentAnchor npath with
  | error e => rfl
  | ok segs =>
    have hk := hp segs hf
    have hsT : ∀ s ∈ segs, s ∈ T := fun s h => (hk s h).1
    cases segs with
    | nil => rfl
    | cons seg0 segRest =>
      cases hsid : ts.setSid? with
      | none => rfl
      | some tsSid =>
        have hvs := within_values hts
        have h0 : seg0 ∈ T := hsT seg0 (by simp)
        simp only []
        rw [findAttrpathLeaf_agree hA ts _ hts hsT, findAttrpathRoot_agree hA hvs h0]
        cases hl : @findAttrpathLeaf I2 ts (seg0 :: segRest) with
        | some leaf => rfl
        | none =>
          simp only []
          refine ite_congr rfl (fun _ => ?_) fun _ => ?_
          · exact ite_congr rfl (fun _ => rfl) fun _ => assignOrInsert_agree hA ts ts wl seg0 v hts h0
          · cases hr : @findAttrpathRoot I2 ts.setValues seg0 with
            | some root =>
              have hrw : Within T root := find?_within hvs hr
              exact setAttrpathValue_agree hA tsSid root _ v hrw hsT
            | none =>
              simp only []
              apply resolveParentWalk_agree hA true _
                (fun k h => hk k (List.dropLast_subset _ h)) ts hts
              intro parent hparent
              cases hlast : (seg0 :: segRest).getLast? with
              | none => rfl
              | some finalKey =>
                exact assignOrInsert_agree hA ts parent wl finalKey v hparent
                  (hsT _ (List.mem_of_getLast? hlast))

theorem removeValueInAttrset_agree (ts : Node) (npath : Text)
    (hts : Within T ts) (hp : PathOK T npath) :
    @removeValueInAttrset I1 ts npath = @removeValueInAttrset I2 ts npath := by
  unfold removeValueInAttrset
  cases hf : formatNPath currentAnchor npath with
  | error e => rfl
  | ok segs =>
    have hk := hp segs hf
    have hsT : ∀ s ∈ segs, s ∈ T := fun s h => (hk s h).1
    cases segs with
    | nil => rfl
    | cons seg0 segRest =>
      have hvs := within_values hts
      have h0 : seg0 ∈ T := hsT seg0 (by simp)
      simp only []
      rw [findAttrpathLeaf_agree hA ts _ hts hsT, findAttrpathRoot_agree hA hvs h0,
        findBinding_agree hA hvs h0]
      -- the lookups agree, so both sides take the same branch; compare branch by branch
      refine ite_congr rfl (fun _ => removeAttrpathValue_agree hA ts _ hts hsT) fun _ => ?_
      refine ite_congr rfl (fun _ => ?_) fun _ => ?_
      · refine ite_congr rfl (fun _ => rfl) fun _ => ?_
        exact ite_congr rfl (fun _ => rfl) fun _ => setDelItem_agree hA ts seg0 hts h0
      · refine ite_congr rfl (fun _ => removeAttrpathValue_agree hA ts _ hts hsT) fun _ => ?_
        apply resolveParentWalk_agree hA false _
          (fun k h => hk k (List.dropLast_subset _ h)) ts hts
        intro parent hparent
        cases hlast : (seg0 :: segRest).getLast? with
        | none => rfl
        | some finalKey =>
          exact setDelItem_agree hA parent finalKey hparent (hsT _ (List.mem_of_getLast? hlast))

/-! ### scope layers and the two entry points -/

/-- the tokens of the target set and of every scope layer are in `T` -/
structure DocWithin (T : List Text) (d : Doc) : Prop where
  target : Within T d.target
  scope : WithinL T d.scope
  stack : ∀ l ∈ d.stack, WithinL T l.scope

omit hA in
theorem within_layerAsSet {sid : Nat} {l : Layer} (h : WithinL T l.scope) : Within T (layerAsSet sid l) := by
  intro t ht
  exact h t (by simpa [layerAsSet, toks] using ht)

omit hA in
theorem collect_within {d : Doc} (hd : DocWithin T d) : ∀ l ∈ collectScopeLayers d, WithinL T l.scope := by
  intro l hl
  unfold collectScopeLayers at hl
  rcases List.mem_append.mp hl with h | h
  · split at h
    · cases h
    · simp only [List.mem_singleton] at h
      subst h
      exact hd.scope
  · exact hd.stack l (List.mem_filter.mp h).1

omit hA in
theorem onLayer_congr (layers : List Layer) (fd : Bool) (idx : Nat) (op1 op2 : Node → EditM Unit)
    (h : ∀ l, layers[idx]? = some l → ∀ sid, op1 (layerAsSet sid l) = op2 (layerAsSet sid l)) :
    onLayer layers fd idx op1 = onLayer layers fd idx op2 := by
  funext d
  cases hl : layers[idx]? with
  | none => rw [onLayer_none hl, onLayer_none hl]
  | some l => rw [onLayer_some hl, onLayer_some hl, h l hl]

theorem onLayer_set_agree (layers : List Layer) (fd : Bool) (idx : Nat) (p : Text) (v : Node)
    (hl : ∀ l ∈ layers, WithinL T l.scope) (hp : PathOK T p) :
    onLayer layers fd idx (fun s => @setValueInAttrset I1 s false p v) =
      onLayer layers fd idx (fun s => @setValueInAttrset I2 s false p v) := by
  apply onLayer_congr
  intro l hget sid
  exact setValueInAttrset_agree hA _ false p v (within_layerAsSet (hl l (List.mem_of_getElem? hget))) hp

theorem onLayer_rm_agree (layers : List Layer) (fd : Bool) (idx : Nat) (p : Text)
    (hl : ∀ l ∈ layers, WithinL T l.scope) (hp : PathOK T p) :
    onLayer layers fd idx (fun s => @removeValueInAttrset I1 s p) =
      onLayer layers fd idx (fun s => @removeValueInAttrset I2 s p) := by
  apply onLayer_congr
  intro l hget sid
  exact removeValueInAttrset_agree hA _ p (within_layerAsSet (hl l (List.mem_of_getElem? hget))) hp

theorem setValue_agree (npath : Text) (value : ValueArg) (d : Doc)
    (hd : DocWithin T d) (hp : PathOK T (scopeRest npath)) :
    @setValue I1 npath value d = @setValue I2 npath value d := by
  cases value with
  | empty => rfl
  | invalid => rfl
  | one v =>
    rw [@setValue_one I1, @setValue_one I2]
    refine dispatch_congr d (fun depth _ => ?_) fun hr => ?_
    · unfold setScoped
      dsimp only
      rw [setValueInAttrset_agree hA d.target true (scopeRest npath) v hd.target hp]
      by_cases hc : ((collectScopeLayers d).isEmpty && depth == 1) = true
      · simp only [if_pos hc]
        cases hfmt : formatNPath currentAnchor (scopeRest npath) with
        | error e => rfl
        | ok segs =>
          dsimp only
          rw [pathExistsInAttrset_agree hA d.target segs hd.target (fun s h => (hp segs hfmt s h).1)]
          by_cases hpe : @pathExistsInAttrset I2 d.target segs = true
          · simp only [if_pos hpe]
          · simp only [if_neg hpe]
            rw [onLayer_set_agree hA _ false _ (scopeRest npath) v
              (by intro l hl; simp only [List.mem_singleton] at hl; subst hl; intro t ht; simp [toksL] at ht) hp]
      · simp only [if_neg hc]
        rw [onLayer_set_agree hA _ true _ (scopeRest npath) v (collect_within hd) hp]
    · rw [splitScopeNpath_none npath (route_plain hr).2] at hp
      exact congrFun (setValueInAttrset_agree hA d.target true npath v hd.target hp) d

theorem removeValue_agree (npath : Text) (d : Doc)
    (hd : DocWithin T d) (hp : PathOK T (scopeRest npath)) :
    @removeValue I1 npath d = @removeValue I2 npath d := by
  rw [@removeValue_eq I1, @removeValue_eq I2]
  refine dispatch_congr d (fun depth _ => ?_) fun hr => ?_
  · unfold removeScoped
    dsimp only
    rw [onLayer_rm_agree hA (collectScopeLayers d) true _ (scopeRest npath) (collect_within hd) hp]
  · rw [splitScopeNpath_none npath (route_plain hr).2] at hp
    exact congrFun (removeValueInAttrset_agree hA d.target npath hd.target hp) d

end

/-! ### the code's comparison against comparison by spelling -/

/-- no two tokens of `T` are different spellings of one name (decidable) -/
def NoSpellingClash (T : List Text) : Prop := ∀ a ∈ T, ∀ b ∈ T, sameName a b = true → a = b

instance (T : List Text) : Decidable (NoSpellingClash T) := by
  unfold NoSpellingClash; infer_instance

theorem agree_of_noSpellingClash {T : List Text} (h : NoSpellingClash T) :
    Agree NameCmp.model NameCmp.spelled T := by
  intro a ha b hb
  show sameName a b = (a == b)
  by_cases hab : a = b
  · subst hab; simp [sameName_refl]
  · have e : (a == b) = false := by simpa using hab
    rw [e]
    cases hs : sameName a b with
    | false => rfl
    | true => exact absurd (h a ha b hb hs) hab

/-- the name tokens of a document: target set and scope layers -/
def docToks (d : Doc) : List Text :=
  toks d.target ++ (toksL d.scope ++ d.stack.flatMap (fun l => toksL l.scope))

/-- a key and, where `AttributeSet.__getitem__` reads it as a dotted path, its segments -/
def keyToks (k : Text) : List Text :=
  k :: (match splitAttrpath k with | .ok segs => segs | .error _ => [])

/-- the keys `set`/`rm` make of a path text -/
def pathToks (npath : Text) : List Text :=
  match formatNPath currentAnchor (scopeRest npath) with
  | .ok segs => segs.flatMap keyToks
  | .error _ => []

/-- THE side condition under which the by-spelling theorems speak of the repaired code: among the
    name tokens of the document and the keys of the path, no two are different spellings of one
    Nix name. Decidable; true of every input on which the code before the repair of C12-spelling
    did what Nix expects. -/
def noSpellingClash (d : Doc) (npath : Text) : Prop := NoSpellingClash (docToks d ++ pathToks npath)

instance (d : Doc) (npath : Text) : Decidable (noSpellingClash d npath) := by
  unfold noSpellingClash; infer_instance

theorem docWithin_docToks (d : Doc) (X : List Text) : DocWithin (docToks d ++ X) d := by
  refine ⟨?_, ?_, ?_⟩
  · intro t ht; simp [docToks, ht]
  · intro t ht; simp [docToks, ht]
  · intro l hl t ht
    simp only [docToks, List.mem_append, List.mem_flatMap]
    exact Or.inl (Or.inr (Or.inr ⟨l, hl, ht⟩))

theorem keyOK_keyToks (k : Text) (Tk : List Text) (h : ∀ t ∈ keyToks k, t ∈ Tk) : KeyOK Tk k := by
  refine ⟨h k (by simp [keyToks]), ?_⟩
  intro segs hsp s hs
  exact h s (by simp [keyToks, hsp, hs])

theorem pathOK_pathToks (npath : Text) (X : List Text) : PathOK (X ++ pathToks npath) (scopeRest npath) := by
  intro segs hf s hs
  apply keyOK_keyToks
  intro t ht
  simp only [List.mem_append, pathToks, hf, List.mem_flatMap]
  exact Or.inr ⟨s, hs, ht⟩

/-- `set_value` of the repaired code is `set_value` with comparison by spelling wherever there is
    no spelling clash. -/
theorem setValue_model_eq_spelled (npath : Text) (value : ValueArg) (d : Doc)
    (h : noSpellingClash d npath) :
    @setValue NameCmp.model npath value d = @setValue NameCmp.spelled npath value d :=
  setValue_agree (agree_of_noSpellingClash h) npath value d (docWithin_docToks d _) (pathOK_pathToks npath _)

/-- the same for `remove_value` -/
theorem removeValue_model_eq_spelled (npath : Text) (d : Doc) (h : noSpellingClash d npath) :
    @removeValue NameCmp.model npath d = @removeValue NameCmp.spelled npath d :=
  removeValue_agree (agree_of_noSpellingClash h) npath d (docWithin_docToks d _) (pathOK_pathToks npath _)

/-- the mapping API on one set object -/
theorem mapping_model_eq_spelled (s : Node) (key : Text) (v : Node)
    (h : NoSpellingClash (toks s ++ keyToks key)) :
    @setGetItem NameCmp.model s key = @setGetItem NameCmp.spelled s key ∧
    @setSetItem NameCmp.model s key v = @setSetItem NameCmp.spelled s key v ∧
    @setDelItem NameCmp.model s key = @setDelItem NameCmp.spelled s key := by
  have hA := agree_of_noSpellingClash h
  have hs : Within (toks s ++ keyToks key) s := fun t ht => by simp [ht]
  have hk : KeyOK (toks s ++ keyToks key) key := keyOK_keyToks key _ (fun t ht => by simp [ht])
  exact ⟨(setGetItem_agree hA s key hs hk).1, setSetItem_agree hA s key v hs hk.1, setDelItem_agree hA s key hs hk.1⟩

/-! non-vacuity: the side condition is decided on closed inputs, and fails exactly on the repaired
defect's inputs -/

/-- `{ a = 1; "c d" = 2; }` -/
def exDoc : Doc :=
  { target := .set 0 [.bind 1 "a".toList false (.atom "1".toList) [] [],
                      .bind 2 "\"c d\"".toList false (.atom "2".toList) [] []] [] true false }

example : ¬ noSpellingClash exDoc "\"a\"".toList := by decide +kernel
example : NoSpellingClash (["a", "\"c d\"", "b", "\"x y\"", "foo-bar", "\"a${x}\"", "\"a\\${x}\""].map String.toList) := by
  decide +kernel
example : ¬ NoSpellingClash (["a", "\"a\""].map String.toList) := by decide +kernel
example : ¬ NoSpellingClash (["foo-bar", "\"foo-bar\""].map String.toList) := by decide +kernel
example : ¬ NoSpellingClash (["\"c d\"", "\"c\\ d\""].map String.toList) := by decide +kernel

end Nima.NameAgree
