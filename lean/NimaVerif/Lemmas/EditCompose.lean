import NimaVerif.Lemmas.EditPlain
/-!
Composition of plain edits: lookups see through identity updates; set;set, set;rm, set/set on
distinct bindings, rm;set. Used by C19.
-/
namespace Nima
-- name tokens are compared by spelling in this file (see `NameCmp` in Model/Edit.lean)
attribute [local instance] NameCmp.spelled
open Node

/-! ## lookups see through a write to a Binding object -/

theorem findAttrpathRoot_updBindL (id : Nat) (v : Node) (l : List Node) (k : Text) :
    findAttrpathRoot (updBindL id v l) k = (findAttrpathRoot l k).map (updBind id v) :=
  find?_updBindL id v _ (by intro x; simp) l

theorem findNamedBinding_updBindL (id : Nat) (v : Node) (l : List Node) (k : Text) (ne : Option Bool) :
    findNamedBinding (updBindL id v l) k ne = (findNamedBinding l k ne).map (updBind id v) :=
  find?_updBindL id v _ (by intro x; simp) l

theorem isIdent_updBind (id : Nat) (v n : Node) : (updBind id v n).isIdent = n.isIdent := by
  cases n <;> simp only [updBind] <;> (try split) <;> rfl

/-! ## lookups in `values ++ [new binding]` -/

theorem findAttrpathRoot_append_plain (vs : List Node) (k : Text) (j : Nat) (nm : Text) (v : Node)
    (b a : Payload) (h : findAttrpathRoot vs k = none) :
    findAttrpathRoot (vs ++ [.bind j nm false v b a]) k = none := by
  simp only [findAttrpathRoot_spelled] at *
  rw [List.find?_append, h]
  simp only [Option.none_or, List.find?_cons, List.find?_nil, isBind, bindNested, Bool.and_false,
    Bool.false_and]


/-! ## `set` twice -/

/-- `set p v` twice = once, existing plain binding whose old and new values are not references -/
theorem set_set_idem_existing (d : Doc) (p k : Text) (v : Node) (bid : Nat) (nm : Text) (ne : Bool)
    (val : Node) (bf af : Payload)
    (hnt : d.noTarget = none) (hsp : splitScopeNpath p = .ok none)
    (hf : formatNPath currentAnchor p = .ok [k])
    (hr : findAttrpathRoot d.target.setValues k = none)
    (hb : findBinding d.target.setValues k = some (.bind bid nm ne val bf af))
    (hval : val.isIdent = false) (hv : v.isIdent = false) :
    setValue p (.one v) (setValue p (.one v) d).2 = setValue p (.one v) d := by
  rw [set_existing_plain d p k v bid nm ne val bf af hnt hsp hf hr hb hval]
  have hr' : findAttrpathRoot (d.updBind bid v).target.setValues k = none := by
    simp [findAttrpathRoot_updBindL, hr]
  have hb' : findBinding (d.updBind bid v).target.setValues k = some (.bind bid nm ne v bf af) := by
    simp [findBinding_updBindL, hb, updBind]
  rw [set_existing_plain (d.updBind bid v) p k v bid nm ne v bf af (by simpa using hnt) hsp hf hr' hb' hv,
    Doc.updBind_idem]

mutual
theorem updBind_updSet_appendNew (j sid : Nat) (k : Text) (v : Node) :
    ∀ n : Node, hasBind j n = false →
      updBind j v (updSet sid (appendBothF (.bind j k false v [] [])) n) =
        updSet sid (appendBothF (.bind j k false v [] [])) n
  | .atom _, _ => by simp [updSet, updBind]
  | .ident _, _ => by simp [updSet, updBind]
  | .set s vs o m r, h => by
      simp only [hasBind, Bool.or_eq_false_iff] at h
      by_cases hs : s = sid
      · simp only [updSet, hs, if_true, appendBothF, updBind]
        have e1 := updBindL_of_not_hasBind j v vs h.1
        have e2 := updBindL_of_not_hasBind j v o h.2
        split <;> simp [updBindL_append, e1, e2, updBindL, updBind]
      · simp [updSet, hs, updBind, updBindL_updSetL_appendNew j sid k v vs h.1,
          updBindL_updSetL_appendNew j sid k v o h.2]
  | .bind i n ne val b a, h => by
      simp only [hasBind, Bool.or_eq_false_iff, beq_eq_false_iff_ne, ne_eq] at h
      simp [updSet, updBind, h.1, updBind_updSet_appendNew j sid k v val h.2]
  | .inherit _ _, _ => by simp [updSet, updBind]
  | .entry segs leaf b a, h => by
      simp only [hasBind] at h
      simp [updSet, updBind, updBind_updSet_appendNew j sid k v leaf h]
theorem updBindL_updSetL_appendNew (j sid : Nat) (k : Text) (v : Node) :
    ∀ l : List Node, hasBindL j l = false →
      updBindL j v (updSetL sid (appendBothF (.bind j k false v [] [])) l) =
        updSetL sid (appendBothF (.bind j k false v [] [])) l
  | [], _ => rfl
  | x :: xs, h => by
      simp only [hasBindL, Bool.or_eq_false_iff] at h
      simp [updSetL, updBindL, updBind_updSet_appendNew j sid k v x h.1,
        updBindL_updSetL_appendNew j sid k v xs h.2]
end

/-- in the document a fresh single-segment `set k v` leaves, `k` is bound (last) to the new object -/
theorem set_fresh_then (d : Doc) (k : Text) (v : Node) (sid : Nat) (hnt : d.noTarget = none)
    (hs : d.target.setSid? = some sid) (hr : findAttrpathRoot d.target.setValues k = none)
    (hb : findBinding d.target.setValues k = none) {d1 : Doc}
    (hd1 : { d.updSet sid (appendBothF (.bind d.next k false v [] [])) with next := d.next + 1 } = d1) :
    d1.noTarget = none ∧ d1.target.setSid? = some sid ∧
      findAttrpathRoot d1.target.setValues k = none ∧
      findBinding d1.target.setValues k = some (.bind d.next k false v [] []) := by
  obtain ⟨vs, o, m, r, ht⟩ := setSid_some _ _ hs
  simp only [ht, setValues] at hr hb
  have htg : d1.target = .set sid (vs ++ [.bind d.next k false v [] []])
      (if o.isEmpty then o else o ++ [.bind d.next k false v [] []]) m r := by
    subst hd1; simp [ht, updSet, appendBothF]
  rw [htg]
  exact ⟨by subst hd1; exact hnt, rfl, findAttrpathRoot_append_plain vs k _ _ _ _ _ hr,
    findBinding_append_new vs _ k rfl rfl hb⟩

/-- `set p v` twice = once, fresh single-segment path -/
theorem set_set_idem_fresh (d : Doc) (p k : Text) (v : Node) (sid : Nat)
    (hnt : d.noTarget = none) (hsp : splitScopeNpath p = .ok none)
    (hf : formatNPath currentAnchor p = .ok [k])
    (hs : d.target.setSid? = some sid)
    (hr : findAttrpathRoot d.target.setValues k = none)
    (hb : findBinding d.target.setValues k = none)
    (hfresh : d.hasBind d.next = false) (hv : v.isIdent = false) :
    setValue p (.one v) (setValue p (.one v) d).2 = setValue p (.one v) d := by
  rw [set_fresh_plain d p k v sid hnt hsp hf hs hr hb]
  generalize hd1 : ({ d.updSet sid (appendBothF (.bind d.next k false v [] [])) with next := d.next + 1 } : Doc) = d1
  obtain ⟨hnt', _, hr', hb'⟩ := set_fresh_then d k v sid hnt hs hr hb hd1
  rw [set_existing_plain d1 p k v d.next k false v [] [] hnt' hsp hf hr' hb' hv]
  congr 1
  subst hd1
  rw [Doc.updBind_eq_mapNodes, Doc.updSet_eq_mapNodes]
  show ({ (d.mapNodes _).mapNodes _ with next := d.next + 1 } : Doc) = _
  rw [Doc.mapNodes_mapNodes]
  rw [Doc.mapNodes_congr (_ ∘ _) _ d (fun x hx =>
    updBind_updSet_appendNew d.next sid k v x (Doc.not_hasBind_nodes hfresh x hx))]


/-! ## `set` then `rm` of a fresh name -/

theorem not_bindId_of_not_hasBindL {j : Nat} {l : List Node} (h : hasBindL j l = false) :
    ∀ x ∈ l, ¬ ((x.bindId? == some j) = true) := by
  rw [hasBindL_eq_any, List.any_eq_false] at h
  intro x hx hc
  have := h x hx
  cases x <;> simp_all [bindId?, hasBind]

theorem eraseP_append_new {l : List Node} {q : Node → Bool} {nb : Node}
    (h : ∀ x ∈ l, ¬ (q x = true)) (hq : q nb = true) : (l ++ [nb]).eraseP q = l := by
  rw [List.eraseP_append_right _ h]
  simp [hq]

/-- append-then-erase of a fresh Binding object is the identity on every copy of the set -/
theorem erase_append_fix (j : Nat) (k : Text) (v : Node) (s : Nat) (vs o : List Node) (m r : Bool)
    (h1 : hasBindL j vs = false) (h2 : hasBindL j o = false) :
    eraseBothF j (appendBothF (.bind j k false v [] []) (.set s vs o m r)) = .set s vs o m r := by
  simp only [appendBothF, eraseBothF]
  have e1 : (vs ++ [Node.bind j k false v [] []]).eraseP (fun n => n.bindId? == some j) = vs :=
    eraseP_append_new (not_bindId_of_not_hasBindL h1) (by simp [bindId?])
  rw [e1]
  cases o with
  | nil => simp
  | cons x xs =>
    have e2 : (x :: xs ++ [Node.bind j k false v [] []]).eraseP
        (fun n => n.isBind && n.bindId? == some j) = x :: xs :=
      eraseP_append_new (fun y hy hc => not_bindId_of_not_hasBindL h2 y hy (by simp_all))
        (by simp [bindId?, isBind])
    rw [List.cons_append] at e2
    simp [e2]

theorem updSet_erase_append_fix (j : Nat) (k : Text) (v : Node) (sid : Nat) (n : Node)
    (h : hasBind j n = false) :
    updSet sid (fun x => eraseBothF j (appendBothF (.bind j k false v [] []) x)) n = n := by
  apply updSet_eq_self sid _ (fun x => !hasBind j x)
  · intro s vs o m r hQ
    simp only [hasBind, Bool.not_eq_true', Bool.or_eq_false_iff] at hQ
    refine ⟨fun _ => erase_append_fix j k v s vs o m r hQ.1 hQ.2, ?_, ?_⟩
    · intro x hx
      have := hQ.1; rw [hasBindL_eq_any, List.any_eq_false] at this
      simpa using this x hx
    · intro x hx
      have := hQ.2; rw [hasBindL_eq_any, List.any_eq_false] at this
      simpa using this x hx
  · intro i n ne v b a hQ
    simp only [hasBind, Bool.not_eq_true', Bool.or_eq_false_iff] at hQ
    simpa using hQ.2
  · intro sg l b a hQ
    simpa [hasBind] using hQ
  · simpa using h

theorem appendBothF_sid (b : Node) (sid : Nat) (vs o : List Node) (m r : Bool) :
    (appendBothF b (.set sid vs o m r)).setSid? = some sid := rfl

/-- `rm p` after `set p v` on a fresh single-segment path gives the document back (up to `next`) -/
theorem set_rm_restores_fresh (d : Doc) (p k : Text) (v : Node) (sid : Nat)
    (hnt : d.noTarget = none) (hsp : splitScopeNpath p = .ok none)
    (hf : formatNPath currentAnchor p = .ok [k])
    (hs : d.target.setSid? = some sid)
    (hr : findAttrpathRoot d.target.setValues k = none)
    (hb : findBinding d.target.setValues k = none)
    (hfresh : d.hasBind d.next = false) :
    removeValue p (setValue p (.one v) d).2 = (.ok (), { d with next := d.next + 1 }) := by
  rw [set_fresh_plain d p k v sid hnt hsp hf hs hr hb]
  generalize hd1 : ({ d.updSet sid (appendBothF (.bind d.next k false v [] [])) with next := d.next + 1 } : Doc) = d1
  obtain ⟨hnt', hs', hr', hb'⟩ := set_fresh_then d k v sid hnt hs hr hb hd1
  rw [rm_plain d1 p k d.next k false v [] [] sid hnt' hsp hf hs' hr' hb']
  congr 1
  subst hd1
  show ({ (d.updSet sid _).updSet sid _ with next := d.next + 1 } : Doc) = _
  rw [Doc.updSet_fuse sid _ _ (appendBothF_sid _ sid), Doc.updSet_eq_mapNodes,
    Doc.mapNodes_eq_self _ d (fun x hx =>
      updSet_erase_append_fix d.next k v sid x (Doc.not_hasBind_nodes hfresh x hx))]

/-! ## two `set`s -/

/-- two `set`s on distinct existing plain bindings commute -/
theorem set_comm_existing (d : Doc) (p q kp kq : Text) (v w : Node)
    (bp : Nat) (nmp : Text) (nep : Bool) (valp : Node) (bfp afp : Payload)
    (bq : Nat) (nmq : Text) (neq : Bool) (valq : Node) (bfq afq : Payload)
    (hnt : d.noTarget = none)
    (hspp : splitScopeNpath p = .ok none) (hfp : formatNPath currentAnchor p = .ok [kp])
    (hspq : splitScopeNpath q = .ok none) (hfq : formatNPath currentAnchor q = .ok [kq])
    (hrp : findAttrpathRoot d.target.setValues kp = none)
    (hrq : findAttrpathRoot d.target.setValues kq = none)
    (hbp : findBinding d.target.setValues kp = some (.bind bp nmp nep valp bfp afp))
    (hbq : findBinding d.target.setValues kq = some (.bind bq nmq neq valq bfq afq))
    (hvalp : valp.isIdent = false) (hvalq : valq.isIdent = false)
    (hne : bp ≠ bq) (hv : hasBind bq v = false) (hw : hasBind bp w = false) :
    setValue q (.one w) (setValue p (.one v) d).2 = (.ok (), (d.updBind bp v).updBind bq w) ∧
    setValue p (.one v) (setValue q (.one w) d).2 = (.ok (), (d.updBind bp v).updBind bq w) := by
  rw [set_existing_plain d p kp v bp nmp nep valp bfp afp hnt hspp hfp hrp hbp hvalp,
    set_existing_plain d q kq w bq nmq neq valq bfq afq hnt hspq hfq hrq hbq hvalq]
  constructor
  · have hr' : findAttrpathRoot (d.updBind bp v).target.setValues kq = none := by
      simp [findAttrpathRoot_updBindL, hrq]
    have hb' : findBinding (d.updBind bp v).target.setValues kq =
        some (.bind bq nmq neq (updBind bp v valq) bfq afq) := by
      simp [findBinding_updBindL, hbq, updBind, Ne.symm hne]
    exact set_existing_plain (d.updBind bp v) q kq w bq nmq neq _ bfq afq (by simpa using hnt) hspq hfq hr' hb'
      (by rw [isIdent_updBind]; exact hvalq)
  · have hr' : findAttrpathRoot (d.updBind bq w).target.setValues kp = none := by
      simp [findAttrpathRoot_updBindL, hrp]
    have hb' : findBinding (d.updBind bq w).target.setValues kp =
        some (.bind bp nmp nep (updBind bq w valp) bfp afp) := by
      simp [findBinding_updBindL, hbp, updBind, hne]
    rw [set_existing_plain (d.updBind bq w) p kp v bp nmp nep _ bfp afp (by simpa using hnt) hspp hfp hr' hb'
      (by rw [isIdent_updBind]; exact hvalp)]
    rw [Doc.updBind_comm bq bp w v (Ne.symm hne) hw hv]

/-! ## `rm` then `set` -/

theorem find?_eraseP_none {α} (p q : α → Bool) : ∀ (l : List α), l.find? p = none → (l.eraseP q).find? p = none := by
  intro l h
  rw [List.find?_eq_none] at h ⊢
  intro x hx
  exact h x (List.mem_of_mem_eraseP hx)

/-- `rm k` then `set k val` with the removed value: the name is bound to the value again — as a NEW
    binding at the end of the set, with empty trivia. -/
theorem rm_set_rebinds (d : Doc) (p k : Text) (bid : Nat) (nm : Text) (ne : Bool)
    (val : Node) (bf af : Payload) (sid : Nat) (vs o : List Node) (m r : Bool)
    (hnt : d.noTarget = none) (hsp : splitScopeNpath p = .ok none)
    (hf : formatNPath currentAnchor p = .ok [k])
    (ht : d.target = .set sid vs o m r)
    (hr : findAttrpathRoot vs k = none)
    (hb : findBinding vs k = some (.bind bid nm ne val bf af))
    (hone : d.sidElsewhere sid = false)
    (huniq : findBinding (vs.eraseP fun n => n.bindId? == some bid) k = none) :
    setValue p (.one val) (removeValue p d).2 =
      (.ok (), { d with
        target := .set sid ((vs.eraseP fun n => n.bindId? == some bid) ++ [.bind d.next k false val [] []])
          (if (if o.isEmpty then o else o.eraseP fun n => n.isBind && n.bindId? == some bid).isEmpty
           then (if o.isEmpty then o else o.eraseP fun n => n.isBind && n.bindId? == some bid)
           else (if o.isEmpty then o else o.eraseP fun n => n.isBind && n.bindId? == some bid) ++
             [.bind d.next k false val [] []]) m r
        next := d.next + 1 }) := by
  rw [rm_frame d p k bid nm ne val bf af sid vs o m r hnt hsp hf ht hr hb hone]
  dsimp only
  have key := set_fresh_frame
    { d with target := (.set sid (vs.eraseP fun n => n.bindId? == some bid)
        (if o.isEmpty then o else o.eraseP fun n => n.isBind && n.bindId? == some bid) m r) }
    p k val sid _ _ m r hnt hsp hf rfl
    (find?_eraseP_none _ _ vs hr) huniq (by simpa [Doc.sidElsewhere] using hone)
  dsimp only at key
  rw [key]

end Nima
