import NimaVerif.Lemmas.FragNFParse
/-! One-line containers hold no layout marker: the second half of the exclusion of the spacing theorem
always holds for what `Cst.parse` builds. Core Lean only. -/
namespace Nima.Frag
open Nima

/-! ### trivia lists without layout marker -/

def noLayout (ts : List Trivia) : Prop := ∀ t ∈ ts, t.isLayout = false

theorem noLayout_nil : noLayout [] := by intro t h; cases h
theorem noLayout_append {a b : List Trivia} : noLayout (a ++ b) ↔ noLayout a ∧ noLayout b := by
  constructor
  · intro h; exact ⟨fun t ht => h t (List.mem_append_left _ ht), fun t ht => h t (List.mem_append_right _ ht)⟩
  · rintro ⟨ha, hb⟩ t ht
    rcases List.mem_append.mp ht with h | h
    · exact ha t h
    · exact hb t h
theorem noLayout_comment (c : Comment) : noLayout [Trivia.comment c] := by
  intro t ht; simp at ht; subst ht; rfl

/-! ### the item loop on a container written on one line -/

theorem pushGap_noNL (st : SeqSt) {g : Text} (h : containsNL g = false) : pushGap st g = st.before := by
  unfold pushGap; split
  · rfl
  · exact appendGap_noNL _ h _

theorem gcTrivia_noLayout : ∀ (cs : GC) (acc : List Trivia) (next : Text),
    containsNL (flattenGC cs ++ next) = false → noLayout acc → noLayout (gcTrivia acc cs)
  | [], acc, _, _, ha => ha
  | p :: rest, acc, next, hn, ha => by
    have hn' : containsNL (p.1 ++ (p.2 ++ (flattenGC rest ++ next))) = false := by
      simpa [flattenGC, List.append_assoc] using hn
    have h1 := noNL_append.mp hn'
    have h2 := noNL_append.mp h1.2
    rw [gcTrivia, appendGap_noNL _ h1.1]
    exact gcTrivia_noLayout rest _ next h2.2 (noLayout_append.mpr ⟨ha, noLayout_comment _⟩)

/-- with a value that arrives without trailing trivia, all that ends up behind it are the comments
    in front of the `;` -/
theorem binding_effAfter_noLayout {n : Text} {c1 c2 c3 : GC} {g2 g3 : Text} {ve b : Expr} {before : List Trivia}
    (hb : bindingFromCst n c1 c2 g2 ve c3 before = .ok b) (h3 : containsNL (flattenGC c3 ++ g3) = false)
    (hva : ve.after = []) : noLayout (b.effAfter false) := by
  rw [bindingFromCst_ok hb]
  simp only [Expr.effAfter, after_addAfter, after_setBefore, hva, List.nil_append, List.append_nil,
    Bool.false_eq_true, if_false]
  cases c3 with
  | nil => exact noLayout_nil
  | cons p rest =>
    simp only [bindTail]
    split
    · simp only [flattenGC, List.flatMap_cons, noNL_append] at h3
      exact noLayout_append (a := [_]).mpr ⟨noLayout_comment _,
        gcTrivia_noLayout rest [] g3 (noNL_append.mpr ⟨h3.1.2, h3.2⟩) noLayout_nil⟩
    · exact gcTrivia_noLayout (p :: rest) [] g3 h3 noLayout_nil

theorem modifyLast_noLayout {items : List Expr} {ts : List Trivia}
    (h : ∀ x ∈ items, noLayout (x.effAfter false)) (ht : noLayout ts) :
    ∀ x ∈ modifyLast (fun e => e.addAfter ts) items, noLayout (x.effAfter false) :=
  modifyLast_all (P := fun x => noLayout (x.effAfter false)) _
    (fun e he => by rw [effAfter_addAfter]; exact noLayout_append.mpr ⟨he, ht⟩) items h

theorem seqComment_noLayout (m : Mode) (st : SeqSt) {g : Text} (t : Text) (hg : containsNL g = false)
    (h : (∀ x ∈ st.items, noLayout (x.effAfter false)) ∧ noLayout st.before) :
    (∀ x ∈ (seqComment m st g t).items, noLayout (x.effAfter false)) ∧ noLayout (seqComment m st g t).before := by
  unfold seqComment
  rw [pushGap_noNL st hg]
  split
  · exact ⟨modifyLast_noLayout h.1 (noLayout_comment _), h.2⟩
  · exact ⟨h.1, noLayout_append.mpr ⟨h.2, noLayout_comment _⟩⟩

theorem finishSeq_noLayout (st : SeqSt) {cg : Text} (hcg : containsNL cg = false) (hc : Bool)
    (h : (∀ x ∈ st.items, noLayout (x.effAfter false)) ∧ noLayout st.before) :
    ∀ x ∈ (finishSeq st (some cg) hc).1, noLayout (x.effAfter false) := by
  unfold finishSeq
  simp only [emptyLineOffsets_false hcg, Bool.and_false, Bool.false_eq_true, if_false]
  split
  · exact h.1
  · split
    · intro x hx; cases hx
    · exact modifyLast_noLayout h.1 h.2

theorem openBefore_noNL (its : Items) (cg : Text) (h : containsNL (its.flatten ++ cg) = false) : openBefore its = [] := by
  unfold openBefore
  cases hf : its.firstGap with
  | none => rfl
  | some g =>
    obtain ⟨tl, htl⟩ := firstGap_prefix its cg
    rw [hf, Option.getD_some] at htl
    rw [htl] at h
    simp only [emptyLineOffsets_false (noNL_append.mp h).1, Bool.false_eq_true, if_false]

/-- the loop of a container written on one line: no item gets a layout marker behind it -/
theorem items_noLayout : (its : Items) → ∀ (m : Mode) (cg : Text) (st st' : SeqSt), its.wf m cg = true →
    its.parseSeq m st = .ok st' → containsNL its.flatten = false →
    (∀ x ∈ st.items, noLayout (x.effAfter false)) ∧ noLayout st.before →
    (∀ x ∈ st'.items, noLayout (x.effAfter false)) ∧ noLayout st'.before
  | .nil, m, cg, st, st', _, hp => fun _ h => by
    simp only [Items.parseSeq] at hp; injection hp with hp; subst hp; exact h
  | .cmt g t rest, m, cg, st, st', hwf, hp => fun hn h => by
    simp only [Items.wf, Bool.and_eq_true] at hwf
    simp only [Items.flatten, noNL_append] at hn
    simp only [Items.parseSeq] at hp
    exact items_noLayout rest m cg _ st' hwf.2 hp hn.2 (seqComment_noLayout m st t hn.1.1 h)
  | .elem g c rest, m, cg, st, st', hwf, hp => fun hn h => by
    simp only [Items.wf, Bool.and_eq_true] at hwf
    simp only [Items.flatten, noNL_append] at hn
    obtain ⟨e, hpe, _, hp'⟩ := parseSeq_elem_ok hp
    refine items_noLayout rest m cg _ st' hwf.2 hp' hn.2
      ⟨List.forall_mem_append.mpr ⟨h.1, List.forall_mem_singleton.mpr ?_⟩, noLayout_nil⟩
    obtain ⟨_, hea, henb⟩ := parse_fresh hwf.1.2 hpe
    rw [effAfter_setBefore, effAfter_notBinding henb, hea]
    exact noLayout_nil
  | .bind g n c1 g1 c2 g2 v c3 g3 rest, m, cg, st, st', hwf, hp => fun hn h => by
    simp only [Items.wf, Bool.and_eq_true, beq_iff_eq] at hwf
    obtain ⟨⟨⟨⟨⟨⟨⟨⟨⟨⟨_, _⟩, _⟩, _⟩, _⟩, _⟩, _⟩, hv⟩, _⟩, _⟩, hrest⟩ := hwf
    simp only [Items.flatten, noNL_append, noNL_cons] at hn
    obtain ⟨⟨⟨_, hc3⟩, hg3⟩, _, hr⟩ := hn
    obtain ⟨ve, b, hpv, rfl, hb, hp'⟩ := parseSeq_bind_ok hp
    exact items_noLayout rest .set cg _ st' hrest hp' hr
      ⟨List.forall_mem_append.mpr ⟨h.1, List.forall_mem_singleton.mpr
        (binding_effAfter_noLayout (g3 := g3) hb (noNL_append.mpr ⟨hc3, hg3⟩) (parse_fresh hv hpv).2.1)⟩, noLayout_nil⟩

/-- a `[ … ]` or `{ … }` written on one line: no item has a layout marker behind it -/
theorem container_noLayout {its : Items} {m : Mode} {cg : Text} {st' : SeqSt} (hwf : its.wf m cg = true)
    (hn : containsNL (its.flatten ++ cg) = false) (hps : its.parseSeq m { before := openBefore its } = .ok st')
    (hc : Bool) : ∀ x ∈ (finishSeq st' (some cg) hc).1, noLayout (x.effAfter false) := by
  rw [openBefore_noNL its cg hn] at hps
  exact finishSeq_noLayout st' (noNL_append.mp hn).2 hc
    (items_noLayout its m cg _ st' hwf hps (noNL_append.mp hn).1 ⟨fun x hx => (nomatch hx), noLayout_nil⟩)

/-! ### so every item's trailing trivia is closed -/

theorem closedT_of_noLayout {ts : List Trivia} (hok : TrivOk ts) (h : noLayout ts) : closedT ts := by
  by_cases hne : ts = []
  · exact Or.inl hne
  · rcases last_cases ts hok hne with ⟨c, hc⟩ | ⟨t, ht, hl⟩
    · exact Or.inr ⟨c, hc⟩
    · have := h t (List.mem_of_getLast? ht)
      rw [this] at hl; cases hl

theorem ok_effAfter {e : Expr} (h : e.ok) : TrivOk (e.effAfter false) := by
  cases e with
  | leaf k t b a => exact h.2.2
  | list v m inn b a => exact h.2.2.2
  | set v m r inn b a => exact h.2.2.2
  | binding n v g b a =>
    show TrivOk (v.after ++ a)
    exact trivOk_append (ok_after h.2.1) h.2.2.2
  | paren v lg tg lb tb b a => exact h.2.2
  | app n x g fa b a => exact h.2.2.2.2
  | wth e bd c g s b a => exact h.2.2.2.2.2
  | asrt c bd x y b a => exact h.2.2.2.2.2
  | sel e ats g ab b a => exact h.2.2.2.2.2
  | selOr e ats g ab d dg db b a => exact h.2.2.2.2.2.2.2
  | lam n c g k bd b a => exact h.2.2.2.2
  | un o e g bt b a => exact h.2.2.2.2
  | bin o l r x y b a => exact h.2.2.2.2
  | ite c t e cg aic aig btc btg atc tg bec beg aec eg b a => exact h.2.2.2.2.2.2.2.2.2
  | has e ats lg rg bq aq b a => exact h.2.2.2.2.2.2

theorem allClosed_of_noLayout : ∀ {es : List Expr}, allOk es → (∀ x ∈ es, noLayout (x.effAfter false)) → allClosed es
  | [], _, _ => trivial
  | e :: _, hok, hn => ⟨closedT_of_noLayout (ok_effAfter hok.1) (hn e (List.mem_cons_self ..)),
      allClosed_of_noLayout hok.2 (fun x hx => hn x (List.mem_cons_of_mem _ hx))⟩

mutual
/-- in every container written on one line, every item's trailing trivia is closed -/
def Expr.flatClosed : Expr → Prop
  | .leaf .. => True
  | .list v ml _ _ _ => (ml = false → allClosed v) ∧ allFlatClosed v
  | .set v ml _ _ _ _ => (ml = false → allClosed v) ∧ allFlatClosed v
  | .binding _ v _ _ _ => v.flatClosed
  | .paren v _ _ _ _ _ _ => v.flatClosed
  | .app n x _ _ _ _ => n.flatClosed ∧ x.flatClosed
  | .wth env body _ _ _ _ _ => env.flatClosed ∧ body.flatClosed
  | .asrt .. => True
  | .sel e _ _ _ _ _ => e.flatClosed
  | .selOr e _ _ _ d _ _ _ _ => e.flatClosed ∧ d.flatClosed
  | .lam _ _ _ _ body _ _ => body.flatClosed
  | .un _ e _ _ _ _ => e.flatClosed
  | .bin _ l r _ _ _ _ => l.flatClosed ∧ r.flatClosed
  | .ite c t e _ _ _ _ _ _ _ _ _ _ _ _ _ => c.flatClosed ∧ t.flatClosed ∧ e.flatClosed
  | .has e _ _ _ _ _ _ _ => e.flatClosed
def allFlatClosed : List Expr → Prop
  | [] => True
  | e :: rest => e.flatClosed ∧ allFlatClosed rest
end

theorem flatClosed_setBefore {e : Expr} (h : e.flatClosed) (b : List Trivia) : (e.setBefore b).flatClosed := by
  cases e <;> exact h
theorem flatClosed_addAfter {e : Expr} (h : e.flatClosed) (a : List Trivia) : (e.addAfter a).flatClosed := by
  cases e <;> exact h
theorem allFlatClosed_append : ∀ {a b : List Expr}, allFlatClosed a → allFlatClosed b → allFlatClosed (a ++ b)
  | [], _, _, hb => hb
  | _ :: _, _, ha, hb => ⟨ha.1, allFlatClosed_append ha.2 hb⟩
theorem modifyLast_flatClosed (ts : List Trivia) : ∀ {items : List Expr}, allFlatClosed items →
    allFlatClosed (modifyLast (fun e => e.addAfter ts) items)
  | [], _ => trivial
  | [_], h => ⟨flatClosed_addAfter h.1 ts, trivial⟩
  | _ :: e' :: rest, h => ⟨h.1, modifyLast_flatClosed ts (items := e' :: rest) h.2⟩

theorem finishSeq_flatClosed (st : SeqSt) (cgo : Option Text) (hc : Bool) (h : allFlatClosed st.items) :
    allFlatClosed (finishSeq st cgo hc).1 :=
  finishSeq_ind (P := fun items _ => allFlatClosed items) st cgo hc (fun _ => h) (fun _ _ => trivial)
    (fun _ _ => modifyLast_flatClosed _ h) (fun _ _ h' => h') (fun _ _ _ _ h' => modifyLast_flatClosed _ h')

theorem binding_flatClosed {n : Text} {c1 c2 c3 : GC} {g2 : Text} {ve b : Expr} {before : List Trivia}
    (hb : bindingFromCst n c1 c2 g2 ve c3 before = .ok b) (hve : ve.flatClosed) : b.flatClosed := by
  rw [bindingFromCst_ok hb]
  exact flatClosed_addAfter (flatClosed_setBefore hve _) _

mutual
theorem cst_flat : (c : Cst) → c.wf = true → ∀ (e : Expr), c.parse = .ok e → e.flatClosed
  | .leaf k t, _, e, hp => by
    simp only [Cst.parse] at hp
    obtain ⟨k', t', rfl⟩ := leafFromCst_shape hp
    trivial
  | .list its cg, hwf, e, hp => by
    obtain ⟨e', hpe, hok, _⟩ := cst_parse_spec false (.list its cg) hwf (fun h => by cases h)
    rw [hp] at hpe; injection hpe with hpe; subst hpe
    simp only [Cst.wf, Bool.and_eq_true] at hwf
    obtain ⟨st', hps, rfl⟩ := parse_list_ok hp
    refine ⟨fun hml => ?_, finishSeq_flatClosed st' _ _ (items_flat its .list cg _ st' hwf.1 hps trivial)⟩
    simp only [List.cons_append, noNL_cons, noNL_append] at hml
    exact allClosed_of_noLayout hok.1 (container_noLayout hwf.1 (noNL_append.mpr hml.2.1) hps _)
  | .set isRec rg its cg, hwf, e, hp => by
    obtain ⟨e', hpe, hok, _⟩ := cst_parse_spec false (.set isRec rg its cg) hwf (fun h => by cases h)
    rw [hp] at hpe; injection hpe with hpe; subst hpe
    simp only [Cst.wf, Bool.and_eq_true] at hwf
    obtain ⟨st', hps, rfl⟩ := parse_set_ok hp
    refine ⟨fun hml => ?_, finishSeq_flatClosed st' _ _ (items_flat its .set cg _ st' hwf.1.2 hps trivial)⟩
    simp only [Cst.flatten, List.cons_append, noNL_cons, noNL_append] at hml
    exact allClosed_of_noLayout hok.1 (container_noLayout hwf.1.2 (noNL_append.mpr ⟨hml.1.1.2.2, hml.1.2⟩) hps _)
  | .paren its cg, hwf, e, hp => by
    simp only [Cst.wf, Bool.and_eq_true, beq_iff_eq] at hwf
    obtain ⟨st', v, hps, hr, rfl⟩ := parse_paren_ok hp
    have hf := finishSeq_flatClosed st' none (!its.isNil) (items_flat its .paren cg {} st' hwf.1.1 hps trivial)
    rw [hr] at hf
    exact hf.1
  | .app f cs g a, hwf, e, hp => by
    simp only [Cst.wf, Bool.and_eq_true] at hwf
    obtain ⟨fe, ae, hpf, hpa, rfl⟩ := parse_app_ok hp
    exact ⟨cst_flat f hwf.1.1.1 fe hpf, flatClosed_setBefore (cst_flat a hwf.2 ae hpa) _⟩
  | .kw w c1 g1 h c2 g2 c3 g3 b, hwf, e, hp => by
    simp only [Cst.wf, Bool.and_eq_true, List.isEmpty_iff] at hwf
    obtain ⟨⟨⟨⟨⟨⟨⟨rfl, _⟩, hhw⟩, rfl⟩, _⟩, rfl⟩, _⟩, hbw⟩ := hwf
    obtain ⟨he, be, hph, hpb, rfl⟩ := parse_kw_ok hp
    split
    · rw [withFromCst_shape]
      refine ⟨cst_flat h hhw he hph, ?_⟩
      split
      · exact cst_flat b hbw be hpb
      · exact flatClosed_setBefore (cst_flat b hbw be hpb) _
    · unfold asrtFromCst; trivial
  | .sel e c1 g1 gd attrs, hwf, ex, hp => by
    simp only [Cst.wf, Bool.and_eq_true] at hwf
    obtain ⟨ee, hpe, rfl⟩ := parse_sel_ok hp
    exact cst_flat e hwf.1.1.1.1.1 ee hpe
  | .selOr e c1 g1 gd attrs c2 g2 g3 d, hwf, ex, hp => by
    simp only [Cst.wf, Bool.and_eq_true] at hwf
    obtain ⟨ee, de, hpe, hpd, rfl⟩ := parse_selOr_ok hp
    exact ⟨cst_flat e hwf.1.1.1.1.1.1.1.1.1 ee hpe, cst_flat d hwf.2 de hpd⟩
  | .lam n c1 g1 c2 g2 b, hwf, ex, hp => by
    simp only [Cst.wf, Bool.and_eq_true] at hwf
    obtain ⟨be, hpb, rfl⟩ := parse_lam_ok hp
    unfold lamFromCst
    show Expr.flatClosed (if _ then be else _)
    split
    · exact cst_flat b hwf.2 be hpb
    · exact flatClosed_setBefore (cst_flat b hwf.2 be hpb) _
  | .un op c g e, hwf, ex, hp => by
    simp only [Cst.wf, Bool.and_eq_true] at hwf
    obtain ⟨ee, hpe, rfl⟩ := parse_un_ok hp
    exact cst_flat e hwf.2 ee hpe
  | .bin l c1 g1 op c2 g2 r, hwf, ex, hp => by
    simp only [Cst.wf, Bool.and_eq_true] at hwf
    obtain ⟨le, re, hpl, hpr, rfl⟩ := parse_bin_ok hp
    exact ⟨cst_flat l hwf.1.1.1.1.1.1.1 le hpl, cst_flat r hwf.2 re hpr⟩
  | .ite c1 g1 c c2 g2 c3 g3 t c4 g4 c5 g5 e, hwf, ex, hp => by
    obtain ⟨⟨rfl, rfl, rfl, rfl, rfl⟩, ⟨hcw, htw, hew⟩, _⟩ := ite_wf hwf
    obtain ⟨ce, te, ee, hpc, hpt, hpe, rfl⟩ := parse_ite_ok hp
    rw [iteFromCst_nil]
    exact ⟨cst_flat c hcw ce hpc, cst_flat t htw te hpt, cst_flat e hew ee hpe⟩
  | .has e c1 g1 c2 g2 attrs, hwf, ex, hp => by
    obtain ⟨_, hew, _⟩ := has_wf hwf
    obtain ⟨ee, hpe, rfl⟩ := parse_has_ok hp
    exact cst_flat e hew ee hpe
theorem items_flat : (its : Items) → ∀ (m : Mode) (cg : Text) (st st' : SeqSt), its.wf m cg = true →
    its.parseSeq m st = .ok st' → allFlatClosed st.items → allFlatClosed st'.items
  | .nil, m, cg, st, st', _, hp, h => by
    simp only [Items.parseSeq] at hp; injection hp with hp; subst hp; exact h
  | .cmt g t rest, m, cg, st, st', hwf, hp, h => by
    simp only [Items.wf, Bool.and_eq_true] at hwf
    simp only [Items.parseSeq] at hp
    refine items_flat rest m cg _ st' hwf.2 hp ?_
    unfold seqComment; split
    · exact modifyLast_flatClosed _ h
    · exact h
  | .elem g c rest, m, cg, st, st', hwf, hp, h => by
    simp only [Items.wf, Bool.and_eq_true] at hwf
    obtain ⟨e, hpe, _, hp'⟩ := parseSeq_elem_ok hp
    exact items_flat rest m cg _ st' hwf.2 hp'
      (allFlatClosed_append h ⟨flatClosed_setBefore (cst_flat c hwf.1.2 e hpe) _, trivial⟩)
  | .bind g n c1 g1 c2 g2 v c3 g3 rest, m, cg, st, st', hwf, hp, h => by
    simp only [Items.wf, Bool.and_eq_true, beq_iff_eq] at hwf
    obtain ⟨⟨⟨⟨⟨⟨⟨⟨⟨⟨_, _⟩, _⟩, _⟩, _⟩, _⟩, _⟩, hv⟩, _⟩, _⟩, hrest⟩ := hwf
    obtain ⟨ve, b, hpv, rfl, hb, hp'⟩ := parseSeq_bind_ok hp
    exact items_flat rest .set cg _ st' hrest hp'
      (allFlatClosed_append h ⟨binding_flatClosed hb (cst_flat v hv ve hpv), trivial⟩)
end

theorem allFlat_of : ∀ {es : List Expr}, allBeforeEmpty es = true → allClosed es → allFlat es
  | [], _, _ => trivial
  | x :: r, h, hc => by
    simp only [allBeforeEmpty, Bool.and_eq_true, List.isEmpty_iff] at h
    exact ⟨h.1, hc.1, allFlat_of h.2 hc.2⟩

mutual
theorem inlineClean_of_flat : (e : Expr) → e.beforeFlatB = true → e.flatClosed → e.inlineClean
  | .leaf .., _, _ => trivial
  | .list v ml _ _ _, h, hf => by
    simp only [Expr.beforeFlatB, Bool.and_eq_true, Bool.or_eq_true] at h
    refine ⟨fun hml => ?_, allInlineClean_of_flat v h.2 hf.2⟩
    rcases h.1 with h1 | h1
    · rw [hml] at h1; cases h1
    · exact allFlat_of h1 (hf.1 hml)
  | .set v ml _ _ _ _, h, hf => by
    simp only [Expr.beforeFlatB, Bool.and_eq_true, Bool.or_eq_true] at h
    refine ⟨fun hml => ?_, allInlineClean_of_flat v h.2 hf.2⟩
    rcases h.1 with h1 | h1
    · rw [hml] at h1; cases h1
    · exact allFlat_of h1 (hf.1 hml)
  | .binding _ v _ _ _, h, hf => inlineClean_of_flat v h hf
  | .paren v lg _ _ _ _ _, h, hf => by
    simp only [Expr.beforeFlatB, Bool.and_eq_true, Bool.or_eq_true, List.isEmpty_iff] at h
    refine ⟨fun hon => ?_, inlineClean_of_flat v h.2 hf⟩
    rcases h.1 with h1 | h1
    · rw [hon] at h1; cases h1
    · exact h1
  | .app n x g _ _ _, h, hf => by
    simp only [Expr.beforeFlatB, Bool.and_eq_true, Bool.or_eq_true, List.isEmpty_iff] at h
    refine ⟨fun hon => ?_, inlineClean_of_flat n h.1.2 hf.1, inlineClean_of_flat x h.2 hf.2⟩
    rcases h.1.1 with h1 | h1
    · rw [hon] at h1; cases h1
    · exact h1
  | .wth env body _ _ _ _ _, h, hf => by
    simp only [Expr.beforeFlatB, Bool.and_eq_true] at h
    exact ⟨inlineClean_of_flat env h.1 hf.1, inlineClean_of_flat body h.2 hf.2⟩
  | .asrt .., h, _ => by simp [Expr.beforeFlatB] at h
  | .sel e _ _ _ _ _, h, hf => inlineClean_of_flat e h hf
  | .selOr e _ _ _ d _ _ _ _, h, hf => by
    simp only [Expr.beforeFlatB, Bool.and_eq_true] at h
    exact ⟨inlineClean_of_flat e h.1 hf.1, inlineClean_of_flat d h.2 hf.2⟩
  | .lam _ _ _ _ body _ _, h, hf => inlineClean_of_flat body h hf
  | .un _ e _ _ _ _, h, hf => inlineClean_of_flat e h hf
  | .bin _ l r ogl rgl _ _, h, hf => by
    simp only [Expr.beforeFlatB, Bool.and_eq_true, decide_eq_true_eq] at h
    exact ⟨h.1.1.1, h.1.1.2, inlineClean_of_flat l h.1.2 hf.1, inlineClean_of_flat r h.2 hf.2⟩
  | .ite c t e _ _ _ _ _ _ _ _ _ _ _ _ _, h, hf => by
    simp only [Expr.beforeFlatB, Bool.and_eq_true] at h
    exact ⟨inlineClean_of_flat c h.1.1 hf.1, inlineClean_of_flat t h.1.2 hf.2.1, inlineClean_of_flat e h.2 hf.2.2⟩
  | .has e _ _ _ _ _ _ _, h, hf => inlineClean_of_flat e h hf
theorem allInlineClean_of_flat : (es : List Expr) → allBeforeFlatB es = true → allFlatClosed es → allInlineClean es
  | [], _, _ => trivial
  | e :: rest, h, hf => by
    simp only [allBeforeFlatB, Bool.and_eq_true] at h
    exact ⟨inlineClean_of_flat e h.1 hf.1, allInlineClean_of_flat rest h.2 hf.2⟩
end

/-- SPACING NORMAL FORM of the whole round trip, with the exclusion in its final form -/
theorem file_nf_flat (f : File) (s : Src) (hwf : f.wf = true) (hbasic : f.basic = true) (hp : f.parse = .ok s)
    (hclean : s.beforeFlatB = true) : (summ s.rebuildP).fileOk = true := by
  refine file_nf f s hwf hbasic hp ?_
  have hwf' := hwf
  simp only [File.wf, Bool.and_eq_true, decide_eq_true_eq] at hwf'
  have hp0 := hp
  simp only [File.parse] at hp
  cases hps : f.items.parseSeq .file {} with
  | error err => rw [hps] at hp; cases hp
  | ok st' =>
    rw [hps] at hp
    injection hp with hp
    have hst := items_flat f.items .file f.endGap {} st' hwf'.1.1 hps trivial
    have hfin := finishSeq_flatClosed st' none (!f.items.isNil) hst
    have hex : s.exprs = (finishSeq st' none (!f.items.isNil)).1 := by rw [← hp]
    rw [← hex] at hfin
    exact mem_allInlineClean (allInlineClean_of_flat s.exprs hclean hfin)

end Nima.Frag
