import NimaVerif.Lemmas.Footprint
/-! `onLayer`, `setValue` / `removeValue` with a scope selector: what they unfold to on a given layer,
`listSet` and indices, and that the additions of an edit never shrink the `values` of a set. -/
namespace Nima
-- name tokens are compared by spelling in this file (see `NameCmp` in Model/Edit.lean)
attribute [local instance] NameCmp.spelled

open Node EditM

@[simp] theorem collect_scratchDoc (d : Doc) (l : Layer) :
    collectScopeLayers (scratchDoc d l) = collectScopeLayers d := rfl
@[simp] theorem scratchDoc_next (d : Doc) (l : Layer) : (scratchDoc d l).next = d.next + 1 := rfl
@[simp] theorem scratchDoc_target (d : Doc) (l : Layer) : (scratchDoc d l).target = d.target := rfl

theorem collect_noScratch (d : Doc) :
    collectScopeLayers { d with scratch := none } = collectScopeLayers d := rfl

theorem onLayer_run (layers : List Layer) (fromDoc : Bool) (idx : Nat) (op : Node → EditM Unit)
    (d : Doc) {l : Layer} (hl : layers[idx]? = some l) {us : List Upd}
    (hrun : (op (layerAsSet d.next l) (scratchDoc d l)).2 = applyAll us (scratchDoc d l)) :
    onLayer layers fromDoc idx op d =
      let S' := applyAllNode us (layerAsSet d.next l)
      let d2 : Doc := { applyAll us (scratchDoc d l) with scratch := none }
      let layers1 := if fromDoc then (collectScopeLayers d).map (applyAllLayer us) else layers
      let l1 := (layers1[idx]?).getD l
      match (op (layerAsSet d.next l) (scratchDoc d l)).1 with
      | .ok () => (.ok (listSet layers1 idx (setLayerFrom l1 S')), d2)
      | .error e =>
        if fromDoc then (.error e, d2.setLayerScope idx S'.setValues) else (.error e, d2) := by
  rw [onLayer_some hl]
  unfold onLayerFinish
  cases hop : op (layerAsSet d.next l) (scratchDoc d l) with
  | mk r d1 =>
    rw [hop] at hrun
    simp only at hrun
    subst hrun
    have hs : (applyAll us (scratchDoc d l)).scratch = some (applyAllNode us (layerAsSet d.next l)) := by
      rw [applyAll_scratch]; rfl
    have hc : collectScopeLayers { applyAll us (scratchDoc d l) with scratch := none } =
        (collectScopeLayers d).map (applyAllLayer us) := by
      rw [collect_noScratch, collect_applyAll, collect_scratchDoc]
    simp only [hs, Option.getD_some, hc]
    cases r with
    | ok u => cases u; rfl
    | error e => rfl

/-! ### `listSet`, indices -/

theorem listSet_getElem?_ne {α} (xs : List α) (i j : Nat) (x : α) (h : j ≠ i) :
    (listSet xs i x)[j]? = xs[j]? := by
  simp only [listSet]
  rw [List.getElem?_set_ne (Ne.symm h)]

theorem listSet_getElem?_self {α} (xs : List α) (i : Nat) (x : α) (h : i < xs.length) :
    (listSet xs i x)[i]? = some x := by
  simp only [listSet]
  rw [List.getElem?_set_self h]

theorem listSet_length {α} (xs : List α) (i : Nat) (x : α) : (listSet xs i x).length = xs.length := by
  simp [listSet]

theorem listSet_eraseIdx {α} (xs : List α) (i : Nat) (x : α) :
    (listSet xs i x).eraseIdx i = xs.eraseIdx i := by
  simp only [listSet]
  induction xs generalizing i with
  | nil => rfl
  | cons y ys ih =>
    cases i with
    | zero => rfl
    | succ i => simp [List.set_cons_succ, List.eraseIdx_cons_succ, ih]

theorem mem_listSet {α} {xs : List α} {i : Nat} {x y : α} (h : y ∈ listSet xs i x) :
    y = x ∨ y ∈ xs := by
  simp only [listSet] at h
  rcases List.mem_or_eq_of_mem_set h with h | h
  · exact Or.inr h
  · exact Or.inl h

/-! ### growth: additions never shrink the `values` of a set -/

theorem isSet_updBind_values (b : Nat) (v n : Node) (h : n.isSet = true) :
    (updBind b v n).isSet = true ∧ (updBind b v n).setValues.length = n.setValues.length := by
  cases n <;> simp_all [isSet, updBind, setValues]

theorem isSet_updSet_grows (s : Nat) (f : SetFn) (hf : f.grows = true) (n : Node)
    (h : n.isSet = true) :
    (updSet s f.fn n).isSet = true ∧ n.setValues.length ≤ (updSet s f.fn n).setValues.length := by
  cases n with
  | set sid vs o m r =>
    by_cases hs : sid = s
    · cases f with
      | appendValue b => simp [updSet, hs, SetFn.fn, appendValueFn, isSet, setValues]
      | appendOrder x =>
        by_cases ho : o.isEmpty = true <;> simp [updSet, hs, SetFn.fn, appendOrderFn, isSet, setValues, ho]
      | delItem _ => cases hf
      | removeValue _ => cases hf
      | eraseEntry _ => cases hf
    · simp [updSet, hs, isSet, setValues]
  | _ => simp [isSet] at h

theorem applyAllNode_grows {A S : Nat → Prop} (us : List Upd) (hus : ∀ u ∈ us, u.Allowed true A S)
    (n : Node) (h : n.isSet = true) :
    (applyAllNode us n).isSet = true ∧ n.setValues.length ≤ (applyAllNode us n).setValues.length := by
  induction us generalizing n with
  | nil => exact ⟨h, Nat.le_refl _⟩
  | cons u us ih =>
    have hu := hus u (by simp)
    have h1 : (u.applyNode n).isSet = true ∧ n.setValues.length ≤ (u.applyNode n).setValues.length := by
      cases u with
      | bump => exact ⟨h, Nat.le_refl _⟩
      | assign b v =>
        simp only [applyNode_assign]
        have := isSet_updBind_values b v n h
        exact ⟨this.1, Nat.le_of_eq this.2.symm⟩
      | onSet s f =>
        simp only [applyNode_onSet]
        exact isSet_updSet_grows s f (hu.2 rfl) n h
    have h2 := ih (fun u hu => hus u (by simp [hu])) _ h1.1
    exact ⟨h2.1, Nat.le_trans h1.2 h2.2⟩

/-! ### dispatch of `set_value` / `remove_value` on a scope selector -/

theorem setValue_scoped (d : Doc) (k : Nat) (name : Text) (v : Node) (hn : d.noTarget = none)
    (hk : 1 ≤ k) (hne : name ≠ []) (hh : name.head? ≠ some '@')
    (hkn : k ≤ (collectScopeLayers d).length) :
    setValue (atSigns k ++ name) (.one v) d =
      match onLayer (collectScopeLayers d) true ((collectScopeLayers d).length - k)
          (fun s => setValueInAttrset s false name v) d with
      | (.ok ls, d') => (.ok (), writeScopeLayers ls none d')
      | (.error e, d') => (.error e, d') := by
  have hs := splitScopeNpath_ats k name hk hne hh
  have hemp : (collectScopeLayers d).isEmpty = false := by
    cases h : collectScopeLayers d with
    | nil => rw [h] at hkn; simp at hkn; omega
    | cons _ _ => rfl
  have : ¬ (k > (collectScopeLayers d).length) := by omega
  rw [setValue_one, dispatch_eq, route_of_layer hn hs, ← (splitScopeNpath_some hs).2]
  simp only [setScoped, hemp, Bool.false_and, Bool.false_eq_true, if_false, this]
  rfl

theorem removeValue_scoped (d : Doc) (k : Nat) (name : Text) (hn : d.noTarget = none)
    (hk : 1 ≤ k) (hne : name ≠ []) (hh : name.head? ≠ some '@')
    (hkn : k ≤ (collectScopeLayers d).length) :
    removeValue (atSigns k ++ name) d =
      match onLayer (collectScopeLayers d) true ((collectScopeLayers d).length - k)
          (fun s => removeValueInAttrset s name) d with
      | (.error e, d') => (.error e, d')
      | (.ok layers', d') =>
        (.ok (), rmFinish d ((collectScopeLayers d).length - k) layers' d') := by
  have hs := splitScopeNpath_ats k name hk hne hh
  have : ¬ (k > (collectScopeLayers d).length) := by omega
  rw [removeValue_eq, dispatch_eq, route_of_layer hn hs, ← (splitScopeNpath_some hs).2]
  simp only [removeScoped, this, if_false]
  rfl

theorem rmFinish_fields (d : Doc) (idx : Nat) (layers' : List Layer) (d' : Doc) :
    let w := writeScopeLayers (rmLayers idx layers') (rmRemoved idx layers') d'
    let r := rmFinish d idx layers' d'
    collectScopeLayers r = collectScopeLayers w ∧ r.target = w.target ∧ r.tBefore = w.tBefore ∧
    r.tAfter = w.tAfter ∧ r.scratch = w.scratch ∧ r.noTarget = w.noTarget ∧ r.next = w.next ∧
    r.topScope = w.topScope := by
  obtain ⟨t, rs, e⟩ := rmFinish_eq d idx layers' d'
  dsimp only
  rw [e]
  exact ⟨rfl, rfl, rfl, rfl, rfl, rfl, rfl, rfl⟩

end Nima
