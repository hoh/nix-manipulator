import NimaVerif.Model.NPath
/-! `decodeBody` undoes `escapeNix` (`escape_decode`), character class by character class
(`escapeNix_cons_cases`). -/
namespace Nima

theorem takeWhile_all {α : Type} (p : α → Bool) : ∀ (l : List α), ∀ c ∈ l.takeWhile p, p c = true
  | [], c, h => by simp at h
  | x :: l, c, h => by
    by_cases hx : p x = true
    · rw [List.takeWhile_cons_of_pos hx] at h
      rcases List.mem_cons.mp h with rfl | h
      · exact hx
      · exact takeWhile_all p l c h
    · rw [List.takeWhile_cons_of_neg hx] at h; simp at h

/-- `escapeNix` is the interpreter of `escapeTable`. -/
theorem escapeNix_table (interp : Bool) (c : Char) (cs : Text) (r : Text)
    (h : (c, r) ∈ escapeTable) : escapeNix interp (c :: cs) = r ++ escapeNix interp cs := by
  simp only [escapeTable, List.mem_cons, Prod.mk.injEq, List.not_mem_nil, or_false] at h
  rcases h with ⟨rfl, rfl⟩ | ⟨rfl, rfl⟩ | ⟨rfl, rfl⟩ | ⟨rfl, rfl⟩ | ⟨rfl, rfl⟩ <;> simp [escapeNix]

theorem decodeBody_plain (c : Char) (cs : Text) (h1 : c ≠ '\\') (h2 : c ≠ '"') (h3 : c ≠ '$') :
    decodeBody (c :: cs) = (decodeBody cs).map (c :: ·) := by
  exact decodeBody.eq_8 c cs (fun h _ => h1 h) (fun _ _ h _ => h1 h) (fun h => h2 h)
    (fun _ h _ => h3 h) (fun h _ => h3 h) (fun _ _ h _ => h3 h)

/-- Shape of `escapeNix true` on a non-empty text: it either starts with a backslash, or keeps the
    first character (which is then neither `\` nor `"`). -/
theorem escapeNix_cons_cases (d : Char) (ds : Text) :
    (∃ r, escapeNix true (d :: ds) = '\\' :: r) ∨
    (escapeNix true (d :: ds) = d :: escapeNix true ds ∧ d ≠ '\\' ∧ d ≠ '"' ∧
      (d = '$' → ds.head? ≠ some '{')) := by
  by_cases h1 : d = '\\'
  · subst h1; left; simp [escapeNix]
  by_cases h2 : d = '"'
  · subst h2; left; simp [escapeNix]
  by_cases h3 : d = '\n'
  · subst h3; left; simp [escapeNix]
  by_cases h4 : d = '\r'
  · subst h4; left; simp [escapeNix]
  by_cases h5 : d = '\t'
  · subst h5; left; simp [escapeNix]
  by_cases h6 : d = '$'
  · subst h6
    match ds with
    | [] => right; simp [escapeNix]
    | e :: es =>
      by_cases h7 : e = '{'
      · subst h7; left; simp [escapeNix]
      · right
        refine ⟨?_, by decide, by decide, by simpa using h7⟩
        rw [escapeNix.eq_8 _ _ _ (by decide) (by decide) (by decide) (by decide) (by decide)]
        intro cs' _ hc
        simp at hc
        exact h7 hc.1
  · right
    refine ⟨?_, h1, h2, fun h => absurd h h6⟩
    exact escapeNix.eq_8 _ _ _ h1 h2 h3 h4 h5 (by intro cs' hc _; exact absurd hc h6)

theorem escape_decode_aux : ∀ n (s : Text), s.length ≤ n →
    decodeBody (escapeNix true s) = some s := by
  intro n
  induction n with
  | zero => intro s h; cases s <;> simp_all [escapeNix, decodeBody]
  | succ n ih =>
    intro s h
    match s with
    | [] => simp [escapeNix, decodeBody]
    | c :: cs =>
      have hcs : cs.length ≤ n := by simp at h; omega
      by_cases h1 : c = '\\'
      · subst h1; simp [escapeNix, decodeBody, ih cs hcs, unescChar]
      by_cases h2 : c = '"'
      · subst h2; simp [escapeNix, decodeBody, ih cs hcs, unescChar]
      by_cases h3 : c = '\n'
      · subst h3; simp [escapeNix, decodeBody, ih cs hcs, unescChar]
      by_cases h4 : c = '\r'
      · subst h4; simp [escapeNix, decodeBody, ih cs hcs, unescChar]
      by_cases h5 : c = '\t'
      · subst h5; simp [escapeNix, decodeBody, ih cs hcs, unescChar]
      by_cases h6 : c = '$'
      · subst h6
        match cs with
        | [] => simp [escapeNix, decodeBody]
        | d :: ds =>
          have hds : ds.length ≤ n := by simp at hcs; omega
          by_cases h7 : d = '{'
          · subst h7
            have : escapeNix true ('$' :: '{' :: ds) = '\\' :: '$' :: '{' :: escapeNix true ds := by
              simp [escapeNix]
            rw [this]
            simp [decodeBody, unescChar]
            exact ih ds hds
          · have e1 : escapeNix true ('$' :: d :: ds) = '$' :: escapeNix true (d :: ds) := by
              rw [escapeNix.eq_8 _ _ _ (by decide) (by decide) (by decide) (by decide) (by decide)]
              intro cs' _ hc
              simp at hc
              exact h7 hc.1
            rw [e1]
            have ihd := ih (d :: ds) hcs
            rcases escapeNix_cons_cases d ds with ⟨r, hr⟩ | ⟨hr, hd1, hd2, hd3⟩
            · rw [hr] at ihd ⊢
              rw [decodeBody.eq_7 _ _ (by decide)]
              simp [ihd]
            · rw [hr]
              rw [decodeBody.eq_7 _ _ h7]
              simp [hd1, hd2, ih ds hds]
      · rw [escapeNix.eq_8 _ _ _ h1 h2 h3 h4 h5 (by intro cs' hc _; exact absurd hc h6)]
        rw [decodeBody_plain _ _ h1 h2 h6, ih cs hcs]
        rfl

theorem escape_decode (s : Text) : decodeBody (escapeNix true s) = some s :=
  escape_decode_aux s.length s (Nat.le_refl _)

end Nima
