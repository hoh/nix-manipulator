import NimaVerif.Model.Registry
/-! Invariant and refinement lemmas for the context registry (C10). -/
namespace Nima.Registry

/-- The registry invariant. `keyed` is the statement of the property's state anchor: every entry
    whose weak reference is alive is keyed by the id of the object it refers to. -/
structure Inv (s : Reg) : Prop where
  allocated : ∀ o a, s.addr o = some a → o < s.next
  distinct : ∀ o1 o2 a, s.addr o1 = some a → s.addr o2 = some a → o1 = o2
  keyed : ∀ a e, s.table a = some e → s.alive e.target = true → s.addr e.target = some a
  targets : ∀ a e, s.table a = some e → e.target < s.next

/-- what the table holds FOR object `o` -/
def view (s : Reg) (o : Nat) : Option Nat :=
  match s.addr o with
  | none => none
  | some a =>
    match s.table a with
    | some e => if e.target = o then some e.ctx else none
    | none => none

/-- refinement relation between the address-keyed table and the identity-keyed map -/
structure Refines (s : Reg) (t : Abs) : Prop where
  next : t.next = s.next
  alive : ∀ o, t.alive o = s.alive o
  addr : ∀ o, t.addr o = s.addr o
  ctx : ∀ o, t.ctx o = view s o

theorem addrInUse_iff (s : Reg) (a : Nat) (h : ∀ o a, s.addr o = some a → o < s.next) :
    s.addrInUse a = true ↔ ∃ o, s.addr o = some a := by
  unfold Reg.addrInUse
  simp only [List.any_eq_true, List.mem_range, beq_iff_eq]
  constructor
  · rintro ⟨o, _, ho⟩; exact ⟨o, ho⟩
  · rintro ⟨o, ho⟩; exact ⟨o, h o a ho, ho⟩

theorem inv_init : Inv init := by
  constructor <;> intros <;> simp_all [init]

theorem refines_init : Refines init {} := by
  constructor <;> intros <;> simp [init, view, Reg.alive]



theorem inv_alloc (s : Reg) (a : Nat) (h : Inv s) : Inv (step currentCfg s (.alloc a)) := by
  simp only [step]
  split
  · exact h
  · rename_i hu
    have hfree : ∀ o, s.addr o ≠ some a := by
      intro o ho
      exact hu ((addrInUse_iff s a h.allocated).2 ⟨o, ho⟩)
    constructor
    · intro o a' ho
      dsimp only at ho ⊢
      split at ho
      · omega
      · have := h.allocated o a' ho; omega
    · intro o1 o2 a' h1 h2
      simp only at h1 h2
      split at h1 <;> split at h2
      · omega
      · injection h1 with h1; subst h1; exact absurd h2 (hfree o2)
      · injection h2 with h2; subst h2; exact absurd h1 (hfree o1)
      · exact h.distinct o1 o2 a' h1 h2
    · intro a' e he hal
      simp only [Reg.alive] at he hal ⊢
      have ht := h.targets a' e he
      have hne : e.target ≠ s.next := by omega
      simp only [hne, if_false] at hal ⊢
      exact h.keyed a' e he hal
    · intro a' e he
      have := h.targets a' e he
      dsimp only at he ⊢
      omega


@[simp] theorem setTable_addr (s : Reg) (a : Nat) (e : Option Entry) : (s.setTable a e).addr = s.addr := rfl
@[simp] theorem setTable_next (s : Reg) (a : Nat) (e : Option Entry) : (s.setTable a e).next = s.next := rfl
@[simp] theorem setTable_alive (s : Reg) (a : Nat) (e : Option Entry) (o : Nat) :
    (s.setTable a e).alive o = s.alive o := rfl
theorem setTable_table (s : Reg) (a : Nat) (e : Option Entry) (a' : Nat) :
    (s.setTable a e).table a' = if a' = a then e else s.table a' := rfl

/-- removing an entry keeps the invariant -/
theorem inv_erase (s : Reg) (a : Nat) (h : Inv s) : Inv (s.setTable a none) := by
  constructor
  · exact h.allocated
  · exact h.distinct
  · intro a' e he hal
    rw [setTable_table] at he
    split at he
    · cases he
    · exact h.keyed a' e he hal
  · intro a' e he
    rw [setTable_table] at he
    split at he
    · cases he
    · exact h.targets a' e he

/-- an object dying keeps the invariant (whatever the table holds) -/
theorem inv_kill (s : Reg) (o : Nat) (h : Inv s) :
    Inv { s with addr := fun o' => if o' = o then none else s.addr o' } := by
  constructor
  · intro o' a ho
    dsimp only at ho ⊢
    split at ho
    · cases ho
    · exact h.allocated o' a ho
  · intro o1 o2 a h1 h2
    dsimp only at h1 h2
    split at h1
    · cases h1
    · split at h2
      · cases h2
      · exact h.distinct o1 o2 a h1 h2
  · intro a e he hal
    dsimp only [Reg.alive] at he hal ⊢
    split at hal
    · cases hal
    · rename_i hne
      simp only [hne, if_false]
      exact h.keyed a e he hal
  · intro a e he
    exact h.targets a e he

theorem inv_callback (s : Reg) (a r : Nat) (h : Inv s) : Inv (callback currentCfg s a r) := by
  unfold callback
  split
  · exact h
  · split
    · exact inv_erase s a h
    · exact h

theorem inv_step (s : Reg) (op : Op) (h : Inv s) : Inv (step currentCfg s op) := by
  cases op with
  | alloc a => exact inv_alloc s a h
  | free o =>
    simp only [step]
    split
    · exact h
    · rename_i a ha
      split
      · split
        · exact inv_kill _ o (inv_callback s a _ h)
        · exact inv_kill _ o h
      · exact inv_kill _ o h
  | freeQuiet o =>
    simp only [step]
    split
    · exact h
    · exact inv_kill s o h
  | store o c =>
    simp only [step]
    split
    · exact h
    · rename_i a ha
      constructor
      · exact h.allocated
      · exact h.distinct
      · intro a' e he hal
        dsimp only at he
        rw [setTable_table] at he
        split at he
        · rename_i heq
          injection he with he
          subst he
          subst heq
          exact ha
        · exact h.keyed a' e he hal
      · intro a' e he
        dsimp only at he ⊢
        rw [setTable_table] at he
        split at he
        · injection he with he
          subst he
          exact h.allocated o a ha
        · exact h.targets a' e he
  | get o =>
    simp only [step, getCtx]
    split
    · exact h
    · split
      · exact h
      · simp only [currentCfg, Bool.not_true, Bool.false_eq_true, if_false]
        split
        · exact h
        · exact inv_erase s _ h
  | clear o =>
    simp only [step]
    split
    · exact h
    · exact inv_erase s _ h



theorem abs_addrInUse (s : Reg) (t : Abs) (r : Refines s t) (a : Nat) : t.addrInUse a = s.addrInUse a := by
  unfold Abs.addrInUse Reg.addrInUse
  rw [r.next]
  congr 1
  funext o
  rw [r.addr]

/-- erasing the entry at an address no live object other than `o` occupies changes only `o`'s view -/
theorem view_erase_other (s : Reg) (h : Inv s) (o o' a : Nat) (ha : s.addr o = some a) (hne : o' ≠ o) :
    view (s.setTable a none) o' = view s o' := by
  unfold view
  show (match s.addr o' with | none => none | some a' => _) = _
  cases h' : s.addr o' with
  | none => rfl
  | some a' =>
    have : a' ≠ a := by
      intro heq; subst heq
      exact hne (h.distinct o' o a' h' ha)
    simp only [setTable_table, this, if_false]

theorem get_correct (s : Reg) (t : Abs) (r : Refines s t) (o : Nat) :
    (getCtx currentCfg s o).1 = if t.alive o then t.ctx o else none := by
  rw [r.alive, r.ctx]
  unfold getCtx view Reg.alive
  cases ha : s.addr o with
  | none => simp
  | some a =>
    simp only [Option.isSome_some, if_true]
    cases he : s.table a with
    | none => rfl
    | some e =>
      simp only [currentCfg, Bool.not_true, Bool.false_eq_true, if_false]
      by_cases ht : e.target = o
      · subst ht
        simp [ha]
      · simp [ht]



/-- view of a state in which `o` has died -/
theorem view_kill (s : Reg) (o o' : Nat) :
    view { s with addr := fun x => if x = o then none else s.addr x } o' =
      if o' = o then none else view s o' := by
  unfold view
  dsimp only
  by_cases h : o' = o
  · simp [h]
  · simp [h]

/-- an object is alive, on the abstract side, when it has an address -/
theorem Refines.alive_of_addr {s : Reg} {t : Abs} (r : Refines s t) {o : Nat} {x : Option Nat}
    (ha : s.addr o = x) : t.alive o = x.isSome := by
  rw [r.alive, Reg.alive, ha]

/-- the object `o` dies, in a concrete state `s1` that has the addresses of `s` and, for the other
    objects, its views (`s` itself, or `s` after the weak-reference callback) -/
theorem refines_kill (s : Reg) (t : Abs) (r : Refines s t) (o : Nat) (s1 : Reg)
    (h1 : s1.addr = s.addr) (h2 : s1.next = s.next) (h3 : ∀ o', o' ≠ o → view s1 o' = view s o') :
    Refines { s1 with addr := fun o' => if o' = o then none else s1.addr o' }
      { t with alive := fun o' => if o' = o then false else t.alive o',
               addr := fun o' => if o' = o then none else t.addr o',
               ctx := fun o' => if o' = o then none else t.ctx o' } := by
  constructor
  · simp [r.next, h2]
  · intro o'; simp only [Reg.alive, h1]
    split
    · rfl
    · rw [r.alive]; rfl
  · intro o'; simp only [h1, r.addr]
  · intro o'
    rw [view_kill]
    dsimp only
    split
    · rfl
    · rename_i hne
      rw [r.ctx, h3 o' hne]

theorem refines_step (s : Reg) (t : Abs) (h : Inv s) (r : Refines s t) (op : Op) :
    Refines (step currentCfg s op) (absStep t op) := by
  cases op with
  | alloc a =>
    simp only [step, absStep, abs_addrInUse s t r]
    split
    · exact r
    · constructor
      · simp [r.next]
      · intro o; simp only [Reg.alive, r.next]
        split
        · simp
        · rw [r.alive]; rfl
      · intro o; simp only [r.next, r.addr]
      · intro o
        dsimp only
        rw [r.ctx]
        unfold view
        dsimp only
        by_cases ho : o = s.next
        · subst ho
          have hn : s.addr s.next = none := by
            cases hx : s.addr s.next with
            | none => rfl
            | some a' => exact absurd (h.allocated _ _ hx) (Nat.lt_irrefl _)
          simp only [hn]
          cases he : s.table a with
          | none => simp [he]
          | some e =>
            have := h.targets a e he
            have hne : e.target ≠ s.next := by omega
            simp [he, hne]
        · simp [ho]
  | free o =>
    simp only [step, absStep]
    cases ha : s.addr o with
    | none =>
      simp only [r.alive_of_addr ha, Option.isSome_none, Bool.false_eq_true, if_false]
      exact r
    | some a =>
      simp only [r.alive_of_addr ha, Option.isSome_some, if_true]
      split
      · rename_i e he
        split
        · unfold callback
          simp only [he, currentCfg, Bool.not_true, Bool.false_or, beq_self_eq_true, if_true]
          exact refines_kill s t r o _ rfl rfl (fun o' hne => view_erase_other s h o o' a ha hne)
        · exact refines_kill s t r o s rfl rfl (fun _ _ => rfl)
      · exact refines_kill s t r o s rfl rfl (fun _ _ => rfl)
  | freeQuiet o =>
    simp only [step, absStep]
    cases ha : s.addr o with
    | none =>
      simp only [r.alive_of_addr ha, Option.isSome_none, Bool.false_eq_true, if_false]
      exact r
    | some a =>
      simp only [r.alive_of_addr ha, Option.isSome_some, if_true]
      exact refines_kill s t r o s rfl rfl (fun _ _ => rfl)
  | store o c =>
    simp only [step, absStep]
    cases ha : s.addr o with
    | none =>
      simp only [r.alive_of_addr ha, Option.isSome_none, Bool.false_eq_true, if_false]
      exact r
    | some a =>
      simp only [r.alive_of_addr ha, Option.isSome_some, if_true]
      constructor
      · exact r.next
      · intro o'; rw [r.alive]; rfl
      · intro o'; rw [r.addr]; rfl
      · intro o'
        dsimp only
        unfold view
        dsimp only [Reg.setTable]
        split
        · rename_i heq
          subst heq
          simp [ha]
        · rename_i hne
          rw [r.ctx]
          unfold view
          cases h' : s.addr o' with
          | none => rfl
          | some a' =>
            have : a' ≠ a := by
              intro heq; subst heq
              exact hne (h.distinct o' o a' h' ha)
            simp [this]
  | get o =>
    simp only [step, absStep, getCtx]
    cases ha : s.addr o with
    | none => exact r
    | some a =>
      dsimp only
      cases he : s.table a with
      | none => exact r
      | some e =>
        simp only [currentCfg, Bool.not_true, Bool.false_eq_true, if_false]
        split
        · exact r
        · rename_i hstale
          constructor
          · exact r.next
          · intro o'; rw [r.alive]; rfl
          · intro o'; rw [r.addr]; rfl
          · intro o'
            rw [r.ctx]
            by_cases hoo : o' = o
            · subst hoo
              have : e.target ≠ o' := by
                intro heq
                apply hstale
                simp [heq, Reg.alive, ha]
              unfold view
              simp [setTable_addr, ha, setTable_table, he, this]
            · exact (view_erase_other s h o o' a ha hoo).symm
  | clear o =>
    simp only [step, absStep]
    cases ha : s.addr o with
    | none =>
      simp only [r.alive_of_addr ha, Option.isSome_none, Bool.false_eq_true, if_false]
      exact r
    | some a =>
      simp only [r.alive_of_addr ha, Option.isSome_some, if_true]
      constructor
      · exact r.next
      · intro o'; rw [r.alive]; rfl
      · intro o'; rw [r.addr]; rfl
      · intro o'
        dsimp only
        split
        · rename_i heq
          subst heq
          unfold view
          simp [setTable_addr, ha, setTable_table]
        · rename_i hne
          rw [r.ctx]
          exact (view_erase_other s h o o' a ha hne).symm


theorem inv_run (s : Reg) (ops : List Op) (h : Inv s) : Inv (run currentCfg s ops) := by
  induction ops generalizing s with
  | nil => exact h
  | cons op ops ih => exact ih _ (inv_step s op h)

theorem refines_run (s : Reg) (t : Abs) (ops : List Op) (h : Inv s) (r : Refines s t) :
    Refines (run currentCfg s ops) (absRun t ops) := by
  induction ops generalizing s t with
  | nil => exact r
  | cons op ops ih => exact ih _ _ (inv_step s op h) (refines_step s t h r op)

theorem answers_refine (s : Reg) (t : Abs) (ops : List Op) (h : Inv s) (r : Refines s t) :
    answers currentCfg s ops = absAnswers t ops := by
  induction ops generalizing s t with
  | nil => rfl
  | cons op ops ih =>
    have ih' := ih _ _ (inv_step s op h) (refines_step s t h r op)
    cases op with
    | get o =>
      simp only [answers, absAnswers]
      rw [get_correct s t r o, ih']
    | alloc a => simpa only [answers, absAnswers] using ih'
    | free o => simpa only [answers, absAnswers] using ih'
    | freeQuiet o => simpa only [answers, absAnswers] using ih'
    | store o c => simpa only [answers, absAnswers] using ih'
    | clear o => simpa only [answers, absAnswers] using ih'


/-! ### the abstract registry: objects not yet allocated are dead and have no context -/

def AbsInv (t : Abs) : Prop := ∀ o, t.next ≤ o → t.alive o = false ∧ t.ctx o = none

theorem absInv_init : AbsInv {} := by intro o _; exact ⟨rfl, rfl⟩

theorem absInv_step (t : Abs) (op : Op) (h : AbsInv t) : AbsInv (absStep t op) := by
  have hdead : ∀ o, t.alive o = true → o < t.next := by
    intro o ho
    apply Classical.byContradiction
    intro hn
    have := (h o (by omega)).1
    rw [this] at ho
    cases ho
  cases op with
  | alloc a =>
    simp only [absStep]
    split
    · exact h
    · intro o ho
      dsimp only at ho ⊢
      have hne : o ≠ t.next := by omega
      simp only [hne, if_false]
      exact h o (by omega)
  | free x =>
    simp only [absStep]
    split
    · intro o ho
      dsimp only at ho ⊢
      have := h o ho
      split <;> simp [this]
    · exact h
  | freeQuiet x =>
    simp only [absStep]
    split
    · intro o ho
      dsimp only at ho ⊢
      have := h o ho
      split <;> simp [this]
    · exact h
  | store x c =>
    simp only [absStep]
    split
    · rename_i hx
      intro o ho
      dsimp only at ho ⊢
      have hlt := hdead x hx
      have hne : o ≠ x := by omega
      simp only [hne, if_false]
      exact h o ho
    · exact h
  | get x => exact h
  | clear x =>
    simp only [absStep]
    split
    · intro o ho
      dsimp only at ho ⊢
      have := h o ho
      split <;> simp [this]
    · exact h

theorem absInv_run (t : Abs) (ops : List Op) (h : AbsInv t) : AbsInv (absRun t ops) := by
  induction ops generalizing t with
  | nil => exact h
  | cons op ops ih => exact ih _ (absInv_step t op h)

theorem absAnswers_append (t : Abs) (ops more : List Op) :
    absAnswers t (ops ++ more) = absAnswers t ops ++ absAnswers (absRun t ops) more := by
  induction ops generalizing t with
  | nil => rfl
  | cons op ops ih =>
    cases op <;> simp [absAnswers, absRun, ih]

/-- a newly created object has no context, whatever its address was used for before -/
theorem abs_new_object_clean (t : Abs) (h : AbsInv t) (a : Nat) :
    absAnswers t [.alloc a, .get t.next] = [none] := by
  simp only [absAnswers, absStep]
  split
  · simp [(h t.next (Nat.le_refl _)).1]
  · simp [(h t.next (Nat.le_refl _)).2]

end Nima.Registry
