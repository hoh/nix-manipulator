import NimaVerif.Model.Cost
/-!
Metatheorems about the cost recurrence `calls m e` (C20), for an arbitrary multiplicity function `m`
and arbitrary (unbounded) skeletons: linear upper bound when no edge is doubled, the general upper
bound `size * B ^ ddepth`, monotonicity in `m`, and the exponential lower bound on nested cycles of
edges whose multiplicities multiply to ≥ 2.
-/
namespace Nima.Cost

/-! ### linear bound -/
mutual
  theorem calls_le_size (m : String → String → Nat) :
      ∀ e, allEdges (fun k f => decide (m k f ≤ 1)) e = true → calls m e ≤ size e
    | .node k cs => by
      intro h
      simp only [allEdges] at h
      simp only [calls, size]
      have := callsL_le_sizeL m k cs h
      omega
  theorem callsL_le_sizeL (m : String → String → Nat) (k : String) :
      ∀ cs, allEdgesL (fun k f => decide (m k f ≤ 1)) k cs = true → callsL m k cs ≤ sizeL cs
    | [] => by intro _; simp [callsL, sizeL]
    | (f, c) :: rest => by
      intro h
      simp only [allEdgesL, Bool.and_eq_true, decide_eq_true_eq] at h
      obtain ⟨⟨h1, h2⟩, h3⟩ := h
      simp only [callsL, sizeL]
      have a := calls_le_size m c h2
      have b := callsL_le_sizeL m k rest h3
      have : m k f * calls m c ≤ 1 * calls m c := Nat.mul_le_mul_right _ h1
      omega
end

mutual
  theorem allEdges_of_forall (p : String → String → Bool) (h : ∀ k f, p k f = true) :
      ∀ e, allEdges p e = true
    | .node k cs => by simpa [allEdges] using allEdgesL_of_forall p h k cs
  theorem allEdgesL_of_forall (p : String → String → Bool) (h : ∀ k f, p k f = true) (k : String) :
      ∀ cs, allEdgesL p k cs = true
    | [] => by simp [allEdgesL]
    | (f, c) :: rest => by
      simp only [allEdgesL, Bool.and_eq_true]
      exact ⟨⟨h k f, allEdges_of_forall p h c⟩, allEdgesL_of_forall p h k rest⟩
end

/-! ### size and calls are positive; monotonicity -/
theorem size_pos : ∀ e, 1 ≤ size e
  | .node _ _ => by simp [size]

theorem calls_pos (m : String → String → Nat) : ∀ e, 1 ≤ calls m e
  | .node _ _ => by simp [calls]

mutual
  theorem calls_mono (m m' : String → String → Nat) (hm : ∀ k f, m k f ≤ m' k f) :
      ∀ e, calls m e ≤ calls m' e
    | .node k cs => by
      simp only [calls]
      have := callsL_mono m m' hm k cs
      omega
  theorem callsL_mono (m m' : String → String → Nat) (hm : ∀ k f, m k f ≤ m' k f) (k : String) :
      ∀ cs, callsL m k cs ≤ callsL m' k cs
    | [] => by simp [callsL]
    | (f, c) :: rest => by
      simp only [callsL]
      have a := calls_mono m m' hm c
      have b := callsL_mono m m' hm k rest
      have : m k f * calls m c ≤ m' k f * calls m' c := Nat.mul_le_mul (hm k f) a
      omega
end

/-! ### general upper bound: each doubled edge on a path costs at most a factor `B` -/
mutual
  theorem calls_le_size_pow (m : String → String → Nat) (B : Nat) (hB : 1 ≤ B)
      (hm : ∀ k f, m k f ≤ B) : ∀ e, calls m e ≤ size e * B ^ ddepth m e
    | .node k cs => by
      simp only [calls, size, ddepth]
      have h := callsL_le_sizeL_pow m B hB hm k cs
      have hp : 1 ≤ B ^ ddepthL m k cs := Nat.pow_pos (by omega)
      calc 1 + callsL m k cs ≤ 1 * B ^ ddepthL m k cs + sizeL cs * B ^ ddepthL m k cs := by omega
        _ = (1 + sizeL cs) * B ^ ddepthL m k cs := by rw [Nat.add_mul]
  theorem callsL_le_sizeL_pow (m : String → String → Nat) (B : Nat) (hB : 1 ≤ B)
      (hm : ∀ k f, m k f ≤ B) (k : String) :
      ∀ cs, callsL m k cs ≤ sizeL cs * B ^ ddepthL m k cs
    | [] => by simp [callsL, sizeL]
    | (f, c) :: rest => by
      simp only [callsL, sizeL, ddepthL]
      have a := calls_le_size_pow m B hB hm c
      have b := callsL_le_sizeL_pow m B hB hm k rest
      -- D is the doubled depth of the whole child list
      generalize hD : max ((if 2 ≤ m k f then 1 else 0) + ddepth m c) (ddepthL m k rest) = D
      have hD1 : (if 2 ≤ m k f then 1 else 0) + ddepth m c ≤ D := by omega
      have hD2 : ddepthL m k rest ≤ D := by omega
      have hBpos : 0 < B := by omega
      have t2 : callsL m k rest ≤ sizeL rest * B ^ D :=
        Nat.le_trans b (Nat.mul_le_mul_left _ (Nat.pow_le_pow_right hBpos hD2))
      -- the edge itself costs a factor `B` if it is doubled and nothing otherwise
      have hedge : m k f ≤ B ^ (if 2 ≤ m k f then 1 else 0) := by
        split
        · rw [Nat.pow_one]; exact hm k f
        · rw [Nat.pow_zero]; omega
      have t1 : m k f * calls m c ≤ size c * B ^ D :=
        calc m k f * calls m c
            ≤ B ^ (if 2 ≤ m k f then 1 else 0) * (size c * B ^ ddepth m c) := Nat.mul_le_mul hedge a
          _ = size c * B ^ ((if 2 ≤ m k f then 1 else 0) + ddepth m c) := by rw [Nat.pow_add]; ac_rfl
          _ ≤ size c * B ^ D := Nat.mul_le_mul_left _ (Nat.pow_le_pow_right hBpos hD1)
      calc m k f * calls m c + callsL m k rest ≤ size c * B ^ D + sizeL rest * B ^ D := by omega
        _ = (size c + sizeL rest) * B ^ D := by rw [Nat.add_mul]
end

/-! ### exponential lower bound on nested cycles -/
theorem calls_wrap_ge (m : String → String → Nat) :
    ∀ (path : List (String × String)) (e : Skel), pathMult m path * calls m e ≤ calls m (wrap path e)
  | [], e => by simp [pathMult, wrap]
  | (k, f) :: rest, e => by
    simp only [pathMult, wrap, calls, callsL]
    have ih := calls_wrap_ge m rest e
    have : m k f * (pathMult m rest * calls m e) ≤ m k f * calls m (wrap rest e) :=
      Nat.mul_le_mul_left _ ih
    rw [Nat.mul_assoc]
    omega

theorem calls_nest_ge (m : String → String → Nat) (path : List (String × String)) (e : Skel) :
    ∀ n, pathMult m path ^ n ≤ calls m (nest path n e)
  | 0 => by simpa [nest] using calls_pos m e
  | n + 1 => by
    simp only [nest]
    have ih := calls_nest_ge m path e n
    have h := calls_wrap_ge m path (nest path n e)
    calc pathMult m path ^ (n + 1) = pathMult m path * pathMult m path ^ n := by
          rw [Nat.pow_succ, Nat.mul_comm]
      _ ≤ pathMult m path * calls m (nest path n e) := Nat.mul_le_mul_left _ ih
      _ ≤ _ := h

/-- the form used for findings: a cycle of edges whose multiplicities multiply to at least 2 -/
theorem exp_of_double (m : String → String → Nat) (path : List (String × String)) (e : Skel)
    (h : 2 ≤ pathMult m path) (n : Nat) : 2 ^ n ≤ calls m (nest path n e) :=
  Nat.le_trans (Nat.pow_le_pow_left h n) (calls_nest_ge m path e n)

theorem size_wrap : ∀ (path : List (String × String)) (e : Skel), size (wrap path e) = path.length + size e
  | [], e => by simp [wrap]
  | (k, f) :: rest, e => by
    simp only [wrap, size, sizeL, List.length_cons]
    have := size_wrap rest e
    omega

/-- size of a nested cycle is linear in the depth: the exponential is in the depth, not hidden in size -/
theorem size_nest (path : List (String × String)) (e : Skel) :
    ∀ n, size (nest path n e) = n * path.length + size e
  | 0 => by simp [nest]
  | n + 1 => by
    simp only [nest, size_wrap, size_nest path e n]
    rw [Nat.add_mul]; omega

/-! ### tables -/
/-- `mult t k f` is the value of a row of `t` with key `(k, f)`, or 1 when no row has that key. -/
theorem mult_cases (t : Table) (k f : String) :
    (∃ e ∈ t, e.1 = k ∧ e.2.1 = f ∧ mult t k f = e.2.2) ∨
    (t.any (fun e => e.1 == k && e.2.1 == f) = false ∧ mult t k f = 1) := by
  unfold mult
  cases he : t.find? (fun e => e.1 == k && e.2.1 == f) with
  | some e =>
    have hk := List.find?_some he
    simp only [Bool.and_eq_true, beq_iff_eq] at hk
    exact .inl ⟨e, List.mem_of_find?_eq_some he, hk.1, hk.2, rfl⟩
  | none =>
    refine .inr ⟨?_, rfl⟩
    rw [List.find?_eq_none] at he
    rw [List.any_eq_false]
    exact he

/-- A bound that holds row by row, and of the default 1, holds of `mult`. -/
theorem mult_le_of_rows (t : Table) (m : String → String → Nat) (h1 : ∀ k f, 1 ≤ m k f)
    (h : t.all (fun e => decide (e.2.2 ≤ m e.1 e.2.1)) = true) : ∀ k f, mult t k f ≤ m k f := by
  intro k f
  rcases mult_cases t k f with ⟨e, he, rfl, rfl, hm⟩ | ⟨_, hm⟩
  · rw [hm]
    exact of_decide_eq_true (List.all_eq_true.mp h e he)
  · rw [hm]
    exact h1 k f

/-- A lower bound on every row is one on `mult` at each key that has a row (at every key, if it is
    at most the default 1). -/
theorem le_mult_of_all (t : Table) (B : Nat) (h : t.all (fun e => decide (B ≤ e.2.2)) = true)
    (k f : String) (hk : B ≤ 1 ∨ t.any (fun e => e.1 == k && e.2.1 == f) = true) :
    B ≤ mult t k f := by
  rcases mult_cases t k f with ⟨e, he, _, _, hm⟩ | ⟨hnone, hm⟩
  · rw [hm]
    exact of_decide_eq_true (List.all_eq_true.mp h e he)
  · rw [hm]
    rcases hk with hB | hany
    · exact hB
    · rw [hnone] at hany
      cases hany

theorem mem_doubled {t : Table} {e : String × String × Nat} (he : e ∈ t) (h2 : 2 ≤ e.2.2) :
    (e.1, e.2.1) ∈ doubled t :=
  List.mem_map.mpr ⟨e, List.mem_filter.mpr ⟨he, decide_eq_true h2⟩, rfl⟩

/-! ### today's table: 2 on the recorded entries, 1 elsewhere -/
theorem one_le_mToday (k f : String) : 1 ≤ mToday k f :=
  le_mult_of_all todayTable 1 (by decide) k f (.inl (Nat.le_refl 1))

theorem two_le_mToday {k f : String}
    (h : todayDoubled.any (fun d => d.cls == k && d.field == f) = true) : 2 ≤ mToday k f := by
  refine le_mult_of_all todayTable 2 (by decide) k f (.inr ?_)
  rw [todayTable, List.any_map]
  exact h

end Nima.Cost
