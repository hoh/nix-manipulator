import NimaVerif.Lemmas.FragSafe
/-! Spacing normal form of the piece-level renderer's output (container fragment). Core Lean only. -/
namespace Nima.Frag
open Nima

/-! ### summaries: a piece list read as leading whitespace, first token, "everything between is in
normal form", trailing whitespace -/

theorem comb_assoc (a b c : Summ) : (a.comb b).comb c = a.comb (b.comb c) := by
  cases a <;> cases b <;> cases c <;> simp [Summ.comb, List.append_assoc, Bool.and_assoc]

theorem comb_blank_nil_left (a : Summ) : (Summ.blank []).comb a = a := by cases a <;> simp [Summ.comb]
theorem comb_blank_nil_right (a : Summ) : a.comb (.blank []) = a := by cases a <;> simp [Summ.comb]

theorem summ_append : ∀ (a b : List FP), summ (a ++ b) = (summ a).comb (summ b)
  | [], b => by simp [summ, comb_blank_nil_left]
  | p :: a, b => by simp only [List.cons_append, summ, summ_append a b, comb_assoc]

@[simp] theorem summ_nil : summ [] = .blank [] := rfl
theorem summ_ws (s : Text) : summ [.ws s] = .blank s := by simp [summ, summ1, Summ.comb]
theorem summ_tok (s : Text) : summ [.tok s] = .lexy [] (.tok s) true [] := by simp [summ, summ1, Summ.comb]
theorem summ_cmt (s : Text) : summ [.cmt s] = .lexy [] (.cmt s) true [] := by simp [summ, summ1, Summ.comb]
theorem summ_cons (p : FP) (rest : List FP) : summ (p :: rest) = (summ1 p).comb (summ rest) := rfl

def nl (n : Nat) : Text := List.replicate n '\n'

@[simp] theorem nl_zero : nl 0 = [] := rfl
theorem nl_succ (n : Nat) : nl (n + 1) = '\n' :: nl n := rfl
theorem nl_one : nl 1 = ['\n'] := rfl

theorem isNormalSep_nl_spaces (k : Nat) : isNormalSep ('\n' :: spaces k) = true := by
  have := all_spaces k
  cases k with
  | zero => rfl
  | succ n => simp only [isNormalSep, spaces_succ]; simpa [spaces_succ] using this

theorem isNormalSep_nlnl_spaces (k : Nat) : isNormalSep ('\n' :: '\n' :: spaces k) = true := by
  have := all_spaces k
  simp only [isNormalSep]; exact this

/-- one or two line breaks followed by an indentation run: an acceptable separator in front of
    anything but `;` -/
theorem sepOk_vert (a : Nat) (ha : a ≤ 1) (k : Nat) (x : Lex) (hx : x ≠ .tok [';']) :
    sepOk ('\n' :: nl a ++ spaces k) x = true := by
  have hne : (x != Lex.tok [';']) = true := by simpa using hx
  unfold sepOk
  rw [hne, Bool.true_or, Bool.and_true]
  match a, ha with
  | 0, _ => exact isNormalSep_nl_spaces k
  | 1, _ => exact isNormalSep_nlnl_spaces k

/-! ### summaries of whitespace-only lists and cuts -/

theorem summ_of_concat_nil : ∀ {ps : List FP}, Solid ps → concat ps = [] → summ ps = .blank []
  | [], _, _ => rfl
  | p :: rest, hs, h => by
    obtain ⟨hp, hr⟩ := solid_of_cons hs
    rw [concat_cons] at h
    have h1 : p.text = [] := (List.append_eq_nil_iff.mp h).1
    have h2 := summ_of_concat_nil hr (List.append_eq_nil_iff.mp h).2
    cases p with
    | ws s => simp only [text_ws] at h1; subst h1; simp [summ_cons, summ1, h2, Summ.comb]
    | tok s => exact absurd h1 hp.1
    | cmt s => exact absurd h1 hp.1

/-- the last character of the trailing whitespace -/
def Summ.dropLastWs : Summ → Summ
  | .blank w => .blank w.dropLast
  | .lexy l f i t => .lexy l f i t.dropLast

def Summ.endsWs : Summ → Bool
  | .blank w => !w.isEmpty
  | .lexy _ _ _ t => !t.isEmpty

theorem comb_dropLastWs (a b : Summ) (hb : b.endsWs = true) : (a.comb b).dropLastWs = a.comb b.dropLastWs := by
  cases a <;> cases b <;> simp only [Summ.comb, Summ.dropLastWs, Summ.endsWs, Bool.not_eq_true',
    List.isEmpty_eq_false_iff] at hb ⊢
  · rw [List.dropLast_append_of_ne_nil hb]
  · rw [List.dropLast_append_of_ne_nil hb]

theorem summ_concat_nonempty : ∀ {ps : List FP}, Solid ps → concat ps ≠ [] → (summ ps ≠ .blank [])
  | [], _, h => absurd rfl h
  | p :: rest, hs, h => by
    obtain ⟨hp, hr⟩ := solid_of_cons hs
    cases p with
    | ws s =>
      by_cases hs0 : s = []
      · subst hs0
        simp only [concat_cons, text_ws, List.nil_append] at h
        have := summ_concat_nonempty hr h
        simp only [summ_cons, summ1]
        cases hsr : summ rest with
        | blank w => rw [hsr] at this; simp only [Summ.comb, List.nil_append]; exact this
        | lexy l f i t => simp [Summ.comb]
      · simp only [summ_cons, summ1]
        cases summ rest with
        | blank w => simp [Summ.comb, hs0]
        | lexy l f i t => simp [Summ.comb]
    | tok s => simp only [summ_cons, summ1]; cases summ rest <;> simp [Summ.comb]
    | cmt s => simp only [summ_cons, summ1]; cases summ rest <;> simp [Summ.comb]

/-- a solid list that ends in whitespace: its summary says so -/
theorem endsWs_of_endsWithNL : ∀ {ps : List FP}, Solid ps → endsWithNL (concat ps) = true → (summ ps).endsWs = true
  | [], _, h => by simp [endsWithNL] at h
  | p :: rest, hs, h => by
    obtain ⟨hp, hr⟩ := solid_of_cons hs
    by_cases he : concat rest = []
    · rw [concat_cons, he, List.append_nil] at h
      rw [summ_cons, summ_of_concat_nil hr he, comb_blank_nil_right]
      cases p with
      | ws s =>
        simp only [text_ws] at h
        cases s with
        | nil => simp [endsWithNL] at h
        | cons c r => rfl
      | tok s => simp only [text_tok] at h; rw [hp.2] at h; cases h
      | cmt s => simp only [text_cmt] at h; rw [hp.2] at h; cases h
    · rw [concat_cons, endsWithNL_append_of_ne_nil _ _ he] at h
      have ih := endsWs_of_endsWithNL hr h
      rw [summ_cons]
      cases hsr : summ rest with
      | blank w => rw [hsr] at ih; cases summ1 p <;> simp_all [Summ.comb, Summ.endsWs]
      | lexy l f i t => rw [hsr] at ih; cases summ1 p <;> simp_all [Summ.comb, Summ.endsWs]

theorem summ_dropLastCharP : ∀ {ps : List FP}, Solid ps → (summ ps).endsWs = true →
    summ (dropLastCharP ps) = (summ ps).dropLastWs
  | [], _, h => by simp [Summ.endsWs] at h
  | p :: rest, hs, h => by
    obtain ⟨hp, hr⟩ := solid_of_cons hs
    simp only [dropLastCharP]
    by_cases he : (concat rest).isEmpty = true
    · have h0 : concat rest = [] := by simpa using he
      have hsr := summ_of_concat_nil hr h0
      rw [summ_cons, hsr, comb_blank_nil_right] at h ⊢
      simp only [he, if_true]
      cases p with
      | ws s =>
        by_cases hl : s.length ≤ 1
        · simp only [text_ws, hl, if_true, summ_nil, summ1, Summ.dropLastWs]
          match s, hl with
          | [], _ => rfl
          | [_], _ => rfl
        · simp only [text_ws, hl, if_false, FP.withText, summ_ws, summ1, Summ.dropLastWs]
      | tok s => simp [summ1, Summ.endsWs] at h
      | cmt s => simp [summ1, Summ.endsWs] at h
    · have h0 : concat rest ≠ [] := by simpa using he
      simp only [he, Bool.false_eq_true, if_false]
      have hne := summ_concat_nonempty hr h0
      have hrest : (summ rest).endsWs = true := by
        rw [summ_cons] at h
        cases hsr : summ rest with
        | blank w =>
          rw [hsr] at h hne
          have hw : w ≠ [] := by intro e; subst e; exact hne rfl
          simp [Summ.endsWs, hw]
        | lexy l f i t =>
          rw [hsr] at h
          cases hp1 : summ1 p <;> rw [hp1] at h <;> simpa [Summ.comb, Summ.endsWs] using h
      rw [summ_cons, summ_cons, summ_dropLastCharP hr hrest, comb_dropLastWs _ _ hrest]

/-! ### trivia lists as the parser builds them -/

/-- no two layout markers in a row -/
def Alt : List Trivia → Prop
  | [] => True
  | [_] => True
  | x :: y :: r => ¬ (x.isLayout = true ∧ y.isLayout = true) ∧ Alt (y :: r)

def leadE : List Trivia → Nat
  | .emptyLine :: _ => 1
  | _ => 0

def trailE (ts : List Trivia) : Nat :=
  match ts.getLast? with
  | some .emptyLine => 1
  | _ => 0

theorem leadE_le (ts : List Trivia) : leadE ts ≤ 1 := by
  unfold leadE; split <;> omega
theorem trailE_le (ts : List Trivia) : trailE ts ≤ 1 := by
  unfold trailE; split <;> omega

theorem alt_tail {t : Trivia} {ts : List Trivia} (h : Alt (t :: ts)) : Alt ts := by
  cases ts with
  | nil => trivial
  | cons y r => exact h.2

theorem trailE_cons (t : Trivia) {ts : List Trivia} (h : ts ≠ []) : trailE (t :: ts) = trailE ts := by
  unfold trailE; rw [List.getLast?_cons_of_ne_nil h]

/-- without comments such a list has at most one element -/
theorem alt_noCmt {ts : List Trivia} (hok : TrivOk ts) (ha : Alt ts) (hc : cm ts = []) :
    ts = [] ∨ ts = [.emptyLine] ∨ ts = [.linebreak] := by
  match ts, hok, ha, hc with
  | [], _, _, _ => exact Or.inl rfl
  | .comment c :: _, _, _, hc => simp at hc
  | .comma :: _, hok, _, _ => exact absurd (List.mem_cons_self ..) hok.1
  | [.emptyLine], _, _, _ => exact Or.inr (Or.inl rfl)
  | [.linebreak], _, _, _ => exact Or.inr (Or.inr rfl)
  | .emptyLine :: y :: r, hok, ha, hc =>
    exfalso
    cases y with
    | emptyLine => exact ha.1 ⟨rfl, rfl⟩
    | linebreak => exact ha.1 ⟨rfl, rfl⟩
    | comma => exact hok.1 (by simp)
    | comment c => simp at hc
  | .linebreak :: y :: r, hok, ha, hc =>
    exfalso
    cases y with
    | emptyLine => exact ha.1 ⟨rfl, rfl⟩
    | linebreak => exact ha.1 ⟨rfl, rfl⟩
    | comma => exact hok.1 (by simp)
    | comment c => simp at hc

theorem cmtP_summ {c : Comment} (i : Nat) :
    summ (cmtP c i ++ [.ws ['\n']]) = .lexy (spaces (c.effIndent i)) (.cmt (c.token (c.effIndent i))) true ['\n'] := by
  simp [cmtP, summ_cons, summ1, Summ.comb]

theorem cmt_ne_semi (s : Text) : Lex.cmt s ≠ Lex.tok [';'] := by intro h; cases h

/-- the summary of `format_trivia` on such a list -/
theorem linesP_summ (i : Nat) : ∀ (ts : List Trivia), TrivOk ts → Alt ts →
    (cm ts = [] → summ (linesP i ts) = .blank (nl (leadE ts))) ∧
    (cm ts ≠ [] → ∃ k s, summ (linesP i ts) = .lexy (nl (leadE ts) ++ spaces k) (.cmt s) true ('\n' :: nl (trailE ts)) ∧
      (∀ c rest, ts = .comment c :: rest → k = c.effIndent i))
  | [], _, _ => ⟨fun _ => rfl, fun h => absurd rfl h⟩
  | .comma :: rest, hok, _ => absurd (List.mem_cons_self ..) hok.1
  | .comment c :: rest, hok, ha => by
    have ih := linesP_summ i rest (trivOk_cons hok) (alt_tail ha)
    refine ⟨fun h => by simp at h, fun _ => ?_⟩
    rw [linesP_cons, summ_append]
    simp only [itemP, cmtP_summ]
    by_cases hc : cm rest = []
    · rw [ih.1 hc]
      refine ⟨c.effIndent i, c.token (c.effIndent i), ?_, fun c' rest' he => by injection he with h1 _; injection h1 with h1; subst h1; rfl⟩
      have h0 : leadE (Trivia.comment c :: rest) = 0 := rfl
      rw [h0]
      simp only [Summ.comb, nl_zero, List.nil_append]
      rcases alt_noCmt (trivOk_cons hok) (alt_tail ha) hc with h | h | h <;> subst h <;> rfl
    · obtain ⟨k', s', hs, _⟩ := ih.2 hc
      rw [hs]
      have hne : rest ≠ [] := by intro e; subst e; exact hc rfl
      refine ⟨c.effIndent i, c.token (c.effIndent i), ?_, fun c' rest' he => by injection he with h1 _; injection h1 with h1; subst h1; rfl⟩
      have h0 : leadE (Trivia.comment c :: rest) = 0 := rfl
      rw [h0]
      simp only [Summ.comb, nl_zero, List.nil_append, trailE_cons _ hne, Bool.true_and, Bool.and_true]
      rw [show (['\n'] ++ (nl (leadE rest) ++ spaces k')) = '\n' :: nl (leadE rest) ++ spaces k' from rfl,
        sepOk_vert _ (leadE_le rest) _ _ (cmt_ne_semi _)]
  | .emptyLine :: rest, hok, ha => by
    have ih := linesP_summ i rest (trivOk_cons hok) (alt_tail ha)
    rw [linesP_cons, summ_append]
    simp only [itemP, summ_ws]
    match rest, hok, ha, ih with
    | [], _, _, _ => exact ⟨fun _ => rfl, fun h => absurd rfl h⟩
    | .comma :: r, hok, _, _ => exact absurd (by simp) hok.1
    | .emptyLine :: r, _, ha, _ => exact absurd ⟨rfl, rfl⟩ ha.1
    | .linebreak :: r, _, ha, _ => exact absurd ⟨rfl, rfl⟩ ha.1
    | .comment c :: r, _, _, ih =>
      refine ⟨fun h => by simp at h, fun _ => ?_⟩
      obtain ⟨k', s', hs, hk⟩ := ih.2 (by simp)
      rw [hs]
      refine ⟨k', s', ?_, fun c' rest' he => by cases he⟩
      simp [Summ.comb, leadE, nl_succ, trailE_cons]
  | .linebreak :: rest, hok, ha => by
    have ih := linesP_summ i rest (trivOk_cons hok) (alt_tail ha)
    rw [linesP_cons, summ_append]
    simp only [itemP, summ_nil, comb_blank_nil_left]
    match rest, hok, ha, ih with
    | [], _, _, _ => exact ⟨fun _ => rfl, fun h => absurd rfl h⟩
    | .comma :: r, hok, _, _ => exact absurd (by simp) hok.1
    | .emptyLine :: r, _, ha, _ => exact absurd ⟨rfl, rfl⟩ ha.1
    | .linebreak :: r, _, ha, _ => exact absurd ⟨rfl, rfl⟩ ha.1
    | .comment c :: r, _, _, ih =>
      refine ⟨fun h => by simp at h, fun _ => ?_⟩
      obtain ⟨k', s', hs, hk⟩ := ih.2 (by simp)
      rw [hs]
      refine ⟨k', s', ?_, fun c' rest' he => by cases he⟩
      simp [leadE, trailE_cons]

def TrailT (t : Text) : Prop := t = [] ∨ t = ['\n'] ∨ t = ['\n', '\n']
def VLead (l : Text) : Prop := ∃ a k, a ≤ 1 ∧ l = nl a ++ spaces k
/-- the list is empty or ends with a comment: "closed" in the sense of layout — no line break or blank-line marker
    is left at the end, which the next separator would double. (Not the sense of `Thru`, where it is a line comment
    that is closed.) -/
def closedT (ts : List Trivia) : Prop := ts = [] ∨ ∃ c, ts.getLast? = some (.comment c)

def Summ.trailT : Summ → Text
  | .blank w => w
  | .lexy _ _ _ t => t

theorem trailT_nl (b : Nat) (hb : b ≤ 1) : TrailT ('\n' :: nl b) := by
  match b, hb with
  | 0, _ => exact Or.inr (Or.inl rfl)
  | 1, _ => exact Or.inr (Or.inr rfl)

theorem vlead_nil : VLead [] := ⟨0, 0, by omega, rfl⟩
theorem vlead_spaces (k : Nat) : VLead (spaces k) := ⟨0, k, by omega, rfl⟩
theorem vlead_mk (a k : Nat) (ha : a ≤ 1) : VLead (nl a ++ spaces k) := ⟨a, k, ha, rfl⟩

theorem sepOk_nl_vlead {l : Text} (hl : VLead l) (x : Lex) (hx : x ≠ .tok [';']) : sepOk ('\n' :: l) x = true := by
  obtain ⟨a, k, ha, rfl⟩ := hl
  exact sepOk_vert a ha k x hx

theorem sepOk_space (x : Lex) (hx : x ≠ .tok [';']) : sepOk [' '] x = true := by
  have hne : (x != Lex.tok [';']) = true := by simpa using hx
  simp [sepOk, hne, isNormalSep]

theorem sepOk_nil (x : Lex) : sepOk [] x = true := by simp [sepOk, isNormalSep]

theorem getLast?_concat_comment {ts : List Trivia} {c : Comment} (h : ts.getLast? = some (.comment c)) :
    ∃ init, ts = init ++ [.comment c] := by
  have hne : ts ≠ [] := by intro e; subst e; cases h
  refine ⟨ts.dropLast, ?_⟩
  have h1 := List.dropLast_concat_getLast hne
  have h2 := List.getLast?_eq_some_getLast hne
  rw [h] at h2; injection h2 with h2
  rw [← h2] at h1; exact h1.symm

theorem trailE_of_comment {ts : List Trivia} {c : Comment} (h : ts.getLast? = some (.comment c)) : trailE ts = 0 := by
  unfold trailE; rw [h]

theorem cm_ne_nil_of_last {ts : List Trivia} {c : Comment} (h : ts.getLast? = some (.comment c)) : cm ts ≠ [] := by
  obtain ⟨init, rfl⟩ := getLast?_concat_comment h
  simp

/-- `trim_trailing_layout_newline` on a list that ends with a comment: the trailing line break goes -/
theorem trimmed_summ_comment (i : Nat) {ts all : List Trivia} (hok : TrivOk ts) (ha : Alt ts) {c : Comment}
    (hl : ts.getLast? = some (.comment c)) (hall : all.getLast? = some (.comment c)) :
    ∃ k s, summ (trimP all (linesP i ts)) = .lexy (nl (leadE ts) ++ spaces k) (.cmt s) true [] ∧
      (∀ c' rest, ts = .comment c' :: rest → k = c'.effIndent i) := by
  obtain ⟨k, s, hs, hk⟩ := (linesP_summ i ts hok ha).2 (cm_ne_nil_of_last hl)
  obtain ⟨init, hinit⟩ := getLast?_concat_comment hl
  have hends : endsWithNL (concat (linesP i ts)) = true := by
    rw [hinit, linesP_append, linesP_cons, linesP_nil]
    simp only [itemP, List.append_nil]
    rw [← List.append_assoc]; exact endsWithNL_concat_snoc_nl _
  have hsolid : Solid (linesP i ts) := by rw [← fmtP_lines hok.1]; exact fmtP_solid hok i
  refine ⟨k, s, ?_, hk⟩
  unfold trimP
  rw [hall]
  simp only [Trivia.isLayout, Bool.not_false, Bool.true_and, hends, if_true]
  rw [summ_dropLastCharP hsolid (by rw [hs]; rfl), hs, trailE_of_comment hl]
  rfl

theorem trimP_of_layout_last (all : List Trivia) (ps : List FP)
    (h : all = [] ∨ ∃ t, all.getLast? = some t ∧ t.isLayout = true) : trimP all ps = ps := by
  unfold trimP
  rcases h with h | ⟨t, ht, hl⟩
  · subst h; rfl
  · rw [ht]; simp [hl]

theorem nlBlockP_summ {ps : List FP} (hs : Solid ps) :
    summ (nlBlockP ps) = if summ ps = .blank [] then .blank [] else (Summ.blank ['\n']).comb (summ ps) := by
  unfold nlBlockP
  by_cases he : (concat ps).isEmpty = true
  · have h0 : concat ps = [] := by simpa using he
    simp [he, summ_of_concat_nil hs h0]
  · have h0 : concat ps ≠ [] := by simpa using he
    have := summ_concat_nonempty hs h0
    simp only [he, Bool.false_eq_true, if_false, this]
    rw [summ_cons]; rfl

/-- the shape of a block that starts on a new line after a token: nothing, a blank line, or
    comment lines -/
def BlockS (X : Summ) : Prop :=
  X = .blank [] ∨ X = .blank ['\n', '\n'] ∨
  ∃ l' s t, X = .lexy ('\n' :: l') (.cmt s) true t ∧ VLead l' ∧ TrailT t

theorem last_cases (ts : List Trivia) (hok : TrivOk ts) (hne : ts ≠ []) :
    (∃ c, ts.getLast? = some (.comment c)) ∨ (∃ t, ts.getLast? = some t ∧ t.isLayout = true) := by
  have h2 := List.getLast?_eq_some_getLast hne
  cases hl : ts.getLast hne with
  | comment c => exact Or.inl ⟨c, by rw [h2, hl]⟩
  | emptyLine => exact Or.inr ⟨_, by rw [h2, hl], rfl⟩
  | linebreak => exact Or.inr ⟨_, by rw [h2, hl], rfl⟩
  | comma => exact absurd (by rw [← hl]; exact List.getLast_mem hne) hok.1

theorem block_summ (i : Nat) {ts all : List Trivia} (hok : TrivOk ts) (ha : Alt ts) (hne : ts ≠ [])
    (hall : all.getLast? = ts.getLast?) :
    BlockS (summ (nlBlockP (trimP all (linesP i ts)))) ∧
    (closedT ts → (summ (nlBlockP (trimP all (linesP i ts)))).trailT = []) := by
  have hsolid : Solid (linesP i ts) := by rw [← fmtP_lines hok.1]; exact fmtP_solid hok i
  rcases last_cases ts hok hne with ⟨c, hc⟩ | ⟨t, ht, htl⟩
  · -- ends with a comment
    obtain ⟨k, s, hs, _⟩ := trimmed_summ_comment i hok ha hc (by rw [hall, hc])
    have hsol2 : Solid (trimP all (linesP i ts)) := (trimP_lex all hsolid).2
    rw [nlBlockP_summ hsol2, hs]
    simp only [Summ.comb, reduceCtorEq, if_false]
    exact ⟨Or.inr (Or.inr ⟨_, s, [], rfl, vlead_mk _ _ (leadE_le ts), Or.inl rfl⟩), fun _ => rfl⟩
  · -- ends with a layout marker: nothing is trimmed
    rw [trimP_of_layout_last all _ (Or.inr ⟨t, by rw [hall, ht], htl⟩), nlBlockP_summ hsolid]
    have hncl : ¬ closedT ts := by
      rintro (h | ⟨c, hc⟩)
      · exact hne h
      · rw [ht] at hc; injection hc with hc; subst hc; cases htl
    by_cases hcm : cm ts = []
    · rw [(linesP_summ i ts hok ha).1 hcm]
      rcases alt_noCmt hok ha hcm with h | h | h
      · exact absurd h hne
      · subst h; exact ⟨Or.inr (Or.inl rfl), fun hc => absurd hc hncl⟩
      · subst h; exact ⟨Or.inl rfl, fun hc => absurd hc hncl⟩
    · obtain ⟨k, s, hs, _⟩ := (linesP_summ i ts hok ha).2 hcm
      rw [hs]
      simp only [Summ.comb, reduceCtorEq, if_false]
      exact ⟨Or.inr (Or.inr ⟨_, s, _, rfl, vlead_mk _ _ (leadE_le ts), trailT_nl _ (trailE_le ts)⟩),
        fun hc => absurd hc hncl⟩

/-- the shape of what `apply_trailing_trivia` appends: a block, or an end-of-line comment and a block -/
def TrailS (S : Summ) : Prop :=
  BlockS S ∨ ∃ s t, S = .lexy [' '] (.cmt s) true t ∧ TrailT t

theorem closedT_tail {t : Trivia} {ts : List Trivia} (h : closedT (t :: ts)) (hne : ts ≠ []) : closedT ts := by
  rcases h with h | ⟨c, hc⟩
  · cases h
  · exact Or.inr ⟨c, by rw [List.getLast?_cons_of_ne_nil hne] at hc; exact hc⟩

theorem trailP_summ {after : List Trivia} (hok : TrivOk after) (ha : Alt after) (i : Nat) :
    TrailS (summ (trailP after i)) ∧ (closedT after → (summ (trailP after i)).trailT = []) := by
  have hgen : after ≠ [] → BlockS (summ (nlBlockP (trimP after (fmtP after i)))) ∧
      (closedT after → (summ (nlBlockP (trimP after (fmtP after i)))).trailT = []) := by
    intro hne; rw [fmtP_lines hok.1]; exact block_summ i hok ha hne rfl
  unfold trailP
  match after, hok, ha, hgen with
  | [], _, _, _ => exact ⟨Or.inl (Or.inl rfl), fun _ => rfl⟩
  | .comma :: rest, hok, _, _ => exact absurd (List.mem_cons_self ..) hok.1
  | .emptyLine :: rest, _, _, hgen => exact ⟨Or.inl (hgen (by simp)).1, (hgen (by simp)).2⟩
  | .linebreak :: rest, _, _, hgen => exact ⟨Or.inl (hgen (by simp)).1, (hgen (by simp)).2⟩
  | .comment c :: rest, hok, ha, hgen =>
    simp only
    split
    · rename_i hin
      have hr := trivOk_cons hok
      have har := alt_tail ha
      have hhead : summ (FP.ws [' '] :: cmtP c 0) = .lexy [' '] (.cmt (c.token 0)) true [] := by
        simp [cmtP, Comment.effIndent, hin, summ_cons, summ1, Summ.comb]
      rw [show (FP.ws [' '] :: cmtP c 0 ++ nlBlockP (trimP (Trivia.comment c :: rest) (fmtP rest i))) =
        (FP.ws [' '] :: cmtP c 0) ++ nlBlockP (trimP (Trivia.comment c :: rest) (fmtP rest i)) from rfl,
        summ_append, hhead, fmtP_lines hr.1]
      by_cases hre : rest = []
      · subst hre
        simp only [linesP_nil, trimP_nil_ps, nlBlockP, concat_nil, List.isEmpty_nil, if_true, summ_nil,
          comb_blank_nil_right]
        exact ⟨Or.inr ⟨_, [], rfl, Or.inl rfl⟩, fun _ => rfl⟩
      · have hb := block_summ i (all := Trivia.comment c :: rest) hr har hre (List.getLast?_cons_of_ne_nil hre)
        rcases hb.1 with h | h | ⟨l', s, t, h, hv, ht⟩
        · rw [h]; exact ⟨Or.inr ⟨_, [], rfl, Or.inl rfl⟩, fun _ => rfl⟩
        · rw [h] at hb ⊢
          refine ⟨Or.inr ⟨_, _, rfl, Or.inr (Or.inr rfl)⟩, fun hc => ?_⟩
          have := hb.2 (closedT_tail hc hre); simp [Summ.trailT] at this
        · rw [h] at hb ⊢
          simp only [Summ.comb, List.nil_append, sepOk_nl_vlead hv _ (cmt_ne_semi s), Bool.and_self]
          exact ⟨Or.inr ⟨_, t, rfl, ht⟩, fun hc => hb.2 (closedT_tail hc hre)⟩
    · exact ⟨Or.inl (hgen (by simp)).1, (hgen (by simp)).2⟩

theorem token_head_ne_nl {c : Comment} (hc : cOk c) (j : Nat) : startsWithNL (c.token j) = false := by
  unfold Comment.token
  cases hk : c.kind with
  | line =>
    simp only
    rw [str_line_of_no_nl c hc]
    split
    · rfl
    · split
      · rfl
      · split <;> rfl
  | block doc ii =>
    simp only [show containsNL c.text = false from hc, Bool.false_eq_true, if_false]
    cases doc <;> rfl

theorem startsWithNL_spaces_append (k : Nat) (s : Text) (hs : startsWithNL s = false) :
    startsWithNL (spaces k ++ s) = false := by
  cases k with
  | zero => simpa using hs
  | succ n => rfl

theorem linesP_comment_not_nl (i : Nat) {c : Comment} (hc : cOk c) (r : List Trivia) :
    startsWithNL (concat (linesP i (.comment c :: r))) = false := by
  rw [linesP_cons]
  simp only [itemP, cmtP, List.cons_append, List.nil_append, concat_cons, text_ws, text_cmt]
  apply startsWithNL_spaces_append
  have h1 := token_head_ne_nl hc (c.effIndent i)
  have hne := token_ne_nil c (c.effIndent i) (cOk_tokenLike hc)
  cases ht : c.token (c.effIndent i) with
  | nil => exact absurd ht hne
  | cons a r' => rw [ht] at h1; simpa [startsWithNL] using h1

theorem closedT_append_of_closed {a b : List Trivia} (hb : b ≠ []) (h : closedT (a ++ b)) : closedT b := by
  rcases h with h | ⟨c, hc⟩
  · exact absurd (List.append_eq_nil_iff.mp h).2 hb
  · refine Or.inr ⟨c, ?_⟩
    rw [List.getLast?_append] at hc
    cases hb' : b.getLast? with
    | none => exact absurd (List.getLast?_eq_none_iff.mp hb') hb
    | some t => rw [hb'] at hc; simpa using hc

theorem blank_concat : ∀ {ps : List FP} {w : Text}, summ ps = .blank w → concat ps = w
  | [], w, h => by
    simp only [summ_nil, Summ.blank.injEq] at h
    rw [← h]; rfl
  | p :: rest, w, h => by
    rw [summ_cons] at h
    cases p with
    | ws s =>
      cases hr : summ rest with
      | blank w' =>
        rw [hr] at h; simp only [summ1, Summ.comb] at h; injection h with h
        rw [concat_cons, blank_concat hr, text_ws]; exact h
      | lexy l f i t => rw [hr] at h; simp [summ1, Summ.comb] at h
    | tok s => cases hr : summ rest <;> (rw [hr] at h; simp [summ1, Summ.comb] at h)
    | cmt s => cases hr : summ rest <;> (rw [hr] at h; simp [summ1, Summ.comb] at h)

/-- the rendered text ends with a line break exactly when the trailing whitespace does -/
theorem endsWithNL_summ : ∀ {ps : List FP}, Solid ps → endsWithNL (concat ps) = endsWithNL (summ ps).trailT
  | [], _ => rfl
  | p :: rest, hs => by
    obtain ⟨hp, hr⟩ := solid_of_cons hs
    have ih := endsWithNL_summ hr
    by_cases he : concat rest = []
    · rw [concat_cons, he, List.append_nil, summ_cons, summ_of_concat_nil hr he, comb_blank_nil_right]
      cases p with
      | ws s => rfl
      | tok s => simp only [text_tok, summ1, Summ.trailT]; rw [hp.2]; rfl
      | cmt s => simp only [text_cmt, summ1, Summ.trailT]; rw [hp.2]; rfl
    · rw [concat_cons, endsWithNL_append_of_ne_nil _ _ he, ih, summ_cons]
      cases hsr : summ rest with
      | blank w =>
        have hw : w ≠ [] := by intro e; subst e; exact he (blank_concat hsr)
        cases p with
        | ws s => simp only [summ1, Summ.comb, Summ.trailT]; rw [endsWithNL_append_of_ne_nil _ _ hw]
        | tok s => simp [summ1, Summ.comb, Summ.trailT]
        | cmt s => simp [summ1, Summ.comb, Summ.trailT]
      | lexy l f i t => cases p <;> simp [summ1, Summ.comb, Summ.trailT]

theorem endsWithNL_nl_cons (b : Nat) : endsWithNL ('\n' :: nl b) = true := by
  have : ('\n' :: nl b) = nl b ++ ['\n'] := by
    induction b with
    | zero => rfl
    | succ n ih => rw [nl_succ, List.cons_append, ← ih]
  rw [this]; simp [endsWithNL]

/-- the shape of what `Binding.rebuild` writes after `;` -/
theorem bindingTailP_summ {after : List Trivia} (hok : TrivOk after) (ha : Alt after) (i : Nat) :
    TrailS (summ (bindingTailP after i)) ∧ (closedT after → (summ (bindingTailP after i)).trailT = []) := by
  unfold bindingTailP
  match after, hok, ha with
  | [], hok, ha => exact trailP_summ hok ha i
  | .emptyLine :: rest, hok, ha => exact trailP_summ hok ha i
  | .comma :: rest, hok, ha => exact trailP_summ hok ha i
  | .comment c :: rest, hok, ha => exact trailP_summ hok ha i
  | .linebreak :: rest, hok, ha =>
    have hr := trivOk_cons hok
    have har := alt_tail ha
    simp only [fmtP_lines hr.1 i]
    match rest, hr, ha, har with
    | [], _, _, _ =>
      have e : (if endsWithNL (concat (if startsWithNL (concat (linesP i [])) = true then linesP i []
            else FP.ws ['\n'] :: linesP i [])) = true
          then dropLastCharP (if startsWithNL (concat (linesP i [])) = true then linesP i [] else FP.ws ['\n'] :: linesP i [])
          else (if startsWithNL (concat (linesP i [])) = true then linesP i [] else FP.ws ['\n'] :: linesP i [])) = [] := by
        simp [linesP_nil, startsWithNL, endsWithNL, dropLastCharP]
      rw [e]
      exact ⟨Or.inl (Or.inl rfl), fun _ => rfl⟩
    | .comma :: r, hr, _, _ => exact absurd (List.mem_cons_self ..) hr.1
    | .emptyLine :: r, _, ha, _ => exact absurd ⟨rfl, rfl⟩ ha.1
    | .linebreak :: r, _, ha, _ => exact absurd ⟨rfl, rfl⟩ ha.1
    | .comment c :: r, hr, _, har =>
      have hc : cOk c := hr.2 c (List.mem_cons_self ..)
      obtain ⟨k, s, hs, _⟩ := (linesP_summ i _ hr har).2 (by simp)
      have hsolid : Solid (linesP i (.comment c :: r)) := by rw [← fmtP_lines hr.1]; exact fmtP_solid hr i
      rw [linesP_comment_not_nl i hc r]
      simp only [Bool.false_eq_true, if_false]
      have hs2 : summ (FP.ws ['\n'] :: linesP i (.comment c :: r)) =
          .lexy ('\n' :: spaces k) (.cmt s) true ('\n' :: nl (trailE (.comment c :: r))) := by
        rw [summ_cons, hs]; simp [summ1, Summ.comb, leadE]
      have hsol2 : Solid (FP.ws ['\n'] :: linesP i (.comment c :: r)) := solid_cons (solid_ws _) hsolid
      have hends : endsWithNL (concat (FP.ws ['\n'] :: linesP i (.comment c :: r))) = true := by
        rw [endsWithNL_summ hsol2, hs2]; exact endsWithNL_nl_cons _
      rw [hends]
      simp only [if_true]
      rw [summ_dropLastCharP hsol2 (by rw [hs2]; rfl), hs2]
      simp only [Summ.dropLastWs]
      refine ⟨Or.inl (Or.inr (Or.inr ⟨spaces k, s, _, rfl, vlead_spaces k, ?_⟩)), fun hcl => ?_⟩
      · have := trailE_le (.comment c :: r)
        match htr : trailE (.comment c :: r), this with
        | 0, _ => exact Or.inl rfl
        | 1, _ => exact Or.inr (Or.inl rfl)
      · have hcl' := closedT_append_of_closed (a := [Trivia.linebreak]) (b := .comment c :: r) (by simp) hcl
        rcases hcl' with h | ⟨c', hc'⟩
        · cases h
        · simp [Summ.trailT, trailE_of_comment hc']

/-! ### multi-line blocks, and an expression's core between its leading and trailing trivia (`wrap_summ`) -/

theorem tok_ne_semi_of {c : Char} (hc : c ≠ ';') : Lex.tok [c] ≠ Lex.tok [';'] := by
  intro h; injection h with h; injection h with h; exact hc h

theorem trailT_sep_spaces {tb : Text} (ht : TrailT tb) (i : Nat) (x : Lex) (hx : x ≠ .tok [';']) :
    sepOk (tb ++ (if endsWithNL tb then [] else ['\n']) ++ spaces i) x = true := by
  rcases ht with h | h | h <;> subst h
  · exact sepOk_vert 0 (by omega) i x hx
  · exact sepOk_vert 0 (by omega) i x hx
  · exact sepOk_vert 1 (by omega) i x hx

theorem indentP_summ (i : Nat) (b : Bool) : summ (indentP i b) = .blank (if b then [] else spaces i) := by
  unfold indentP; split
  · rfl
  · exact summ_ws _

/-- `multilineBlockP` without the leading trivia: `{indent}{opener}\n{body}{sep}{indent}{closer}` -/
def blockCore (op body : List FP) (closer : Char) (i : Nat) (b s : Bool) : List FP :=
  indentP i b ++ op ++ [.ws ['\n']] ++ body ++
    (if ((concat body).isEmpty && !s) || endsWithNL (concat body) then [] else [.ws ['\n']]) ++
    [.ws (spaces i), .tok [closer]]

theorem multilineBlockP_eq (bp op body : List FP) (closer : Char) (i : Nat) (b s : Bool) :
    multilineBlockP bp op body closer i b s = bp ++ blockCore op body closer i b s := by
  simp [multilineBlockP, blockCore, List.append_assoc]

/-- `{indent}{opener}\n{body}{sep}{indent}{closer}` around a body of items -/
theorem block_items_summ {op body : List FP} {fo : Lex} (hop : summ op = .lexy [] fo true [])
    {lb tb : Text} {fb : Lex} (hbody : summ body = .lexy lb fb true tb) (hsol : Solid body)
    (hlb : VLead lb) (hfb : fb ≠ .tok [';']) (htb : TrailT tb) (closer : Char) (hcl : closer ≠ ';')
    (i : Nat) (b s : Bool) :
    summ (blockCore op body closer i b s) = .lexy (if b then [] else spaces i) fo true [] := by
  unfold blockCore
  have hne : (concat body).isEmpty = false := by
    cases he : (concat body).isEmpty with
    | false => rfl
    | true =>
      have : concat body = [] := by simpa using he
      have := summ_of_concat_nil hsol this; rw [hbody] at this; cases this
  have hend : endsWithNL (concat body) = endsWithNL tb := by rw [endsWithNL_summ hsol, hbody]; rfl
  have hsep : summ (if ((concat body).isEmpty && !s) || endsWithNL (concat body) then [] else [FP.ws ['\n']]) =
      .blank (if endsWithNL tb then [] else ['\n']) := by
    rw [hne, hend]; simp only [Bool.false_and, Bool.false_or]
    split
    · rfl
    · exact summ_ws _
  simp only [summ_append, indentP_summ, hop, hbody, hsep, summ_cons, summ_nil, summ1]
  simp only [Summ.comb, List.nil_append, List.append_nil, Bool.true_and, Bool.and_true]
  rw [show (['\n'] ++ lb) = '\n' :: lb from rfl, sepOk_nl_vlead hlb fb hfb]
  have := trailT_sep_spaces htb i (.tok [closer]) (tok_ne_semi_of hcl)
  simp only [List.append_assoc] at this ⊢
  rw [this]
  rfl

/-- the same around inner trivia (no items) -/
theorem block_inner_summ {op : List FP} {fo : Lex} (hop : summ op = .lexy [] fo true [])
    {inner : List Trivia} (hok : TrivOk inner) (ha : Alt inner) (closer : Char) (hcl : closer ≠ ';')
    (i j : Nat) (b : Bool) :
    summ (blockCore op (linesP j inner) closer i b false) = .lexy (if b then [] else spaces i) fo true [] := by
  unfold blockCore
  have hsol : Solid (linesP j inner) := by rw [← fmtP_lines hok.1]; exact fmtP_solid hok j
  have hx := tok_ne_semi_of hcl
  by_cases hc : cm inner = []
  · have hs := (linesP_summ j inner hok ha).1 hc
    have hcat := blank_concat hs
    have hsep : summ (if ((concat (linesP j inner)).isEmpty && !false) || endsWithNL (concat (linesP j inner)) then []
        else [FP.ws ['\n']]) = .blank [] := by
      rw [hcat]
      have := leadE_le inner
      match hl : leadE inner, this with
      | 0, _ => rfl
      | 1, _ => rfl
    simp only [summ_append, indentP_summ, hop, hs, hsep, summ_cons, summ_nil, summ1]
    simp only [Summ.comb, List.nil_append, List.append_nil, Bool.true_and, Bool.and_true]
    have := sepOk_vert (leadE inner) (leadE_le inner) i (.tok [closer]) hx
    rw [show (['\n'] ++ nl (leadE inner) ++ spaces i) = '\n' :: nl (leadE inner) ++ spaces i from rfl, this]
  · obtain ⟨k, s, hs, _⟩ := (linesP_summ j inner hok ha).2 hc
    have hend : endsWithNL (concat (linesP j inner)) = true := by
      rw [endsWithNL_summ hsol, hs]; exact endsWithNL_nl_cons _
    have hsep : summ (if ((concat (linesP j inner)).isEmpty && !false) || endsWithNL (concat (linesP j inner)) then []
        else [FP.ws ['\n']]) = .blank [] := by
      rw [hend]; simp
    simp only [summ_append, indentP_summ, hop, hs, hsep, summ_cons, summ_nil, summ1]
    simp only [Summ.comb, List.nil_append, List.append_nil, Bool.true_and, Bool.and_true]
    rw [show (['\n'] ++ (nl (leadE inner) ++ spaces k)) = '\n' :: nl (leadE inner) ++ spaces k from rfl,
      sepOk_vert _ (leadE_le inner) _ _ (cmt_ne_semi s),
      show ('\n' :: nl (trailE inner) ++ spaces i) = '\n' :: nl (trailE inner) ++ spaces i from rfl,
      sepOk_vert _ (trailE_le inner) _ _ hx]
    rfl

def semi : Lex := .tok [';']

def headCmt : List Trivia → Prop
  | .comment _ :: _ => True
  | _ => False

theorem trailS_trailT {S : Summ} (h : TrailS S) : TrailT S.trailT := by
  rcases h with (h | h | ⟨l', s, t, h, _, ht⟩) | ⟨s, t, h, ht⟩
  · rw [h]; exact Or.inl rfl
  · rw [h]; exact Or.inr (Or.inr rfl)
  · rw [h]; exact ht
  · rw [h]; exact ht

theorem vlead_indent (a : Nat) (ha : a ≤ 1) (i : Nat) (b : Bool) : VLead (nl a ++ (if b then [] else spaces i)) := by
  cases b
  · exact vlead_mk a i ha
  · exact ⟨a, 0, ha, by simp⟩

theorem sepOk_vert_indent (a : Nat) (ha : a ≤ 1) (i : Nat) (b : Bool) (x : Lex) (hx : x ≠ .tok [';']) :
    sepOk ('\n' :: nl a ++ (if b then [] else spaces i)) x = true := by
  cases b
  · exact sepOk_vert a ha i x hx
  · have := sepOk_vert a ha 0 x hx; simpa using this

/-- leading trivia, an indented core that starts and ends with a token, a trailing block -/
theorem wrap_summ {before : List Trivia} (hok : TrivOk before) (ha : Alt before) {coreI T : List FP} {fc : Lex}
    (i : Nat) (b : Bool) (hcore : summ coreI = .lexy (if b then [] else spaces i) fc true []) (hfc : fc ≠ semi)
    (hT : TrailS (summ T)) :
    ∃ l f, summ (linesP i before ++ coreI ++ T) = .lexy l f true (summ T).trailT ∧ f ≠ semi ∧ VLead l ∧
      (before = [] → l = if b then [] else spaces i) ∧ (headCmt before → i = 0 → l = []) ∧
      (leadE before = 0 → ∃ k, l = spaces k) := by
  -- the leading part
  have hlead : ∃ l f, summ (linesP i before ++ coreI) = .lexy l f true [] ∧ f ≠ semi ∧ VLead l ∧
      (before = [] → l = if b then [] else spaces i) ∧ (headCmt before → i = 0 → l = []) ∧
      (leadE before = 0 → ∃ k, l = spaces k) := by
    rw [summ_append, hcore]
    by_cases hc : cm before = []
    · rw [(linesP_summ i before hok ha).1 hc]
      refine ⟨_, fc, rfl, hfc, vlead_indent _ (leadE_le before) i b, fun h => by subst h; rfl, fun h => ?_,
        fun h0 => ?_⟩
      · cases before with
        | nil => exact absurd h (by simp [headCmt])
        | cons t r => cases t <;> simp [headCmt] at h; simp at hc
      · rw [h0]
        cases b
        · exact ⟨i, by simp⟩
        · exact ⟨0, by simp⟩
    · obtain ⟨k, s, hs, hk⟩ := (linesP_summ i before hok ha).2 hc
      rw [hs]
      simp only [Summ.comb, Bool.true_and, Bool.and_true]
      rw [show ('\n' :: nl (trailE before) ++ if b = true then [] else spaces i) =
        '\n' :: nl (trailE before) ++ (if b then [] else spaces i) from rfl,
        sepOk_vert_indent _ (trailE_le before) i b fc hfc]
      refine ⟨_, _, rfl, cmt_ne_semi s, vlead_mk _ _ (leadE_le before), fun h => by subst h; simp at hc, fun h hi => ?_,
        fun h0 => ⟨k, by rw [h0]; simp⟩⟩
      cases before with
      | nil => exact absurd rfl hc
      | cons t r =>
        cases t with
        | comment c =>
          have := hk c r rfl
          subst hi
          have hz : c.effIndent 0 = 0 := by unfold Comment.effIndent; split <;> rfl
          rw [this, hz]; rfl
        | emptyLine => simp [headCmt] at h
        | linebreak => simp [headCmt] at h
        | comma => simp [headCmt] at h
  obtain ⟨l, f, hs, hf, hl, h1, h2, h3⟩ := hlead
  refine ⟨l, f, ?_, hf, hl, h1, h2, h3⟩
  rw [summ_append, hs]
  rcases hT with (h | h | ⟨l', s, t, h, hv, _⟩) | ⟨s, t, h, _⟩
  · rw [h]; rfl
  · rw [h]; rfl
  · rw [h]; simp only [Summ.comb, Summ.trailT, List.nil_append, Bool.and_true,
      sepOk_nl_vlead hv _ (cmt_ne_semi s)]
  · rw [h]; simp only [Summ.comb, Summ.trailT, List.nil_append, Bool.and_true,
      sepOk_space _ (cmt_ne_semi s)]

/-! ### the layout invariants of expressions (`nfInv`, `inlineClean`), the shape of a rendered expression's
summary (`ExprS`), and the leaf and call-comment cases -/

def nonLastClosed : List Expr → Prop
  | [] => True
  | [_] => True
  | x :: y :: r => closedT (x.effAfter false) ∧ nonLastClosed (y :: r)

/-- children of a container written on one line: no leading trivia, trailing trivia ends with a comment -/
def allFlat : List Expr → Prop
  | [] => True
  | x :: r => x.before = [] ∧ closedT (x.effAfter false) ∧ allFlat r

mutual
/-- the layout invariants of expressions as `Cst.parse` builds them (`Lemmas/FragNFParse.lean`) -/
def Expr.nfInv : Expr → Prop
  | .leaf _ t b a => t ≠ [';'] ∧ Alt b ∧ Alt a
  | .list v _ inner b a => allNfInv v ∧ Alt inner ∧ Alt b ∧ Alt a ∧ nonLastClosed v
  | .set v _ _ inner b a => allNfInv v ∧ Alt inner ∧ Alt b ∧ Alt a ∧ nonLastClosed v
  | .binding n v vg b a => n ≠ [';'] ∧ v.nfInv ∧ v.notBinding = true ∧ Alt b ∧ Alt (v.after ++ a) ∧ Alt v.after ∧
      (bindOnNewline vg v.before = false → v.before = [])
  -- the value of a parenthesis: trailing trivia closed, no blank-line marker in front
  | .paren v _ _ _ _ b a => v.nfInv ∧ closedT (v.effAfter false) ∧ leadE v.before = 0 ∧ Alt b ∧ Alt a
  -- function without trivia of its own; an argument on its own line: no blank-line marker in front
  | .app n x g _ b a => n.nfInv ∧ x.nfInv ∧ n.before = [] ∧
      ((Layout.fromGap g).onNewline = true → leadE x.before = 0) ∧ Alt b ∧ Alt a
  -- `with`: environment without trivia of its own, no comment after the keyword; `assert`: outside the
  -- spacing theorem (`File.basic`)
  | .wth env body awc _ asc b a => env.nfInv ∧ env.before = [] ∧ awc = [] ∧ body.nfInv ∧ Alt b ∧ Alt a
  | .asrt .. => False
  | .sel e _ _ ab b a => e.nfInv ∧ e.before = [] ∧ ab = [] ∧ Alt b ∧ Alt a
  | .selOr e _ _ ab d _ db b a =>
    e.nfInv ∧ e.before = [] ∧ ab = [] ∧ d.nfInv ∧ d.before = [] ∧ db = [] ∧ Alt b ∧ Alt a
  | .lam n bcc _ k body b a =>
    body.nfInv ∧ bcc = [] ∧ k ≤ 1 ∧ (k = 0 → body.before = []) ∧ n ≠ [';'] ∧ Alt b ∧ Alt a
  | .un op e _ bt b a => e.nfInv ∧ e.before = [] ∧ bt = [] ∧ op ≠ [';'] ∧ Alt b ∧ Alt a
  | .bin op l r _ _ b a => l.nfInv ∧ l.before = [] ∧ r.nfInv ∧ r.before = [] ∧ op ≠ [';'] ∧ Alt b ∧ Alt a
  -- `if`: condition and branches without leading trivia, no comment in the five gaps
  | .ite c t e cg aic aig btc _ atc _ bec _ aec _ b a =>
    c.nfInv ∧ c.before = [] ∧ t.nfInv ∧ t.before = [] ∧ e.nfInv ∧ e.before = [] ∧ cg = aig ∧ aic = [] ∧ btc = [] ∧
      atc = [] ∧ bec = [] ∧ aec = [] ∧ Alt b ∧ Alt a
  | .has e attrs _ _ bq aq b a => e.nfInv ∧ e.before = [] ∧ bq = [] ∧ aq = [] ∧ (∀ x ∈ attrs, x ≠ [';']) ∧ Alt b ∧ Alt a
def allNfInv : List Expr → Prop
  | [] => True
  | e :: rest => e.nfInv ∧ allNfInv rest
end

mutual
/-- THE EXCLUSION of the spacing theorem: in a container written on one line no item has leading
    trivia (a comment in front of it) and every item's trailing trivia ends with a comment.
    (`cex_block_comment_after_opener`: `{ /* c */ a = 1; }` comes out as `{   /* c */⏎a = 1; }`.)
    The second half always holds for what `Cst.parse` builds (nothing in a one-line container can
    produce a layout marker: `Lemmas/FragFlat.lean`), so the theorem's exclusion is the first. -/
def Expr.inlineClean : Expr → Prop
  | .leaf .. => True
  | .list v ml _ _ _ => (ml = false → allFlat v) ∧ allInlineClean v
  | .set v ml _ _ _ _ => (ml = false → allFlat v) ∧ allInlineClean v
  | .binding _ v _ _ _ => v.inlineClean
  | .paren v lg _ _ _ _ _ => ((Layout.fromGap lg).onNewline = false → v.before = []) ∧ v.inlineClean
  | .app n x g _ _ _ => ((Layout.fromGap g).onNewline = false → x.before = []) ∧ n.inlineClean ∧ x.inlineClean
  | .wth env body _ _ _ _ _ => env.inlineClean ∧ body.inlineClean
  | .asrt .. => False
  | .sel e _ _ _ _ _ => e.inlineClean
  | .selOr e _ _ _ d _ _ _ _ => e.inlineClean ∧ d.inlineClean
  | .lam _ _ _ _ body _ _ => body.inlineClean
  | .un _ e _ _ _ _ => e.inlineClean
  -- at most one blank line in front of / after a binary operator (`cex_blank_lines_around_operator`)
  | .bin _ l r ogl rgl _ _ => ogl ≤ 2 ∧ rgl ≤ 2 ∧ l.inlineClean ∧ r.inlineClean
  | .ite c t e _ _ _ _ _ _ _ _ _ _ _ _ _ => c.inlineClean ∧ t.inlineClean ∧ e.inlineClean
  | .has e _ _ _ _ _ _ _ => e.inlineClean
def allInlineClean : List Expr → Prop
  | [] => True
  | e :: rest => e.inlineClean ∧ allInlineClean rest
end

/-- what the summary of a rendered expression looks like -/
def ExprS (e : Expr) (na : Bool) (i : Nat) (b : Bool) (S : Summ) : Prop :=
  ∃ l f t, S = .lexy l f true t ∧ f ≠ semi ∧ VLead l ∧ TrailT t ∧
    (e.before = [] → l = if b then [] else spaces i) ∧ (headCmt e.before → i = 0 → l = []) ∧
    (closedT (e.effAfter na) → t = []) ∧ (leadE e.before = 0 → ∃ k, l = spaces k)

theorem alt_dropWhile (p : Trivia → Bool) : ∀ {ts : List Trivia}, Alt ts → Alt (ts.dropWhile p)
  | [], _ => trivial
  | t :: rest, h => by
    rw [List.dropWhile_cons]; split
    · exact alt_dropWhile p (alt_tail h)
    · exact h

theorem leafBefore_alt (k : LeafKind) (t : Text) {b : List Trivia} (h : Alt b) (i : Nat) (inl : Bool) :
    Alt (leafBefore k t b i inl) := by
  unfold leafBefore; split
  · simp only; split
    · exact alt_dropWhile _ h
    · exact h
  · exact h

theorem leafBefore_headCmt (k : LeafKind) (t : Text) {b : List Trivia} (h : headCmt b) (i : Nat) (inl : Bool) :
    leafBefore k t b i inl = b := by
  cases b with
  | nil => exact absurd h (by simp [headCmt])
  | cons x r =>
    cases x with
    | comment c =>
      unfold leafBefore; split
      · simp [trimLeadingLayoutTrivia, Trivia.isLayout]
      · rfl
    | emptyLine => simp [headCmt] at h
    | linebreak => simp [headCmt] at h
    | comma => simp [headCmt] at h

theorem alt_ite_nil (na : Bool) {a : List Trivia} (h : Alt a) : Alt (if na = true then [] else a) := by
  split
  · trivial
  · exact h

theorem leadE_dropWhile (ts : List Trivia) : leadE (ts.dropWhile Trivia.isLayout) = 0 := by
  induction ts with
  | nil => rfl
  | cons t r ih =>
    rw [List.dropWhile_cons]; split
    · exact ih
    · rename_i h; cases t <;> simp_all [leadE, Trivia.isLayout]

theorem leafBefore_leadE (k : LeafKind) (t : Text) {b : List Trivia} (h : leadE b = 0) (i : Nat) (inl : Bool) :
    leadE (leafBefore k t b i inl) = 0 := by
  unfold leafBefore; split
  · simp only; split
    · exact leadE_dropWhile b
    · exact h
  · exact h

theorem effIndent_zero (c : Comment) : c.effIndent 0 = 0 := by unfold Comment.effIndent; split <;> rfl

theorem fnOk_inline : ∀ {fa : List Comment}, fnOk fa → ∀ c ∈ fa, c.inline = true
  | [], _, c, hc => by cases hc
  | [d], h, c, hc => by simp only [List.mem_singleton] at hc; subst hc; exact h
  | d :: d' :: r, h, c, hc => by
    rcases List.mem_cons.mp hc with h1 | h1
    · subst h1; exact h.1
    · exact fnOk_inline h.2.2 c h1

/-- the comments after the function of a call: each after one space -/
theorem fnAfterP_summ : ∀ (fa : List Comment) (acc : List FP) (i : Nat) (l : Text) (f : Lex),
    (∀ c ∈ fa, c.inline = true) → summ acc = .lexy l f true [] → summ (fnAfterP acc fa i) = .lexy l f true []
  | [], acc, i, l, f, _, h => h
  | c :: rest, acc, i, l, f, hin, h => by
    have hc := hin c (List.mem_cons_self ..)
    simp only [fnAfterP, hc, if_true]
    apply fnAfterP_summ rest _ i l f (fun c' h' => hin c' (List.mem_cons_of_mem _ h'))
    have hcm : summ (cmtP c 0) = .lexy [] (.cmt (c.token 0)) true [] := by
      simp [cmtP, effIndent_zero, spaces, summ_cons, summ1, Summ.comb]
    rw [summ_append, summ_append, h, hcm]
    split
    · simp [Summ.comb, sepOk_nil]
    · simp only [summ_ws, Summ.comb, List.nil_append, List.append_nil, Bool.true_and, Bool.and_true]
      rw [sepOk_space _ (cmt_ne_semi _)]

theorem leadE_zero_of_nil : leadE ([] : List Trivia) = 0 := rfl

/-- the argument of a call on its own line -/
theorem arg_on_summ {A : List FP} {k : Nat} {f : Lex} (sp : Text) (ai : Nat) (hs : summ A = .lexy (spaces k) f true [])
    (hsep : ∀ k', sepOk (sp ++ spaces k') f = true) (c : Bool) :
    ∃ la, summ (FP.ws sp :: (if c = true then FP.ws (spaces ai) :: A else A)) = .lexy la f true [] ∧ sepOk la f = true := by
  cases c
  · exact ⟨sp ++ spaces k, by simp [summ_cons, hs, summ1, Summ.comb], hsep _⟩
  · exact ⟨sp ++ (spaces ai ++ spaces k), by simp [summ_cons, hs, summ1, Summ.comb], by rw [← spaces_add]; exact hsep _⟩


theorem endsWithNL_nil' : endsWithNL ([] : Text) = false := rfl

theorem sepOk_nl (k : Nat) (x : Lex) (hx : x ≠ .tok [';']) : sepOk ('\n' :: spaces k) x = true := by
  have := sepOk_vert 0 (by omega) k x hx; simpa using this
theorem sepOk_nlnl (k : Nat) (x : Lex) (hx : x ≠ .tok [';']) : sepOk ('\n' :: '\n' :: spaces k) x = true := by
  have := sepOk_vert 1 (by omega) k x hx
  simpa [nl, List.replicate] using this

/-! ### separators without comments -/

theorem withLayout_nil (g : Text) : withLayout [] g = Layout.fromGap g := by
  simp [withLayout, triviaForcesNewline]
theorem unLayout_nil (g : Text) : unLayout [] g = Layout.fromGap g := by
  simp [unLayout, hasLayoutOrComment]

theorem sepOk_layout (l : Layout) (s : Text) (k : Nat) (x : Lex) (hx : x ≠ .tok [';']) (hs : sepOk s x = true) :
    sepOk (if l.onNewline then '\n' :: (if l.blankLine then ['\n'] else []) ++ spaces k else s) x = true := by
  cases l.onNewline
  · exact hs
  · cases l.blankLine
    · exact sepOk_nl k x hx
    · exact sepOk_nlnl k x hx

theorem selSep_nil (exprStr g : Text) (i : Nat) (h : endsWithNL exprStr = false) :
    selSep exprStr g [] i =
      (if (Layout.fromGap g).onNewline then
        '\n' :: (if (Layout.fromGap g).blankLine then ['\n'] else []) ++ spaces ((Layout.fromGap g).indent.getD 0)
       else []) := by
  simp [selSep, fitws_nil, h]

theorem selSep_sepOk (exprStr g : Text) (i : Nat) (h : endsWithNL exprStr = false) (x : Lex) (hx : x ≠ .tok [';']) :
    sepOk (selSep exprStr g [] i) x = true := by
  rw [selSep_nil exprStr g i h]; exact sepOk_layout _ _ _ x hx (sepOk_nil x)

theorem selOrSep_sepOk (dg : Text) (i : Nat) (x : Lex) (hx : x ≠ .tok [';']) :
    sepOk (selOrSep dg [] i) x = true := by
  unfold selOrSep
  cases hon : (Layout.fromGap dg).onNewline with
  | false => simp [hon, sepOk_space _ hx]
  | true =>
    simp only [hon, if_true, List.isEmpty_nil, List.nil_append, Bool.not_true, Bool.false_and, Bool.false_eq_true, if_false,
      List.append_nil]
    cases (Layout.fromGap dg).blankLine
    · simpa using sepOk_nl _ x hx
    · simpa using sepOk_nlnl _ x hx

theorem unSep_cases (g : Text) (i : Nat) :
    unSep [] g i = (if (Layout.fromGap g).onNewline then '\n' :: (if (Layout.fromGap g).blankLine then ['\n'] else []) else []) := by
  simp [unSep, unLayout_nil, fitws_nil]

theorem lamColonPrefix_nil (g : Text) (i : Nat) :
    lamColonPrefix [] g i =
      (if (Layout.fromGap g).onNewline then
        '\n' :: (if (Layout.fromGap g).blankLine then ['\n'] else []) ++ spaces ((Layout.fromGap g).indent.getD 0)
       else []) := by
  simp [lamColonPrefix, withLayout_nil, fitws_nil]

theorem lamColonPrefix_sepOk (g : Text) (i : Nat) (x : Lex) (hx : x ≠ .tok [';']) :
    sepOk (lamColonPrefix [] g i) x = true := by
  rw [lamColonPrefix_nil]; exact sepOk_layout _ _ _ x hx (sepOk_nil x)

theorem sepOk_replicate_nl (k : Nat) (hk1 : 1 ≤ k) (hk2 : k ≤ 2) (n : Nat) (x : Lex) (hx : x ≠ .tok [';']) :
    sepOk (List.replicate k '\n' ++ spaces n) x = true := by
  match k, hk1, hk2 with
  | 1, _, _ => exact sepOk_nl n x hx
  | 2, _, _ => exact sepOk_nlnl n x hx

theorem colon_ne_semi : Lex.tok [':'] ≠ Lex.tok [';'] := by intro h; injection h with h; cases h

/-- the separator between `with` and its environment, without comments -/
theorem withSep_cases (g : Text) (i : Nat) :
    formatInterstitialTriviaWithSeparator [] (withLayout [] g) i (includeIndent := false) (dropBlankIfItems := false) =
      ([], if (Layout.fromGap g).onNewline then '\n' :: (if (Layout.fromGap g).blankLine then ['\n'] else []) else [' ']) := by
  simp [withLayout_nil, fitws_nil]

/-- separator and body of a `with` without comments: one separator in normal form, then the body -/
theorem withBody_summ {body : Expr} (hbd : body.ok) (hclb : closedT (body.effAfter false)) (i : Nat)
    (ih : ∀ b, ExprS body false i b (summ (body.rebuildAP false i b))) :
    ∃ w f, summ (withBodyPartP (withBodyForce [] [] body.before) body.absorbable (body.rebuildAP false i true)
        (body.rebuildAP false i false) i) = .lexy w f true [] ∧ f ≠ semi ∧ sepOk w f = true := by
  have hnf : withBodyForce [] [] body.before = false → body.before = [] := by
    intro hf
    unfold withBodyForce at hf
    simp only [Bool.or_eq_false_iff] at hf
    exact noLayoutOrComment_nil (ok_before hbd) hf.2
  obtain ⟨lt, ft, tt, hst, hft, _, _, c1t, _, c3t, _⟩ := ih true
  obtain ⟨lf, ff, tf, hsf, hff, hlf, _, c1f, _, c3f, _⟩ := ih false
  have htt := c3t hclb
  have htf := c3f hclb
  subst htt; subst htf
  unfold withBodyPartP
  split
  · rename_i hc
    simp only [Bool.and_eq_true, Bool.not_eq_true'] at hc
    have hbf := hnf hc.1
    have hlt := c1t hbf
    simp only [if_true] at hlt
    subst hlt
    unfold stripIndentPrefixP
    split
    · rename_i hcond
      simp only [Bool.and_eq_true, bne_iff_ne, ne_eq] at hcond
      rw [rebuildAP_indent_split hbd hbf, dropCharsP_ws_spaces i _ hcond.1]
      refine ⟨[' '], ft, ?_, hft, sepOk_space _ hft⟩
      rw [summ_cons, hst]; rfl
    · rename_i hcond
      have hi0 : i = 0 := by
        by_cases hi : i = 0
        · exact hi
        · exfalso; apply hcond
          rw [rebuildAP_indent_split hbd hbf]
          simp only [Bool.and_eq_true, bne_iff_ne, ne_eq]
          refine ⟨hi, ?_⟩
          show startsWith (spaces i) (spaces i ++ concat (body.rebuildAP false i true)) = true
          exact startsWith_append_self _ _
      have hlf' := c1f hbf
      simp only [Bool.false_eq_true, if_false, hi0] at hlf'
      refine ⟨[' '], ff, ?_, hff, sepOk_space _ hff⟩
      rw [summ_cons, hsf, hlf']; rfl
  · split
    · refine ⟨'\n' :: lf, ff, ?_, hff, sepOk_nl_vlead hlf ff hff⟩
      rw [summ_cons, hsf]; rfl
    · rename_i h1 h2
      have hforce : withBodyForce [] [] body.before = false := by
        cases hx : withBodyForce [] [] body.before with
        | false => rfl
        | true => exact absurd (by simp [hx]) h2
      have hlt := c1t (hnf hforce)
      simp only [if_true] at hlt
      subst hlt
      refine ⟨[' '], ft, ?_, hft, sepOk_space _ hft⟩
      rw [summ_cons, hst]; rfl

theorem kwWith_ne_semi : kwWith ≠ [';'] := by decide

theorem summ_tok_cons (x : Text) {ps : List FP} {f : Lex} (h : summ ps = .lexy [] f true []) :
    summ (FP.tok x :: ps) = .lexy [] (.tok x) true [] := by
  rw [summ_cons, h]; simp [summ1, Summ.comb, sepOk_nil]

/-- an attrpath is one tight run of tokens; its first token is one of its segments -/
theorem attrP_summ_head : ∀ (attrs : List Text), attrs ≠ [] → ∃ a ∈ attrs, summ (attrP attrs) = .lexy [] (.tok a) true []
  | [], h => absurd rfl h
  | [a], _ => ⟨a, List.mem_cons_self .., summ_tok a⟩
  | a :: b :: rest, _ => by
    obtain ⟨_, _, hf⟩ := attrP_summ_head (b :: rest) (by simp)
    exact ⟨a, List.mem_cons_self .., by simp only [attrP]; exact summ_tok_cons a (summ_tok_cons _ hf)⟩

theorem attrP_summ (attrs : List Text) (hne : attrs ≠ []) : ∃ f, summ (attrP attrs) = .lexy [] f true [] :=
  let ⟨_, _, h⟩ := attrP_summ_head attrs hne
  ⟨_, h⟩

theorem dot_ne_semi : Lex.tok ['.'] ≠ Lex.tok [';'] := by intro h; injection h with h; cases h

theorem recP_op_summ (r : Bool) : summ (recP r ++ [FP.tok ['{']]) = .lexy [] (if r then .tok ['r', 'e', 'c'] else .tok ['{']) true [] := by
  cases r
  · simp [recP, summ_cons, summ1, Summ.comb]
  · simp only [recP, List.cons_append, List.nil_append, summ_cons, summ1, summ_nil, Summ.comb, List.append_nil,
      List.nil_append, Bool.true_and, Bool.and_true, if_true]
    rw [sepOk_space _ (tok_ne_semi_of (by decide))]

theorem rec_first_ne_semi (r : Bool) : (if r then Lex.tok ['r', 'e', 'c'] else Lex.tok ['{']) ≠ semi := by
  cases r <;> simp [semi]

theorem tok_ne_semi {t : Text} (h : t ≠ [';']) : Lex.tok t ≠ semi := by
  intro e; injection e with e; exact h e

/-! ### runs: a rendering read left to right

`Run ps l f`: `ps` is the whitespace `l`, then tokens and comments separated in normal form, the first of them `f`,
and no whitespace at the end. It is closed under what the renderers write next to each other, so the summary of a
construct is read off its rendering piece by piece. -/

abbrev Run (ps : List FP) (l : Text) (f : Lex) : Prop := summ ps = .lexy l f true []

namespace Run

theorem tok (t : Text) : Run [.tok t] [] (.tok t) := summ_tok t

theorem ws (w : Text) {ps : List FP} {l : Text} {f : Lex} (h : Run ps l f) : Run (.ws w :: ps) (w ++ l) f := by
  unfold Run; rw [summ_cons, h]; rfl

theorem wsTok (w t : Text) : Run [.ws w, .tok t] w (.tok t) := by
  have := ws w (tok t); rwa [List.append_nil] at this

/-- a token in front of a run whose leading whitespace is an acceptable separator -/
theorem cons_tok (t : Text) {ps : List FP} {l : Text} {f : Lex} (h : Run ps l f) (hs : sepOk l f = true) :
    Run (.tok t :: ps) [] (.tok t) := by
  unfold Run; rw [summ_cons, h]; simp [summ1, Summ.comb, hs]

/-- two runs, the leading whitespace of the second an acceptable separator -/
theorem append {A B : List FP} {l w : Text} {f g : Lex} (hA : Run A l f) (hB : Run B w g) (hs : sepOk w g = true) :
    Run (A ++ B) l f := by
  unfold Run; rw [summ_append, hA, hB]; simp [Summ.comb, hs]

/-- the same run, its pieces bracketed differently -/
theorem of_eq {ps ps' : List FP} {l : Text} {f : Lex} (h : Run ps' l f) (e : ps = ps') : Run ps l f := e ▸ h

/-- the run after the indentation of its line -/
theorem indent (i : Nat) (b : Bool) {core : List FP} {f : Lex} (h : Run core [] f) :
    summ (indentP i b ++ core) = .lexy (if b then [] else spaces i) f true [] := by
  rw [summ_append, indentP_summ, h]; simp [Summ.comb]

end Run

/-- rendered inline, an expression without leading trivia and with closed trailing trivia is a tight run of tokens -/
theorem ExprS.tight {e : Expr} {i : Nat} {ps : List FP} (h : ExprS e false i true (summ ps)) (hb : e.before = [])
    (hc : closedT (e.effAfter false)) : ∃ f, Run ps [] f ∧ f ≠ semi := by
  obtain ⟨l, f, t, hs, hf, _, _, c1, _, c3, _⟩ := h
  exact ⟨f, by show summ ps = _; rw [hs, c3 hc, c1 hb]; rfl, hf⟩

theorem exprS_of_wrap {e : Expr} {na : Bool} {i : Nat} {b : Bool} {bf : List Trivia} {coreI T : List FP}
    {fc : Lex} (hok : TrivOk bf) (ha : Alt bf)
    (hcore : summ coreI = .lexy (if b then [] else spaces i) fc true []) (hfc : fc ≠ semi)
    (hT : TrailS (summ T)) (hTc : closedT (e.effAfter na) → (summ T).trailT = [])
    (h1 : e.before = [] → bf = []) (h2 : headCmt e.before → headCmt bf)
    (h3 : leadE e.before = 0 → leadE bf = 0 := by exact fun h => h) :
    ExprS e na i b (summ (linesP i bf ++ coreI ++ T)) := by
  obtain ⟨l, f, hs, hf, hl, c1, c2, c4⟩ := wrap_summ hok ha i b hcore hfc hT
  exact ⟨l, f, _, hs, hf, hl, trailS_trailT hT, fun h => c1 (h1 h), fun h hi => c2 (h2 h) hi, hTc, fun h => c4 (h3 h)⟩

theorem effAfter_notBinding {e : Expr} (h : e.notBinding = true) : e.effAfter false = e.after := by
  cases e <;> first | rfl | cases h

/-- an expression the parser has just returned has closed trailing trivia: none -/
theorem closedT_fresh {e : Expr} (hnb : e.notBinding = true) (ha : e.after = []) : closedT (e.effAfter false) := by
  rw [effAfter_notBinding hnb, ha]; exact Or.inl rfl

theorem effAfter_true_notBinding {e : Expr} (h : e.notBinding = true) : e.effAfter true = [] := by
  cases e <;> first | rfl | cases h

/-! ### `if` / `?`: separators without comments -/

/-- one space, or a line break (and a blank line) followed by the indentation read from the gap -/
def sepText (g : Text) : Text :=
  if (Layout.fromGap g).onNewline then
    '\n' :: (if (Layout.fromGap g).blankLine then ['\n'] else []) ++ spaces ((Layout.fromGap g).indent.getD 0)
  else [' ']

/-- one space, or a line break (and a blank line) -/
def brkText (g : Text) : Text :=
  if (Layout.fromGap g).onNewline then '\n' :: (if (Layout.fromGap g).blankLine then ['\n'] else []) else [' ']

theorem sepText_sepOk (g : Text) (x : Lex) (hx : x ≠ .tok [';']) : sepOk (sepText g) x = true :=
  sepOk_layout _ _ _ x hx (sepOk_space x hx)

theorem iteCondPrefix_nil (g : Text) (ci : Nat) (s : Text) : iteCondPrefix [] g ci s = brkText g := by
  simp [iteCondPrefix, iteLayout, brkText, fitws_nil]

theorem iteKwPrefix_nil (g : Text) (i : Nat) (s : Text) : iteKwPrefix [] g i s = sepText g := by
  simp [iteKwPrefix, iteLayout, sepText, fitws_nil]

theorem hasSep_nil (g : Text) (i : Nat) :
    (formatInterstitialTriviaWithSeparator [] (unLayout [] g) i (dropBlankIfItems := false)).1 ++
      (formatInterstitialTriviaWithSeparator [] (unLayout [] g) i (dropBlankIfItems := false)).2 = sepText g := by
  simp [unLayout_nil, sepText, fitws_nil]

theorem branchSep_eq (g : Text) : branchSep (Layout.fromGap g) = brkText g := by
  unfold branchSep brkText
  cases (Layout.fromGap g).onNewline <;> cases (Layout.fromGap g).blankLine <;> rfl

theorem iteLayout_nil (g : Text) : iteLayout g (branchHasComments [] []) = Layout.fromGap g := by
  simp [iteLayout, branchHasComments]

theorem summ_ws_block (w : Text) {R : List FP} {W : Text} {f : Lex} {t : Text} (h : summ R = .lexy W f true t) :
    summ (FP.ws w :: R) = .lexy (w ++ W) f true t := by
  rw [summ_cons, h]; simp [summ1, Summ.comb]

/-- the separator a layout asks for (`s` when it stays on the line), then the operand inline or on its own line:
    a run whose leading whitespace is an acceptable separator -/
theorem operand_summ {e : Expr} (ih : ∀ (j : Nat) (bb : Bool), ExprS e false j bb (summ (e.rebuildAP false j bb)))
    (heb : e.before = []) (hcl : closedT (e.effAfter false)) (l : Layout) (s : Text)
    (hs : ∀ f, f ≠ semi → sepOk s f = true) (j i : Nat) :
    ∃ W f, sepOk W f = true ∧
      Run (FP.ws (if l.onNewline = true then '\n' :: (if l.blankLine = true then ['\n'] else []) else s) ::
        (if l.onNewline = true then e.rebuildAP false j false else e.rebuildAP false i true)) W f := by
  cases l.onNewline with
  | false =>
    obtain ⟨f, hr, hf⟩ := (ih i true).tight heb hcl
    exact ⟨s ++ [], f, by rw [List.append_nil]; exact hs f hf, .ws s hr⟩
  | true =>
    obtain ⟨l', f, t, hs', hf, _, _, c1, _, c3, _⟩ := ih j false
    refine ⟨('\n' :: (if l.blankLine = true then ['\n'] else [])) ++ l', f, ?_, ?_⟩
    · rw [c1 heb]
      simp only [Bool.false_eq_true, if_false]
      cases l.blankLine
      · simpa using sepOk_nl j f hf
      · simpa using sepOk_nlnl j f hf
    · simp only [if_true]
      rw [Run, summ_ws_block _ hs', c3 hcl]

/-- a separator of `brkText`, then the expression inline or on its own line -/
theorem branch_summ {e : Expr} (ih : ∀ (j : Nat) (bb : Bool), ExprS e false j bb (summ (e.rebuildAP false j bb)))
    (heb : e.before = []) (hcl : closedT (e.effAfter false)) (g : Text) (j i : Nat) :
    ∃ W f, sepOk W f = true ∧
      summ (FP.ws (brkText g) :: (if (Layout.fromGap g).onNewline = true then e.rebuildAP false j false
        else e.rebuildAP false i true)) = .lexy W f true [] :=
  operand_summ ih heb hcl (Layout.fromGap g) [' '] sepOk_space j i

/-- the pieces of an `if` between its leading and trailing trivia -/
theorem ite_core_summ {C T E : List FP} {W1 W2 W3 W4 W5 : Text}
    (hC : ∃ W f, sepOk W f = true ∧ summ (FP.ws W1 :: C) = .lexy W f true [])
    (h2 : sepOk W2 (.tok kwThen) = true)
    (hT : ∃ W f, sepOk W f = true ∧ summ (FP.ws W3 :: T) = .lexy W f true [])
    (h4 : sepOk W4 (.tok kwElse) = true)
    (hE : ∃ W f, sepOk W f = true ∧ summ (FP.ws W5 :: E) = .lexy W f true []) :
    summ ([FP.tok kwIf, FP.ws W1] ++ C ++ [FP.ws W2, FP.tok kwThen, FP.ws W3] ++ T ++ [FP.ws W4, FP.tok kwElse, FP.ws W5] ++ E) =
      .lexy [] (.tok kwIf) true [] := by
  obtain ⟨Wc, fc, hsc, hC⟩ := hC
  obtain ⟨Wt, ft, hst, hT⟩ := hT
  obtain ⟨We, fe, hse, hE⟩ := hE
  rw [show [FP.tok kwIf, FP.ws W1] ++ C ++ [FP.ws W2, FP.tok kwThen, FP.ws W3] ++ T ++ [FP.ws W4, FP.tok kwElse, FP.ws W5] ++ E =
    [FP.tok kwIf] ++ ((FP.ws W1 :: C) ++ ([FP.ws W2, FP.tok kwThen] ++ ((FP.ws W3 :: T) ++ ([FP.ws W4, FP.tok kwElse] ++
      (FP.ws W5 :: E))))) from by simp]
  simp only [summ_append, hC, hT, hE, summ_cons, summ_nil, summ1]
  simp [Summ.comb, hsc, hst, hse, h2, h4]

/-- a binary operator between its operands, each of the two gaps one space or up to two line breaks -/
theorem binCoreP_run {L RO RI : List FP} {fl fo fi : Lex} {wo op : Text} {ogl rgl : Nat} (i : Nat)
    (hL : Run L [] fl) (hop : Lex.tok op ≠ semi) (hogl : ogl ≤ 2) (hrgl : rgl ≤ 2)
    (hRO : Run RO wo fo) (hwo : ∀ k, 1 ≤ k → k ≤ 2 → sepOk (List.replicate k '\n' ++ wo) fo = true)
    (hRI : Run RI [] fi) (hfi : fi ≠ semi) : Run (binCoreP L RO RI op ogl rgl i) [] fl := by
  have pos : ∀ {n : Nat}, (n != 0) = true → 1 ≤ n := fun h => Nat.pos_of_ne_zero (by simpa using h)
  have hso : sepOk (if ogl != 0 then List.replicate ogl '\n' ++ spaces i else [' ']) (.tok op) = true := by
    split
    · rename_i h; exact sepOk_replicate_nl ogl (pos h) hogl _ _ hop
    · exact sepOk_space _ hop
  have own := fun (h : (rgl != 0) = true) => hwo rgl (pos h) hrgl
  have inl : sepOk ([' '] ++ []) fi = true := sepOk_space _ hfi
  unfold binCoreP
  by_cases ho : (ogl != 0) = true <;> by_cases hg : (rgl != 0) = true <;>
    simp only [ho, hg, if_true] at hso ⊢
  · exact ((hL.append (.wsTok _ _) hso).append (.ws _ hRO) (own hg)).of_eq (by simp)
  · exact ((hL.append (.wsTok _ _) hso).append (.ws _ hRI) inl).of_eq (by simp)
  · exact ((hL.append (.wsTok _ _) hso).append (.ws _ hRO) (own hg)).of_eq (by simp)
  · exact ((hL.append (.wsTok _ _) hso).append (.ws _ hRI) inl).of_eq (by simp)

mutual
theorem rebuildAP_summ : (e : Expr) → e.ok → e.mlSafe → e.nfInv → e.inlineClean → ∀ (na : Bool) (i : Nat) (b : Bool),
    ExprS e na i b (summ (e.rebuildAP na i b))
  | .leaf k t before after, hok, _, hinv, _, na, i, b => by
    obtain ⟨ht, hb, ha⟩ := hok
    obtain ⟨hts, hab, haa⟩ := hinv
    have hb' := leafBefore_ok k t hb i b
    have ha' := ite_nil_ok na ha
    have hT := trailP_summ ha' (alt_ite_nil na haa) i
    simp only [Expr.rebuildAP, addTriviaP]
    rw [fmtP_lines hb'.1, List.append_assoc (linesP i (leafBefore k t before i b))]
    refine exprS_of_wrap hb' (leafBefore_alt k t hab i b) ?_ (tok_ne_semi hts) hT.1 hT.2 ?_ ?_ ?_
    · rw [summ_append, indentP_summ, summ_tok]; simp [Summ.comb]
    · intro h; simp only [Expr.before] at h; subst h; exact leafBefore_nil ..
    · intro h; simp only [Expr.before] at h; rw [leafBefore_headCmt k t h]; exact h
    · intro h; simp only [Expr.before] at h; exact leafBefore_leadE k t h i b
  | .list value ml inner before after, hok, hml, hinv, hclean, na, i, b => by
    have hvm := hml.1
    obtain ⟨hv, hin, hb, ha⟩ := hok
    obtain ⟨hvi, hain, hab, haa, hnl⟩ := hinv
    obtain ⟨hflat, hcl⟩ := hclean
    have ha' := ite_nil_ok na ha
    have hT := trailP_summ ha' (alt_ite_nil na haa) i
    have hop : summ [FP.tok ['[']] = .lexy [] (.tok ['[']) true [] := summ_tok _
    have hfo : Lex.tok ['['] ≠ semi := tok_ne_semi (by decide)
    cases value with
    | nil =>
      simp only [Expr.rebuildAP]
      split
      · rw [multilineBlockP_eq, fmtP_lines hb.1, fmtP_lines hin.1]
        exact exprS_of_wrap hb hab (block_inner_summ hop hin hain ']' (by decide) i (i + 2) b) hfo hT.1 hT.2
          (fun h => h) (fun h => h)
      · rw [fmtP_lines hb.1, List.append_assoc (linesP i before)]
        exact exprS_of_wrap hb hab
          ((Run.cons_tok _ (.wsTok _ _) (sepOk_space _ (tok_ne_semi_of (by decide)))).indent i b) hfo hT.1 hT.2
          (fun h => h) (fun h => h)
    | cons v vs =>
      cases ml with
      | true =>
        obtain ⟨lb, fb, tb, hbody, hfb, hlb, htb⟩ := joinNl_summ (v :: vs) hv hvm hvi hcl hnl (by simp) (i + 2)
        have hsol : Solid (joinP [FP.ws ['\n']] (rebuildAllP (v :: vs) (i + 2) false)) :=
          solid_joinP_ws _ _ (rebuildAllP_lex (v :: vs) hv _ _).2
        simp only [Expr.rebuildAP, if_true, Bool.not_true, multilineBlockP_eq, fmtP_lines hb.1, List.nil_append]
        exact exprS_of_wrap hb hab (block_items_summ hop hbody hsol hlb hfb htb ']' (by decide) i b true) hfo hT.1 hT.2
          (fun h => h) (fun h => h)
      | false =>
        obtain ⟨f, hj, hf⟩ := joinSp_summ (v :: vs) hv hvm hvi hcl (hflat rfl) (by simp) i
        simp only [Expr.rebuildAP, Bool.false_eq_true, if_false, Bool.not_false, fmtP_lines hb.1]
        rw [show linesP i before ++ indentP i b ++ [FP.tok ['['], FP.ws [' ']] ++
              joinP [FP.ws [' ']] (rebuildAllP (v :: vs) i true) ++ [FP.ws [' '], FP.tok [']']] =
          linesP i before ++ (indentP i b ++ [FP.tok ['['], FP.ws [' ']] ++
              joinP [FP.ws [' ']] (rebuildAllP (v :: vs) i true) ++ [FP.ws [' '], FP.tok [']']]) from by
            simp only [List.append_assoc]]
        refine exprS_of_wrap hb hab ?_ hfo hT.1 hT.2 (fun h => h) (fun h => h)
        have := ((Run.cons_tok ['['] (.ws [' '] hj) (by rw [List.append_nil]; exact sepOk_space _ hf)).append
          (.wsTok [' '] [']']) (sepOk_space _ (tok_ne_semi_of (by decide)))).indent i b
        simpa only [List.append_assoc, List.cons_append, List.nil_append] using this
  | .set values ml r inner before after, hok, hml, hinv, hclean, na, i, b => by
    have hvm := hml.1
    obtain ⟨hv, hin, hb, ha⟩ := hok
    obtain ⟨hvi, hain, hab, haa, hnl⟩ := hinv
    obtain ⟨hflat, hcl⟩ := hclean
    have ha' := ite_nil_ok na ha
    have hT := trailP_summ ha' (alt_ite_nil na haa) i
    have hop := recP_op_summ r
    have hfo := rec_first_ne_semi r
    cases values with
    | nil =>
      simp only [Expr.rebuildAP]
      split
      · rw [multilineBlockP_eq, fmtP_lines hb.1, fmtP_lines hin.1]
        exact exprS_of_wrap hb hab (block_inner_summ hop hin hain '}' (by decide) i (i + 2) b) hfo hT.1 hT.2
          (fun h => h) (fun h => h)
      · simp only [addTriviaP, fmtP_lines hb.1]
        rw [show linesP i before ++ indentP i b ++ (recP r ++ [FP.tok ['{'], FP.ws [' '], FP.tok ['}']]) =
          linesP i before ++ (indentP i b ++ ((recP r ++ [FP.tok ['{']]) ++ [FP.ws [' '], FP.tok ['}']])) from by
            simp only [List.append_assoc, List.cons_append, List.nil_append]]
        exact exprS_of_wrap hb hab
          ((Run.append hop (.wsTok _ _) (sepOk_space _ (tok_ne_semi_of (by decide)))).indent i b) hfo hT.1 hT.2
          (fun h => h) (fun h => h)
    | cons v vs =>
      cases ml with
      | true =>
        obtain ⟨lb, fb, tb, hbody, hfb, hlb, htb⟩ := joinNl_summ (v :: vs) hv hvm hvi hcl hnl (by simp) (i + 2)
        have hsol : Solid (joinP [FP.ws ['\n']] (rebuildAllP (v :: vs) (i + 2) false)) :=
          solid_joinP_ws _ _ (rebuildAllP_lex (v :: vs) hv _ _).2
        simp only [Expr.rebuildAP, if_true, multilineBlockP_eq, fmtP_lines hb.1]
        exact exprS_of_wrap hb hab (block_items_summ hop hbody hsol hlb hfb htb '}' (by decide) i b true) hfo hT.1 hT.2
          (fun h => h) (fun h => h)
      | false =>
        obtain ⟨f, hj, hf⟩ := joinSp_summ (v :: vs) hv hvm hvi hcl (hflat rfl) (by simp) (i + 2)
        simp only [Expr.rebuildAP, Bool.false_eq_true, if_false, addTriviaP, fmtP_lines hb.1]
        rw [show linesP i before ++ indentP i b ++ (recP r ++ [FP.tok ['{'], FP.ws [' ']] ++
              joinP [FP.ws [' ']] (rebuildAllP (v :: vs) (i + 2) true) ++ [FP.ws [' '], FP.tok ['}']]) =
          linesP i before ++ (indentP i b ++ ((recP r ++ [FP.tok ['{']]) ++ [FP.ws [' ']] ++
              joinP [FP.ws [' ']] (rebuildAllP (v :: vs) (i + 2) true) ++ [FP.ws [' '], FP.tok ['}']])) from by
            simp only [List.append_assoc, List.cons_append, List.nil_append]]
        refine exprS_of_wrap hb hab ?_ hfo hT.1 hT.2 (fun h => h) (fun h => h)
        have := ((Run.append hop (.ws [' '] hj) (by rw [List.append_nil]; exact sepOk_space _ hf)).append
          (.wsTok [' '] ['}']) (sepOk_space _ (tok_ne_semi_of (by decide)))).indent i b
        simpa only [List.append_assoc, List.cons_append, List.nil_append] using this
  | .binding name value vg before after, hok, hml, hinv, hclean, na, i, b => by
    obtain ⟨hn, hv, hb, ha⟩ := hok
    obtain ⟨hns, hvi, hnb, hab, haa, hava, hon⟩ := hinv
    have ihv := rebuildAP_summ value hv hml.1 hvi hclean
    have hva := ok_after hv
    have haT : Alt (value.after ++ if na = true then [] else after) := by
      cases na
      · exact haa
      · simpa using hava
    have hT := bindingTailP_summ (trivOk_append hva (ite_nil_ok na ha)) haT i
    simp only [Expr.rebuildAP, previewP_getD]
    -- the value: rendered without its trailing trivia it ends with a token, so stripping line breaks changes nothing
    have hval : ∃ lv fv, summ (rstripNLP (value.rebuildAP true (bindValIndent vg value.before i)
          (!bindOnNewline vg value.before))) = .lexy lv fv true [] ∧ fv ≠ semi ∧ VLead lv ∧
        (bindOnNewline vg value.before = false → lv = []) := by
      obtain ⟨tt, ⟨xs, hxs⟩, hst⟩ := noAfter_ends_tok value hv (mlSafe_tailOk value hml.1) hnb
        (bindValIndent vg value.before i) (!bindOnNewline vg value.before)
      obtain ⟨l, f, t, hs, hf, hl, _, c1, _, c3, _⟩ := ihv true (bindValIndent vg value.before i)
        (!bindOnNewline vg value.before)
      rw [hxs, rstripNLP_snoc_tok xs hst, ← hxs, hs, c3 (by rw [effAfter_true_notBinding hnb]; exact Or.inl rfl)]
      exact ⟨l, f, rfl, hf, hl, fun hob => by rw [c1 (hon hob), hob]; rfl⟩
    obtain ⟨lv, fv, hvs, hfv, hlv, hlv0⟩ := hval
    rw [fmtP_lines hb.1]
    generalize hVP : rstripNLP (value.rebuildAP true (bindValIndent vg value.before i)
          (!bindOnNewline vg value.before)) = VP at hvs
    rw [show linesP i before ++ indentP i b ++
          [FP.tok name, FP.ws [' '], FP.tok ['='], FP.ws (if bindOnNewline vg value.before = true then ['\n'] else [' '])] ++
          VP ++ [FP.tok [';']] =
        linesP i before ++ (indentP i b ++
          [FP.tok name, FP.ws [' '], FP.tok ['='], FP.ws (if bindOnNewline vg value.before = true then ['\n'] else [' '])] ++
          VP ++ [FP.tok [';']]) from by simp only [List.append_assoc]]
    refine exprS_of_wrap (e := .binding name value vg before after) hb hab ?_ (tok_ne_semi hns) hT.1 hT.2
      (fun h => h) (fun h => h)
    -- name, ` =`, a line break or a space, the value, `;` attached
    have hw : sepOk ((if bindOnNewline vg value.before = true then ['\n'] else [' ']) ++ lv) fv = true := by
      cases hob : bindOnNewline vg value.before with
      | true => exact sepOk_nl_vlead hlv fv hfv
      | false => rw [hlv0 hob]; exact sepOk_space _ hfv
    have := ((Run.cons_tok name (.ws [' '] (Run.cons_tok ['='] (.ws _ hvs) hw))
      (by rw [List.append_nil]; exact sepOk_space _ (tok_ne_semi_of (by decide)))).append (.tok [';']) (sepOk_nil _)).indent i b
    simpa only [List.append_assoc, List.cons_append, List.nil_append] using this
  | .paren value lg tg lb tb before after, hok, hml, hinv, hclean, na, i, b => by
    obtain ⟨hv, hb, ha⟩ := hok
    obtain ⟨hvi, hvcl, hvle, hab, haa⟩ := hinv
    obtain ⟨hcb, hvc⟩ := hclean
    have ha' := ite_nil_ok na ha
    have hT := trailP_summ ha' (alt_ite_nil na haa) i
    have ihv := rebuildAP_summ value hv hml.1 hvi hvc false
    simp only [Expr.rebuildAP, addTriviaP]
    rw [fmtP_lines hb.1, List.append_assoc (linesP i before)]
    refine exprS_of_wrap (fc := .tok ['(']) hb hab ?_ (tok_ne_semi (by decide)) hT.1 hT.2 (fun h => h) (fun h => h)
    -- the value after `(`
    have hval : ∃ lv fv, summ (if (Layout.fromGap lg).onNewline = true
          then FP.ws (nlSep lb) :: value.rebuildAP false ((Layout.fromGap lg).indent.getD (i + 2)) false
          else value.rebuildAP false i true) = .lexy lv fv true [] ∧ sepOk lv fv = true := by
      cases hon : (Layout.fromGap lg).onNewline with
      | true =>
        obtain ⟨l, f, t, hs, hf, _, _, _, _, c3, c4⟩ := ihv ((Layout.fromGap lg).indent.getD (i + 2)) false
        obtain ⟨k, hk⟩ := c4 hvle
        refine ⟨nlSep lb ++ l, f, ?_, ?_⟩
        · simp only [if_true]
          rw [summ_cons, hs, c3 hvcl]; rfl
        · rw [hk]
          cases lb
          · exact sepOk_vert 0 (by omega) k f hf
          · exact sepOk_vert 1 (by omega) k f hf
      | false =>
        obtain ⟨l, f, t, hs, hf, _, _, c1, _, c3, _⟩ := ihv i true
        refine ⟨[], f, ?_, sepOk_nil f⟩
        simp only [Bool.false_eq_true, if_false]
        rw [hs, c3 hvcl, c1 (hcb hon)]; rfl
    obtain ⟨lv, fv, hvs, hsep⟩ := hval
    generalize (if (Layout.fromGap lg).onNewline = true
          then FP.ws (nlSep lb) :: value.rebuildAP false ((Layout.fromGap lg).indent.getD (i + 2)) false
          else value.rebuildAP false i true) = VP at hvs
    -- `)` on the line of the value or on its own line
    have hclose : ∃ w, Run ((if (Layout.fromGap tg).onNewline = true then [FP.ws (nlSep tb ++ spaces i)] else []) ++
        [FP.tok [')']]) w (.tok [')']) ∧ sepOk w (.tok [')']) = true := by
      split
      · refine ⟨_, .wsTok _ _, ?_⟩
        cases tb
        · exact sepOk_vert 0 (by omega) i _ (tok_ne_semi_of (by decide))
        · exact sepOk_vert 1 (by omega) i _ (tok_ne_semi_of (by decide))
      · exact ⟨[], .tok _, sepOk_nil _⟩
    obtain ⟨w, hws, hwsep⟩ := hclose
    have hsplit : ∀ (X : List FP), (if (Layout.fromGap tg).onNewline = true then VP ++ X else VP) =
        VP ++ (if (Layout.fromGap tg).onNewline = true then X else []) := by
      intro X; split <;> simp
    rw [hsplit]
    exact ((Run.cons_tok ['('] (Run.append hvs hws hwsep) hsep).of_eq (by simp)).indent i b
  | .app name arg g fa before after, hok, hml, hinv, hclean, na, i, b => by
    obtain ⟨hn, hx, hfa, hb, ha⟩ := hok
    obtain ⟨hni, hxi, hnb0, hxle, hab, haa⟩ := hinv
    obtain ⟨hcb, hnc, hxc⟩ := hclean
    obtain ⟨hnm, hxm, hnnb, hxnb, hna0, hxa0, hfo, _⟩ := hml
    have ha' := ite_nil_ok na ha
    have hT := trailP_summ ha' (alt_ite_nil na haa) i
    have ihn := rebuildAP_summ name hn hnm hni hnc false i true
    have ihx := rebuildAP_summ arg hx hxm hxi hxc false
    simp only [Expr.rebuildAP, addTriviaP]
    rw [fmtP_lines hb.1, List.append_assoc (linesP i before)]
    -- the function and the comments after it
    obtain ⟨fn, hns', hfn⟩ := ihn.tight hnb0 (closedT_fresh hnnb hna0)
    have hxcl : closedT (arg.effAfter false) := closedT_fresh hxnb hxa0
    have hfns := fnAfterP_summ fa _ i [] fn (fnOk_inline hfo) hns'
    refine exprS_of_wrap hb hab ?_ hfn hT.1 hT.2 (fun h => h) (fun h => h)
    -- the argument
    have harg : ∃ la fx, summ (FP.ws (if (Layout.fromGap g).blankLine = true then ['\n', '\n']
            else if (Layout.fromGap g).onNewline = true then ['\n'] else [' ']) ::
          (if ((Layout.fromGap g).onNewline && startsNonSpace (concat (arg.rebuildAP false
                (if (Layout.fromGap g).onNewline = true then (Layout.fromGap g).indent.getD (i + 2) else i)
                !(Layout.fromGap g).onNewline))) = true
            then FP.ws (spaces (if (Layout.fromGap g).onNewline = true then (Layout.fromGap g).indent.getD (i + 2) else i)) ::
              arg.rebuildAP false (if (Layout.fromGap g).onNewline = true then (Layout.fromGap g).indent.getD (i + 2) else i)
                !(Layout.fromGap g).onNewline
            else arg.rebuildAP false (if (Layout.fromGap g).onNewline = true then (Layout.fromGap g).indent.getD (i + 2) else i)
                !(Layout.fromGap g).onNewline)) = .lexy la fx true [] ∧ sepOk la fx = true := by
      cases hon : (Layout.fromGap g).onNewline with
      | true =>
        obtain ⟨l, f, t, hs, hf, _, _, _, _, c3, c4⟩ := ihx ((Layout.fromGap g).indent.getD (i + 2)) false
        obtain ⟨k, hk⟩ := c4 (hxle hon)
        have hs' : summ (arg.rebuildAP false ((Layout.fromGap g).indent.getD (i + 2)) false) = .lexy (spaces k) f true [] := by
          rw [hs, c3 hxcl, hk]
        cases hbl : (Layout.fromGap g).blankLine with
        | true =>
          simp only [if_true, Bool.not_true, Bool.true_and]
          obtain ⟨la, h1, h2⟩ := arg_on_summ ['\n', '\n'] ((Layout.fromGap g).indent.getD (i + 2)) hs'
            (fun k' => sepOk_vert 1 (by omega) k' f hf)
            (startsNonSpace (concat (arg.rebuildAP false ((Layout.fromGap g).indent.getD (i + 2)) false)))
          exact ⟨la, f, h1, h2⟩
        | false =>
          simp only [if_true, Bool.false_eq_true, if_false, Bool.not_true, Bool.true_and]
          obtain ⟨la, h1, h2⟩ := arg_on_summ ['\n'] ((Layout.fromGap g).indent.getD (i + 2)) hs'
            (fun k' => sepOk_vert 0 (by omega) k' f hf)
            (startsNonSpace (concat (arg.rebuildAP false ((Layout.fromGap g).indent.getD (i + 2)) false)))
          exact ⟨la, f, h1, h2⟩
      | false =>
        have hbl : (Layout.fromGap g).blankLine = false := by
          unfold Layout.fromGap at hon ⊢; split <;> simp_all
        simp only [hbl, Bool.false_eq_true, if_false, Bool.not_false, Bool.false_and]
        obtain ⟨l, f, t, hs, hf, _, _, c1, _, c3, _⟩ := ihx i true
        refine ⟨[' '], f, ?_, sepOk_space f hf⟩
        rw [summ_cons, hs, c3 hxcl, c1 (hcb hon)]; rfl
    obtain ⟨la, fx, has, hsep⟩ := harg
    exact ((Run.append hfns has hsep).of_eq (by simp)).indent i b
  | .asrt .., _, _, hinv, _, _, _, _ => hinv.elim
  | .sel expr attrs g ab before after, hok, hml, hinv, hclean, na, i, b => by
    obtain ⟨he, hne, _, _, hb, ha⟩ := hok
    obtain ⟨hem, henb, hea⟩ := hml
    obtain ⟨hei, heb, hab0, habf, haaf⟩ := hinv
    subst hab0
    have hT := trailP_summ (ite_nil_ok na ha) (alt_ite_nil na haaf) i
    have hcl : closedT (expr.effAfter false) := closedT_fresh henb hea
    obtain ⟨f, hes, hf⟩ := (rebuildAP_summ expr he hem hei hclean false i true).tight heb hcl
    have hend : endsWithNL (concat (expr.rebuildAP false i true)) = false := by
      rw [endsWithNL_summ (rebuildAP_lex expr he false i true).2, hes]; rfl
    simp only [Expr.rebuildAP, addTriviaP]
    rw [fmtP_lines hb.1, List.append_assoc (linesP i before)]
    refine exprS_of_wrap hb habf ?_ hf hT.1 hT.2 (fun h => h) (fun h => h)
    obtain ⟨fa, hat⟩ := attrP_summ attrs hne
    exact ((hes.append (.wsTok _ _) (selSep_sepOk _ g i hend _ dot_ne_semi)).append hat (sepOk_nil _)).indent i b
  | .selOr expr attrs g ab d dg db before after, hok, hml, hinv, hclean, na, i, b => by
    obtain ⟨he, hne, _, _, hd, _, hb, ha⟩ := hok
    obtain ⟨hem, hdm, henb, hdnb, hea, hda⟩ := hml
    obtain ⟨hei, heb, hab0, hdi, hdb, hdb0, habf, haaf⟩ := hinv
    subst hab0; subst hdb0
    have hT := trailP_summ (ite_nil_ok na ha) (alt_ite_nil na haaf) i
    obtain ⟨f, hes, hf⟩ := (rebuildAP_summ expr he hem hei hclean.1 false i true).tight heb (closedT_fresh henb hea)
    obtain ⟨fd, hds, hfd⟩ := (rebuildAP_summ d hd hdm hdi hclean.2 false (selOrIndent dg i) true).tight hdb
      (closedT_fresh hdnb hda)
    have hend : endsWithNL (concat (expr.rebuildAP false i true)) = false := by
      rw [endsWithNL_summ (rebuildAP_lex expr he false i true).2, hes]; rfl
    simp only [Expr.rebuildAP, addTriviaP]
    rw [fmtP_lines hb.1, List.append_assoc (linesP i before)]
    refine exprS_of_wrap hb habf ?_ hf hT.1 hT.2 (fun h => h) (fun h => h)
    obtain ⟨fa, hat⟩ := attrP_summ attrs hne
    exact (((((hes.append (.wsTok _ _) (selSep_sepOk _ g i hend _ dot_ne_semi)).append hat (sepOk_nil _)).append
      (.wsTok _ _) (selOrSep_sepOk dg i _ (tok_ne_semi (t := ['o', 'r']) (by decide)))).append
      (.ws _ hds) (by rw [List.append_nil]; exact sepOk_space _ hfd)).of_eq (by simp)).indent i b
  | .un op expr g bt before after, hok, hml, hinv, hclean, na, i, b => by
    obtain ⟨⟨hop, hopne⟩, he, _, hb, ha⟩ := hok
    obtain ⟨hem, henb, hea⟩ := hml
    obtain ⟨hei, heb, hbt0, hopsemi, habf, haaf⟩ := hinv
    subst hbt0
    have hT := trailP_summ (ite_nil_ok na ha) (alt_ite_nil na haaf) i
    have ihe := rebuildAP_summ expr he hem hei hclean false
    have hcl : closedT (expr.effAfter false) := closedT_fresh henb hea
    have hne : (op == ['+', '+']) = false := by simpa using hopne
    simp only [Expr.rebuildAP, addTriviaP, hne, Bool.false_and, Bool.false_eq_true, if_false]
    rw [fmtP_lines hb.1, List.append_assoc (linesP i before)]
    refine exprS_of_wrap (fc := .tok op) hb habf ?_ (tok_ne_semi hopsemi) hT.1 hT.2 (fun h => h) (fun h => h)
    rw [unLayout_nil, unSep_cases]
    obtain ⟨W, f, hW, hR⟩ := operand_summ ihe heb hcl (Layout.fromGap g) [] (fun f _ => sepOk_nil f)
      ((Layout.fromGap g).indent.getD i) i
    exact (Run.cons_tok op hR hW).indent i b
  | .lam name bcc g k body before after, hok, hml, hinv, hclean, na, i, b => by
    obtain ⟨_, _, hbd, hb, ha⟩ := hok
    obtain ⟨hbm, hbnb, hba⟩ := hml
    obtain ⟨hbi, hbcc0, hk1, hk0, hnsemi, habf, haaf⟩ := hinv
    subst hbcc0
    have hT := trailP_summ (ite_nil_ok na ha) (alt_ite_nil na haaf) i
    have hcl : closedT (body.effAfter false) := closedT_fresh hbnb hba
    obtain ⟨l, f, t, hs, hf, hl, _, c1, _, c3, _⟩ := rebuildAP_summ body hbd hbm hbi hclean false i (k == 0)
    simp only [Expr.rebuildAP, addTriviaP]
    rw [fmtP_lines hb.1, List.append_assoc (linesP i before)]
    refine exprS_of_wrap (fc := .tok name) hb habf ?_ (tok_ne_semi hnsemi) hT.1 hT.2 (fun h => h) (fun h => h)
    -- name, separator, `:`, one space or one line break, the body
    have hr : Run (body.rebuildAP false i (k == 0)) l f := by rw [Run, hs, c3 hcl]
    have hw : sepOk (lamBreak k ++ l) f = true := by
      match k, hk1 with
      | 0, _ =>
        have hl0 : l = [] := by rw [c1 (hk0 rfl)]; rfl
        rw [hl0]; exact sepOk_space _ hf
      | 1, _ => exact sepOk_nl_vlead hl f hf
    have := (Run.cons_tok name (.ws _ (Run.cons_tok [':'] (.ws _ hr) hw))
      (by rw [List.append_nil]; exact lamColonPrefix_sepOk g i _ colon_ne_semi)).indent i b
    simpa only [List.append_assoc, List.cons_append, List.nil_append] using this
  | .bin op left right ogl rgl before after, hok, hml, hinv, hclean, na, i, b => by
    obtain ⟨_, hl, hr, hb, ha⟩ := hok
    obtain ⟨hlm, hrm, hlnb, hrnb, hla, hra⟩ := hml
    obtain ⟨hli, hlb, hri, hrb, hopsemi, habf, haaf⟩ := hinv
    obtain ⟨hogl, hrgl, hlc, hrc⟩ := hclean
    have hT := trailP_summ (ite_nil_ok na ha) (alt_ite_nil na haaf) i
    have hcll : closedT (left.effAfter false) := closedT_fresh hlnb hla
    have hclr : closedT (right.effAfter false) := closedT_fresh hrnb hra
    obtain ⟨fl, hls, hfl⟩ := (rebuildAP_summ left hl hlm hli hlc false i true).tight hlb hcll
    have hrs := fun (j : Nat) => (rebuildAP_summ right hr hrm hri hrc false j true).tight hrb hclr
    have hopne : Lex.tok op ≠ semi := tok_ne_semi hopsemi
    simp only [Expr.rebuildAP, addTriviaP]
    rw [fmtP_lines hb.1, List.append_assoc (linesP i before)]
    refine exprS_of_wrap hb habf ?_ hfl hT.1 hT.2 (fun h => h) (fun h => h)
    have hbe : right.before.isEmpty = true := by rw [hrb]; rfl
    obtain ⟨fr1, hr1, hfr1⟩ := hrs (binRightIndent op right i)
    obtain ⟨fr2, hr2, hfr2⟩ := hrs i
    rw [hbe]
    exact (binCoreP_run i hls hopne hogl hrgl (.ws _ hr1)
      (fun k h1 h2 => by rw [List.append_nil]; exact sepOk_replicate_nl k h1 h2 _ _ hfr1) hr2 hfr2).indent i b
  | .wth env body awc g asc before after, hok, hml, hinv, hclean, na, i, b => by
    obtain ⟨hen, hbd, _, hasc, hb, ha⟩ := hok
    obtain ⟨hem, hbm, henb, hbnb, hea, hba⟩ := hml
    obtain ⟨hei, heb, hawc, hbi, habf, haaf⟩ := hinv
    subst hawc; subst hasc
    obtain ⟨hec, hbc⟩ := hclean
    have hT := trailP_summ (ite_nil_ok na ha) (alt_ite_nil na haaf) i
    have ihe := rebuildAP_summ env hen hem hei hec false
    have hcle : closedT (env.effAfter false) := closedT_fresh henb hea
    have hclb : closedT (body.effAfter false) := closedT_fresh hbnb hba
    obtain ⟨w, fb, hsb, hfb, hwb⟩ := withBody_summ hbd hclb i (fun b' => rebuildAP_summ body hbd hbm hbi hbc false i b')
    simp only [Expr.rebuildAP, addTriviaP]
    rw [fmtP_lines hb.1, List.append_assoc (linesP i before)]
    refine exprS_of_wrap (fc := .tok kwWith) hb habf ?_ (tok_ne_semi kwWith_ne_semi) hT.1 hT.2 (fun h => h) (fun h => h)
    rw [withSep_cases, withLayout_nil]
    obtain ⟨W, f, hW, hR⟩ := operand_summ ihe heb hcle (Layout.fromGap g) [' '] sepOk_space
      ((Layout.fromGap g).indent.getD i) i
    have hsuf : formatInlineCommentSuffix [] = [] := rfl
    -- `with`, separator and environment, `;` attached, separator and body
    have := (((Run.cons_tok kwWith hR hW).append (.tok [';']) (sepOk_nil _)).append (.ws [] hsb) hwb).indent i b
    simpa only [hsuf, List.append_assoc, List.cons_append, List.nil_append, List.append_nil, apply_ite, ite_self] using this
  | .ite cond thn els cg aic aig btc btg atc tg bec beg aec eg before after, hok, hml, hinv, hclean, na, i, b => by
    obtain ⟨hc, ht, he, _, _, _, _, _, hb, ha⟩ := hok
    obtain ⟨hcm, htm, hem, hcnb, htnb, henb, hca, hta, hea⟩ := hml
    obtain ⟨hci, hcb, hti, htb, hei, heb, hcg, h1, h2, h3, h4, h5, habf, haaf⟩ := hinv
    subst hcg; subst h1; subst h2; subst h3; subst h4; subst h5
    have hT := trailP_summ (ite_nil_ok na ha) (alt_ite_nil na haaf) i
    have ihc := rebuildAP_summ cond hc hcm hci hclean.1 false
    have iht := rebuildAP_summ thn ht htm hti hclean.2.1 false
    have ihe := rebuildAP_summ els he hem hei hclean.2.2 false
    have hclc : closedT (cond.effAfter false) := closedT_fresh hcnb hca
    have hclt : closedT (thn.effAfter false) := closedT_fresh htnb hta
    have hcle : closedT (els.effAfter false) := closedT_fresh henb hea
    simp only [Expr.rebuildAP, addTriviaP, htb, heb, iteLayout_nil, branchSep_eq, iteCondPrefix_nil, iteKwPrefix_nil,
      formatInlineCommentSuffix, List.foldl_nil, List.nil_append]
    rw [fmtP_lines hb.1, List.append_assoc (linesP i before)]
    refine exprS_of_wrap (fc := .tok kwIf) hb habf ?_ (tok_ne_semi (by decide)) hT.1 hT.2 (fun h => h) (fun h => h)
    rw [summ_append, indentP_summ]
    refine (congrArg (Summ.comb _) (ite_core_summ ?_ ?_ ?_ ?_ ?_)).trans ?_
    · exact branch_summ ihc hcb hclc cg _ _
    · exact sepText_sepOk _ _ (tok_ne_semi (by decide))
    · exact branch_summ iht htb hclt tg _ _
    · exact sepText_sepOk _ _ (tok_ne_semi (by decide))
    · exact branch_summ ihe heb hcle eg _ _
    · simp [Summ.comb]
  | .has expr attrs lg rg bq aq before after, hok, hml, hinv, hclean, na, i, b => by
    obtain ⟨he, hne, _, _, _, hb, ha⟩ := hok
    obtain ⟨hem, henb, hea⟩ := hml
    obtain ⟨hei, heb, hbq0, haq0, hsemi, habf, haaf⟩ := hinv
    subst hbq0; subst haq0
    have hT := trailP_summ (ite_nil_ok na ha) (alt_ite_nil na haaf) i
    have hcl : closedT (expr.effAfter false) := closedT_fresh henb hea
    obtain ⟨f, hes, hf⟩ := (rebuildAP_summ expr he hem hei hclean false i true).tight heb hcl
    obtain ⟨a0, ha0, hat⟩ := attrP_summ_head attrs hne
    simp only [Expr.rebuildAP, addTriviaP, hasSep_nil]
    rw [fmtP_lines hb.1, List.append_assoc (linesP i before)]
    refine exprS_of_wrap hb habf ?_ hf hT.1 hT.2 (fun h => h) (fun h => h)
    exact (((hes.append (.wsTok _ _) (sepText_sepOk lg _ (tok_ne_semi (t := ['?']) (by decide)))).append
      (.ws _ hat) (by rw [List.append_nil]; exact sepText_sepOk rg _ (tok_ne_semi (hsemi a0 ha0)))).of_eq (by simp)).indent i b
theorem joinNl_summ : (es : List Expr) → allOk es → allMlSafe es → allNfInv es → allInlineClean es → nonLastClosed es → es ≠ [] → ∀ (i : Nat),
    ∃ l f t, summ (joinP [.ws ['\n']] (rebuildAllP es i false)) = .lexy l f true t ∧ f ≠ semi ∧ VLead l ∧ TrailT t
  | [], _, _, _, _, _, h, _ => absurd rfl h
  | [e], hok, hml, hinv, hc, _, _, i => by
    obtain ⟨l, f, t, hs, hf, hl, ht, _⟩ := rebuildAP_summ e hok.1 hml.1 hinv.1 hc.1 false i false
    exact ⟨l, f, t, by simpa [rebuildAllP, joinP] using hs, hf, hl, ht⟩
  | e :: e' :: r, hok, hml, hinv, hc, hcl, _, i => by
    obtain ⟨l, f, t, hs, hf, hl, _, _, _, c3, _⟩ := rebuildAP_summ e hok.1 hml.1 hinv.1 hc.1 false i false
    obtain ⟨l', f', t', hs', hf', hl', ht'⟩ := joinNl_summ (e' :: r) hok.2 hml.2 hinv.2 hc.2 hcl.2 (by simp) i
    refine ⟨l, f, t', ?_, hf, hl, ht'⟩
    simp only [rebuildAllP, joinP] at hs' ⊢
    rw [summ_append, summ_append, hs, hs', c3 hcl.1, summ_ws]
    simp only [Summ.comb, List.nil_append, Bool.true_and, Bool.and_true]
    rw [show (['\n'] ++ l') = '\n' :: l' from rfl, sepOk_nl_vlead hl' f' hf']
theorem joinSp_summ : (es : List Expr) → allOk es → allMlSafe es → allNfInv es → allInlineClean es → allFlat es → es ≠ [] → ∀ (i : Nat),
    ∃ f, summ (joinP [.ws [' ']] (rebuildAllP es i true)) = .lexy [] f true [] ∧ f ≠ semi
  | [], _, _, _, _, _, h, _ => absurd rfl h
  | [e], hok, hml, hinv, hc, hfl, _, i => by
    obtain ⟨l, f, t, hs, hf, _, _, c1, _, c3, _⟩ := rebuildAP_summ e hok.1 hml.1 hinv.1 hc.1 false i true
    refine ⟨f, ?_, hf⟩
    simp only [rebuildAllP, joinP]
    rw [hs, c1 hfl.1, c3 hfl.2.1]; rfl
  | e :: e' :: r, hok, hml, hinv, hc, hfl, _, i => by
    obtain ⟨l, f, t, hs, hf, _, _, c1, _, c3, _⟩ := rebuildAP_summ e hok.1 hml.1 hinv.1 hc.1 false i true
    obtain ⟨f', hs', hf'⟩ := joinSp_summ (e' :: r) hok.2 hml.2 hinv.2 hc.2 hfl.2.2 (by simp) i
    refine ⟨f, ?_, hf⟩
    simp only [rebuildAllP, joinP] at hs' ⊢
    rw [summ_append, summ_append, hs, hs', c1 hfl.1, c3 hfl.2.1, summ_ws]
    simp only [Summ.comb, List.nil_append, List.append_nil, Bool.true_and, Bool.and_true, if_true]
    rw [sepOk_space _ hf']
end

/-- the one-line preview of a list, where there is one, is a tight run of tokens -/
theorem previewP_summ : (e : Expr) → e.ok → e.mlSafe → e.nfInv → e.inlineClean → ∀ (i : Nat) (p : List FP), e.previewP i = some p →
    ∃ f, summ p = .lexy [] f true [] ∧ f ≠ semi := by
  intro e hok hml hinv hclean i p h
  obtain ⟨l, f, t, hs, hf, _, _, c1, _, c3, _⟩ := rebuildAP_summ e hok hml hinv hclean true i true
  rw [previewP_inert h, hs]
  cases e with
  | list value ml inner before after =>
    simp only [Expr.previewP, Option.ite_none_left_eq_some, Bool.not_eq_true, Bool.or_eq_false_iff,
      Bool.not_eq_eq_eq_not, Bool.not_false, List.isEmpty_iff] at h
    rw [c1 h.2.1.1, c3 (Or.inl rfl)]
    exact ⟨f, rfl, hf⟩
  | _ => simp [Expr.previewP] at h

end Nima.Frag
