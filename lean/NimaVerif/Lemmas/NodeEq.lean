import NimaVerif.Model.NodeEq
/-! `Node.beq` is equality; decidable equality of nodes, layers and documents. -/
namespace Nima
namespace Node

mutual
  theorem beq_refl : ∀ a : Node, beq a a = true
    | atom a => by simp [beq]
    | ident a => by simp [beq]
    | set s vs o m r => by simp [beq, beqL_refl vs, beqL_refl o]
    | bind i n ne v b a => by simp [beq, beq_refl v]
    | inherit i ns => by simp [beq]
    | entry segs l b a => by simp [beq, beq_refl l]
  theorem beqL_refl : ∀ xs : List Node, beqL xs xs = true
    | [] => by simp [beqL]
    | x :: xs => by simp [beqL, beq_refl x, beqL_refl xs]
end

-- on two different constructors `beq` computes to `false`
mutual
  theorem eq_of_beq : ∀ a b : Node, beq a b = true → a = b
    | atom a, b => by
        cases b with
        | atom a' => simp [beq]
        | _ => exact fun h => absurd h Bool.false_ne_true
    | ident a, b => by
        cases b with
        | ident a' => simp [beq]
        | _ => exact fun h => absurd h Bool.false_ne_true
    | set s vs o m r, b => by
        cases b with
        | set s' vs' o' m' r' =>
          simp only [beq, Bool.and_eq_true, beq_iff_eq, set.injEq]
          exact fun ⟨⟨⟨⟨h1, h2⟩, h3⟩, h4⟩, h5⟩ => ⟨h1, eqL_of_beqL vs vs' h2, eqL_of_beqL o o' h3, h4, h5⟩
        | _ => exact fun h => absurd h Bool.false_ne_true
    | bind i n ne v b0 a, b => by
        cases b with
        | bind i' n' ne' v' b' a' =>
          simp only [beq, Bool.and_eq_true, beq_iff_eq, bind.injEq]
          exact fun ⟨⟨⟨⟨⟨h1, h2⟩, h3⟩, h4⟩, h5⟩, h6⟩ => ⟨h1, h2, h3, eq_of_beq v v' h4, h5, h6⟩
        | _ => exact fun h => absurd h Bool.false_ne_true
    | inherit i ns, b => by
        cases b with
        | inherit i' ns' => simp [beq]
        | _ => exact fun h => absurd h Bool.false_ne_true
    | entry segs l b0 a, b => by
        cases b with
        | entry segs' l' b' a' =>
          simp only [beq, Bool.and_eq_true, beq_iff_eq, entry.injEq]
          exact fun ⟨⟨⟨h1, h2⟩, h3⟩, h4⟩ => ⟨h1, eq_of_beq l l' h2, h3, h4⟩
        | _ => exact fun h => absurd h Bool.false_ne_true
  theorem eqL_of_beqL : ∀ xs ys : List Node, beqL xs ys = true → xs = ys
    | [], ys => by cases ys <;> simp [beqL]
    | x :: xs, ys => by
        cases ys with
        | nil => simp [beqL]
        | cons y ys =>
          simp only [beqL, Bool.and_eq_true, List.cons.injEq]
          exact fun ⟨h1, h2⟩ => ⟨eq_of_beq x y h1, eqL_of_beqL xs ys h2⟩
end

theorem beq_iff (a b : Node) : beq a b = true ↔ a = b :=
  ⟨eq_of_beq a b, fun h => h ▸ beq_refl a⟩
theorem beqL_iff (xs ys : List Node) : beqL xs ys = true ↔ xs = ys :=
  ⟨eqL_of_beqL xs ys, fun h => h ▸ beqL_refl xs⟩

instance : DecidableEq Node := fun a b => decidable_of_iff _ (beq_iff a b)

end Node

instance : DecidableEq Layer := fun a b =>
  decidable_of_iff (a.scope = b.scope ∧ a.order = b.order ∧ a.bodyBefore = b.bodyBefore ∧
      a.bodyAfter = b.bodyAfter ∧ a.afterLet = b.afterLet)
    (by cases a; cases b; simp)

instance : DecidableEq Doc := fun a b =>
  decidable_of_iff (a.noTarget = b.noTarget ∧ a.target = b.target ∧ a.tBefore = b.tBefore ∧
      a.tAfter = b.tAfter ∧ a.scope = b.scope ∧ a.stBodyBefore = b.stBodyBefore ∧
      a.stBodyAfter = b.stBodyAfter ∧ a.stOrder = b.stOrder ∧ a.stAfterLet = b.stAfterLet ∧
      a.stack = b.stack ∧ a.trailing = b.trailing ∧ a.topScope = b.topScope ∧ a.next = b.next ∧
      a.rstripped = b.rstripped ∧ a.scratch = b.scratch)
    (by cases a; cases b; simp only [Doc.mk.injEq])

end Nima
