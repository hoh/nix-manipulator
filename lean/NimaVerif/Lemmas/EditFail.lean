import NimaVerif.Model.EditSpec
import NimaVerif.Lemmas.NPath
import NimaVerif.Lemmas.Edit
/-!
Helper lemmas for C08 ("a rejected edit is loud and leaves the document exactly as it was").

The obligation is "no write precedes a reachable throw" in the state-returning model `EditM`:
every function of `Model/Edit.lean` is shown to return the *input* state whenever it fails, and the
exception classes that can escape are enumerated (`.key` / `.value` on well-formed inputs).
-/
namespace Nima.EditFail
-- name tokens are compared by spelling in this file (see `NameCmp` in Model/Edit.lean)
attribute [local instance] NameCmp.spelled

open Nima.Node Nima.EditM
open Nima.NameAgree (scopeRest)

/-! ### the `EditM` monad, unfolded -/
section
variable {α β : Type}

@[simp] theorem pure_apply (a : α) (d : Doc) : (pure a : EditM α) d = (.ok a, d) := rfl

@[simp] theorem bind_apply (m : EditM α) (f : α → EditM β) (d : Doc) :
    (m >>= f) d = (match m d with
      | (.ok a, d') => f a d'
      | (.error e, d') => (.error e, d')) := rfl

@[simp] theorem throw_apply (e : Err) (d : Doc) : (EditM.throw e : EditM α) d = (.error e, d) := rfl
@[simp] theorem get_apply (d : Doc) : EditM.get d = (.ok d, d) := rfl
@[simp] theorem modify_apply (f : Doc → Doc) (d : Doc) : EditM.modify f d = (.ok (), f d) := rfl
@[simp] theorem lift_apply (x : Except Err α) (d : Doc) : EditM.lift x d = (x, d) := rfl

theorem bind_ok {m : EditM α} {f : α → EditM β} {d d1 : Doc} {a : α} (h : m d = (.ok a, d1)) :
    (m >>= f) d = f a d1 := by simp [h]

theorem bind_error {m : EditM α} {f : α → EditM β} {d d1 : Doc} {e : Err} (h : m d = (.error e, d1)) :
    (m >>= f) d = (.error e, d1) := by simp [h]
end

open Nima.EditM

@[simp] theorem fresh_apply (d : Doc) : fresh d = (.ok d.next, { d with next := d.next + 1 }) := rfl

/-! ### lookups on the empty list -/

@[simp] theorem findBinding_nil (k : Text) : findBinding [] k = none := rfl
@[simp] theorem findNamedBinding_nil (k : Text) (n : Option Bool) : findNamedBinding [] k n = none := rfl
@[simp] theorem findAttrpathRoot_nil (k : Text) : findAttrpathRoot [] k = none := rfl
@[simp] theorem inheritMentions_nil (k : Text) : inheritMentions [] k = false := rfl

/-! ### a set has an identity; what a lookup finds is a binding -/

theorem isSet_setSid (s : Node) (h : s.isSet = true) : ∃ i, s.setSid? = some i := by
  cases s <;> simp_all [isSet, setSid?]

theorem findBinding_isBind {vs : List Node} {k : Text} {b : Node} (h : findBinding vs k = some b) :
    b.isBind = true := by
  have := List.find?_some h
  simp only [Bool.and_eq_true] at this
  exact this.1

theorem findNamedBinding_isBind {vs : List Node} {k : Text} {n : Option Bool} {b : Node}
    (h : findNamedBinding vs k n = some b) : b.isBind = true := by
  have := List.find?_some h
  simp only [Bool.and_eq_true] at this
  exact this.1.1

theorem findAttrpathRoot_isBind {vs : List Node} {k : Text} {b : Node}
    (h : findAttrpathRoot vs k = some b) : b.isBind = true := by
  have := List.find?_some h
  simp only [Bool.and_eq_true] at this
  exact this.1.1

/-! ### primitives and scope operations: always successful, or `KeyError` before any write -/

theorem assign_apply (bid : Nat) (v : Node) (d : Doc) : assign bid v d = (.ok (), d.updBind bid v) := rfl
theorem appendValue_ok (sid : Nat) (b : Node) (d : Doc) : ∃ d', appendValue sid b d = (.ok (), d') := ⟨_, rfl⟩
theorem appendOrderIfNonEmpty_ok (sid : Nat) (b : Node) (d : Doc) : ∃ d', appendOrderIfNonEmpty sid b d = (.ok (), d') := ⟨_, rfl⟩
theorem removeValueById_ok (sid bid : Nat) (d : Doc) : ∃ d', removeValueById sid bid d = (.ok (), d') := ⟨_, rfl⟩

theorem scopeSetItem_ok (key : Text) (v : Node) (d : Doc) : ∃ d', scopeSetItem key v d = (.ok (), d') := by
  unfold scopeSetItem
  split
  · split
    · exact ⟨_, rfl⟩
    · exact ⟨_, rfl⟩
  · exact ⟨_, rfl⟩

theorem scopeDelItem_error {key : Text} {d d' : Doc} {e : Err}
    (h : scopeDelItem key d = (.error e, d')) : d' = d ∧ e = .key := by
  unfold scopeDelItem at h
  split at h
  · simp at h; exact ⟨h.2.symm, h.1.symm⟩
  · split at h <;> cases h

/-! ### `__getitem__` -/

theorem setGetItem_walk_error (cur : Node) (segs : List Text) (e : Err)
    (h : setGetItem.walk cur segs = .error e) : e = .key := by
  fun_induction setGetItem.walk cur segs <;> simp_all

theorem setGetItem_error {s : Node} {key : Text} {e : Err} (h : setGetItem s key = .error e) :
    e = .key ∧ findBinding s.setValues key = none := by
  unfold setGetItem at h
  split at h
  · rename_i b hb
    obtain ⟨v, hv⟩ := isBind_bindValue (findBinding_isBind hb)
    simp [hv] at h
  · rename_i hb
    refine ⟨?_, hb⟩
    split at h
    · cases h
    · split at h
      · cases h; rfl
      · split at h
        · cases h; rfl
        · exact setGetItem_walk_error _ _ _ h

theorem setGetItem_walk_empty (cur : Node) (segs : List Text) (hc : cur.setValues = []) :
    setGetItem.walk cur segs = .error .key := by
  cases segs with
  | nil => rfl
  | cons a t => cases t <;> simp [setGetItem.walk, hc]

theorem setGetItem_empty (s : Node) (key : Text) (hs : s.setValues = []) :
    setGetItem s key = .error .key := by
  unfold setGetItem
  simp only [hs, findBinding_nil, inheritMentions_nil, Bool.false_eq_true, if_false]
  split
  · rfl
  · split
    · rfl
    · exact setGetItem_walk_empty _ _ hs

/-! ### the two parent walks: a failure precedes the first write -/

/-- Once a segment is missing the rest of `_set_attrpath_value`'s walk runs on a fresh empty set:
    it cannot fail, and it ends on a (fresh) empty set. -/
theorem setAttrpathWalk_empty (segs : List Text) : ∀ (cur : Node) (d : Doc),
    cur.isSet = true → cur.setValues = [] →
    ∃ c d', setAttrpathWalk cur segs d = (.ok c, d') ∧ c.isSet = true ∧ c.setValues = [] := by
  induction segs with
  | nil => intro cur d hs he; exact ⟨cur, d, rfl, hs, he⟩
  | cons seg more ih =>
    intro cur d hs he
    obtain ⟨csid, hc⟩ := isSet_setSid cur hs
    rw [setAttrpathWalk.eq_2]
    simp only [he, findNamedBinding_nil, Option.isSome_none, Bool.false_eq_true, if_false, hc,
      bind_apply, fresh_apply, appendValue, modify_apply]
    exact ih _ _ rfl rfl

/-- the class `{KeyError, ValueError}` -/
def KV (e : Err) : Prop := e = .key ∨ e = .value

/-- Outcome of a parent walk started on `cur` in state `d`: a failure happens before the first
    write (and is a `KeyError`/`ValueError` when the walk started on a set); a success either
    wrote nothing or ends on a set created by this walk, which is empty. -/
def WalkPost (cur : Node) (d : Doc) (r : Except Err Node) (d' : Doc) : Prop :=
  (∀ e, r = .error e → d' = d ∧ (cur.isSet = true → KV e)) ∧
  (∀ c, r = .ok c → (cur.isSet = true → c.isSet = true) ∧
      (d' = d ∨ (c.isSet = true ∧ c.setValues = [])))

/-- every run of the walk `m`, started on `cur`, ends as `WalkPost` says -/
def WalkOK (cur : Node) (m : EditM Node) : Prop := ∀ d r d', m d = (r, d') → WalkPost cur d r d'

theorem WalkOK.throw_value (cur : Node) : WalkOK cur (EditM.throw .value) := by
  intro d r d' h; cases h
  exact ⟨fun _ h => by cases h; exact ⟨rfl, fun _ => Or.inr rfl⟩, fun _ h => by cases h⟩

theorem WalkOK.throw_key (cur : Node) : WalkOK cur (EditM.throw .key) := by
  intro d r d' h; cases h
  exact ⟨fun _ h => by cases h; exact ⟨rfl, fun _ => Or.inl rfl⟩, fun _ h => by cases h⟩

theorem WalkOK.not_a_set {cur : Node} (e : Err) (h : cur.setSid? = none) : WalkOK cur (EditM.throw e) := by
  intro d r d' h'; cases h'
  refine ⟨fun _ he => ⟨rfl, fun hs => ?_⟩, fun _ h => by cases h⟩
  obtain ⟨i, hi⟩ := isSet_setSid cur hs
  rw [hi] at h; cases h

theorem WalkOK.here (cur : Node) : WalkOK cur (pure cur) := by
  intro d r d' h; cases h
  exact ⟨fun _ h => (nomatch h), fun _ h => by cases h; exact ⟨id, Or.inl rfl⟩⟩

/-- descending into an existing set `v` -/
theorem WalkOK.descend {cur v : Node} {m : EditM Node} (hv : v.isSet = true) (h : WalkOK v m) :
    WalkOK cur m := fun d r d' hm =>
  have p := h d r d' hm
  ⟨fun e he => ⟨(p.1 e he).1, fun _ => (p.1 e he).2 hv⟩,
   fun c hc => ⟨fun _ => (p.2 c hc).1 hv, (p.2 c hc).2⟩⟩

/-- a walk that cannot fail and ends on a fresh empty set -/
theorem WalkOK.fresh {cur : Node} {m : EditM Node}
    (h : ∀ d, ∃ c d', m d = (.ok c, d') ∧ c.isSet = true ∧ c.setValues = []) : WalkOK cur m := by
  intro d r d' hm
  obtain ⟨c, d1, hw, hcs, hce⟩ := h d
  rw [hw] at hm; cases hm
  exact ⟨fun _ h => (nomatch h), fun _ h => by cases h; exact ⟨fun _ => hcs, Or.inr ⟨hcs, hce⟩⟩⟩

theorem WalkOK.ite {cur : Node} {c : Prop} [Decidable c] {m n : EditM Node} (hm : WalkOK cur m)
    (hn : WalkOK cur n) : WalkOK cur (if c then m else n) := by
  split <;> assumption

theorem setAttrpathWalk_spec (segs : List Text) : ∀ cur, WalkOK cur (setAttrpathWalk cur segs) := by
  induction segs with
  | nil => exact WalkOK.here
  | cons seg more ih =>
    intro cur
    rw [setAttrpathWalk.eq_2]
    split
    · split
      · exact .descend rfl (ih _)
      · exact .throw_value _
    · refine .ite (.throw_value _) ?_
      split
      · rename_i hc; exact .not_a_set _ hc
      · -- the rest of the walk runs on the set created here
        refine .fresh fun d => ?_
        simp only [bind_apply, fresh_apply, appendValue, modify_apply]
        exact setAttrpathWalk_empty more _ _ rfl rfl

/-- `_resolve_npath_parent(create_missing=True)` on an empty set cannot fail and ends on an
    empty set. -/
theorem resolveParentWalk_empty (segs : List Text) : ∀ (cur : Node) (d : Doc),
    cur.isSet = true → cur.setValues = [] →
    ∃ c d', resolveParentWalk true cur segs d = (.ok c, d') ∧ c.isSet = true ∧ c.setValues = [] := by
  induction segs with
  | nil => intro cur d hs he; exact ⟨cur, d, rfl, hs, he⟩
  | cons key more ih =>
    intro cur d hs he
    obtain ⟨csid, hc⟩ := isSet_setSid cur hs
    rw [resolveParentWalk.eq_2]
    simp only [setGetItem_empty cur key he, Bool.not_true, Bool.false_eq_true, if_false, hc,
      bind_apply, fresh_apply, setSetItem, he, findBinding_nil, appendValue, appendOrderIfNonEmpty,
      modify_apply]
    exact ih _ _ rfl rfl

theorem resolveParentWalk_spec (cm : Bool) (segs : List Text) :
    ∀ cur, WalkOK cur (resolveParentWalk cm cur segs) := by
  induction segs with
  | nil => exact WalkOK.here
  | cons key more ih =>
    intro cur
    rw [resolveParentWalk.eq_2]
    split
    · exact .descend rfl (ih _)
    · exact .throw_value _
    · rename_i e0 hg
      cases cm with
      | false => exact .throw_key _
      | true =>
        simp only [Bool.not_true, Bool.false_eq_true, if_false]
        split
        · rename_i hc; exact .not_a_set _ hc
        · refine .fresh fun d => ?_
          simp only [bind_apply, fresh_apply, setSetItem, (setGetItem_error hg).2, ‹cur.setSid? = some _›,
            appendValue, appendOrderIfNonEmpty, modify_apply]
          exact resolveParentWalk_empty more _ _ rfl rfl

/-! ### computations that cannot fail -/

/-- the computation succeeds in every state -/
def NoFail {α : Type} (m : EditM α) : Prop := ∀ d, ∃ a d', m d = (.ok a, d')

theorem NoFail.pure {α : Type} (a : α) : NoFail (pure a : EditM α) := fun d => ⟨a, d, rfl⟩
theorem NoFail.get : NoFail EditM.get := fun d => ⟨d, d, rfl⟩
theorem NoFail.modify (f : Doc → Doc) : NoFail (EditM.modify f) := fun d => ⟨(), f d, rfl⟩
theorem NoFail.fresh : NoFail fresh := fun _ => ⟨_, _, rfl⟩
theorem NoFail.assign (bid : Nat) (v : Node) : NoFail (assign bid v) := fun _ => ⟨_, _, rfl⟩
theorem NoFail.appendValue (sid : Nat) (b : Node) : NoFail (appendValue sid b) := fun _ => ⟨_, _, rfl⟩
theorem NoFail.appendOrderIfNonEmpty (sid : Nat) (b : Node) : NoFail (appendOrderIfNonEmpty sid b) :=
  fun _ => ⟨_, _, rfl⟩
theorem NoFail.removeValueById (sid bid : Nat) : NoFail (removeValueById sid bid) := fun _ => ⟨_, _, rfl⟩

theorem NoFail.bind {α β : Type} {m : EditM α} {f : α → EditM β} (hm : NoFail m)
    (hf : ∀ a, NoFail (f a)) : NoFail (m >>= f) := by
  intro d
  obtain ⟨a, d1, h1⟩ := hm d
  obtain ⟨b, d2, h2⟩ := hf a d1
  exact ⟨b, d2, by simp [h1, h2]⟩

theorem NoFail.ite {α : Type} {c : Prop} [Decidable c] {m n : EditM α} (hm : NoFail m) (hn : NoFail n) :
    NoFail (if c then m else n) := by
  split <;> assumption

theorem NoFail.not_error {α : Type} {m : EditM α} (h : NoFail m) {d d' : Doc} {e : Err}
    (he : m d = (.error e, d')) : False := by
  obtain ⟨a, d1, h1⟩ := h d
  rw [h1] at he; cases he

theorem NoFail.assignThrough (ts : Node) (wl : Bool) (name : Text) (v : Node) :
    NoFail (assignThrough ts wl name v) := by
  unfold Nima.assignThrough
  refine NoFail.bind NoFail.get fun d => ?_
  refine NoFail.ite (NoFail.pure _) ?_
  split
  · exact NoFail.bind (NoFail.assign _ _) fun _ => NoFail.pure _
  · exact NoFail.pure _

theorem NoFail.assignExisting (ts parent : Node) (wl : Bool) (b v : Node) :
    NoFail (assignExisting ts parent wl b v) := by
  unfold Nima.assignExisting
  split
  · refine NoFail.bind (NoFail.assignThrough _ _ _ _) fun r => ?_
    refine NoFail.ite (NoFail.pure _) ?_
    refine NoFail.bind NoFail.get fun d => ?_
    dsimp only
    split
    · split
      · exact NoFail.assign _ _
      · exact NoFail.pure _
    · split
      · split
        · exact NoFail.assign _ _
        · exact NoFail.pure _
      · exact NoFail.assign _ _
  · exact NoFail.assign _ _
  · exact NoFail.pure _

theorem NoFail.pruneParents (st : List (Node × Node)) : NoFail (pruneParents st) := by
  induction st with
  | nil => exact NoFail.pure _
  | cons pb rest ih =>
    obtain ⟨parent, b⟩ := pb
    rw [Nima.pruneParents.eq_2]
    refine NoFail.bind NoFail.get fun d => ?_
    split
    · dsimp only
      refine NoFail.ite ?_ (NoFail.pure _)
      exact NoFail.bind (NoFail.removeValueById _ _) fun _ => ih
    · exact NoFail.pure _

/-! ### `_walk_attrpath_stack` -/

/-- what `_walk_attrpath_stack` returns: pairs (parent set, binding) -/
def StackOK (st : List (Node × Node)) : Prop := ∀ pb ∈ st, pb.1.isSet = true ∧ pb.2.isBind = true

theorem StackOK.append {st : List (Node × Node)} {p b : Node} (h : StackOK st) (hp : p.isSet = true)
    (hb : b.isBind = true) : StackOK (st ++ [(p, b)]) := by
  intro pb hm
  rcases List.mem_append.mp hm with h1 | h1
  · exact h _ h1
  · simp only [List.mem_singleton] at h1; subst h1; exact ⟨hp, hb⟩

/-- What `_walk_attrpath_stack(require_root=rr)` returns: `KeyError`/`ValueError`; `None` only without
    `require_root`; or a stack satisfying `ok`. -/
def StackRes (rr : Bool) (ok : List (Node × Node) → Prop) :
    Except Err (Option (List (Node × Node))) → Prop
  | .error e => KV e
  | .ok none => rr = false
  | .ok (some st) => ok st

/-- `raise … if require_root else None` -/
theorem StackRes.missing {rr : Bool} {ok : List (Node × Node) → Prop} {e : Err} (he : KV e) :
    StackRes rr ok (if rr = true then .error e else .ok none) := by
  cases rr
  · exact rfl
  · exact he

theorem StackRes.mono {rr : Bool} {ok ok' : List (Node × Node) → Prop} {r} (h : StackRes rr ok r)
    (himp : ∀ st, ok st → ok' st) : StackRes rr ok' r := by
  cases r with
  | error e => exact h
  | ok o => cases o with
    | none => exact h
    | some st => exact himp st h

theorem walkAttrpathStack_go_res (ln rr : Bool) (rest : List Text) :
    ∀ (cur : Node) (st : List (Node × Node)),
      StackRes rr (fun st' => cur.isSet = true → st ≠ [] → StackOK st → st' ≠ [] ∧ StackOK st')
        (walkAttrpathStack.go ln rr cur st rest) := by
  induction rest with
  | nil => intro cur st _ hne hst; exact ⟨hne, hst⟩
  | cons seg more ih =>
    intro cur st
    cases more with
    | nil =>
      rw [walkAttrpathStack.go]
      split
      · exact .missing (.inl rfl)
      · rename_i b hb
        exact fun hc _ hst => ⟨by simp, hst.append hc (findNamedBinding_isBind hb)⟩
    | cons seg2 more2 =>
      simp only [walkAttrpathStack.go]
      split
      · exact .missing (.inl rfl)
      · rename_i b hb
        split
        · exact (ih _ _).mono fun st' h hc _ hst =>
            h rfl (by simp) (hst.append hc (findNamedBinding_isBind hb))
        · exact .missing (.inr rfl)

theorem walkAttrpathStack_res (ts : Node) (segs : List Text) (ln rr : Bool) :
    StackRes rr (fun st => ts.isSet = true → st ≠ [] ∧ StackOK st) (walkAttrpathStack ts segs ln rr) := by
  unfold walkAttrpathStack
  split
  · exact .missing (.inl rfl)
  · exact .missing (.inl rfl)
  · split
    · exact .missing (.inl rfl)
    · rename_i rootB hr
      split
      · refine (walkAttrpathStack_go_res ln rr _ _ _).mono fun st' h hts => h rfl (by simp) ?_
        intro pb hm
        simp only [List.mem_singleton] at hm; subst hm
        exact ⟨hts, findAttrpathRoot_isBind hr⟩
      · exact .missing (.inl rfl)

/-- the error classes of `_walk_attrpath_stack`, whatever the target is -/
theorem walkAttrpathStack_error (ts : Node) (segs : List Text) (ln rr : Bool) (e : Err)
    (h : walkAttrpathStack ts segs ln rr = .error e) : KV e := by
  have := walkAttrpathStack_res ts segs ln rr
  rw [h] at this; exact this

/-! ### clean failure -/

/-- Every failure of `m` returns the state it was started in, with an exception satisfying `P`. -/
def FailsClean {α : Type} (m : EditM α) (P : Err → Prop) : Prop :=
  ∀ d e d', m d = (.error e, d') → d' = d ∧ P e

theorem FailsClean.throw {α : Type} {P : Err → Prop} {e : Err} (h : P e) :
    FailsClean (EditM.throw e : EditM α) P := by
  intro d e' d' he
  simp only [throw_apply, Prod.mk.injEq, Except.error.injEq] at he
  obtain ⟨rfl, rfl⟩ := he
  exact ⟨rfl, h⟩

theorem FailsClean.of_noFail {α : Type} {P : Err → Prop} {m : EditM α} (h : NoFail m) :
    FailsClean m P := fun _ _ _ he => (h.not_error he).elim

theorem FailsClean.mono {α : Type} {P Q : Err → Prop} {m : EditM α} (h : FailsClean m P)
    (hpq : ∀ e, P e → Q e) : FailsClean m Q :=
  fun d e d' he => ⟨(h d e d' he).1, hpq e (h d e d' he).2⟩

theorem FailsClean.ite {α : Type} {P : Err → Prop} {c : Prop} [Decidable c] {m n : EditM α}
    (hm : FailsClean m P) (hn : FailsClean n P) : FailsClean (if c then m else n) P := by
  split <;> assumption

theorem StackOK.getLast {st : List (Node × Node)} (h : StackOK st) (hne : st ≠ []) :
    ∃ p l psid lid, st.getLast? = some (p, l) ∧ p.setSid? = some psid ∧ l.bindId? = some lid := by
  have hm := List.getLast_mem hne
  obtain ⟨hp, hl⟩ := h _ hm
  obtain ⟨psid, hps⟩ := isSet_setSid _ hp
  obtain ⟨lid, hli⟩ := isBind_bindId hl
  exact ⟨_, _, psid, lid, by rw [List.getLast?_eq_some_getLast hne], hps, hli⟩

/-- `_remove_attrpath_value` raises before its first write; on a set, only `KeyError`/`ValueError`. -/
theorem removeAttrpathValue_clean (ts : Node) (segs : List Text) :
    FailsClean (removeAttrpathValue ts segs) (fun e => ts.isSet = true → KV e) := by
  unfold removeAttrpathValue
  split
  · rename_i e hw
    exact FailsClean.throw fun _ => walkAttrpathStack_error _ _ _ _ _ hw
  · rename_i hw
    refine FailsClean.throw fun hts => ?_
    have := walkAttrpathStack_res ts segs false true
    rw [hw] at this; cases this
  · rename_i stack hw
    split
    · split
      · refine FailsClean.of_noFail ?_
        refine NoFail.bind (NoFail.removeValueById _ _) fun _ => ?_
        exact NoFail.bind (NoFail.modify _) fun _ => NoFail.pruneParents _
      · rename_i parent leaf tsSid hl hs _ _ hnot
        refine FailsClean.throw fun hts => ?_
        have hsp := walkAttrpathStack_res ts segs false true
        rw [hw] at hsp
        have hsp := hsp hts
        obtain ⟨p, l, psid, lid, h1, h2, h3⟩ := hsp.2.getLast hsp.1
        rw [hl] at h1; cases h1
        exact (hnot psid lid h2 h3).elim
    · rename_i hnot
      refine FailsClean.throw fun hts => ?_
      have hsp := walkAttrpathStack_res ts segs false true
      rw [hw] at hsp
      have hsp := hsp hts
      obtain ⟨p, l, psid, lid, h1, h2, h3⟩ := hsp.2.getLast hsp.1
      obtain ⟨tsid, h4⟩ := isSet_setSid _ hts
      exact (hnot p l tsid h1 h4).elim

/-- A parent walk followed by a continuation that fails cleanly on every set and cannot fail on
    an empty set: the whole fails cleanly ("no write precedes a reachable throw"). -/
theorem FailsClean.bind_walk {β : Type} {m : EditM Node} {k : Node → EditM β} {cur : Node}
    {P : Err → Prop}
    (hm : WalkOK cur m) (hcur : cur.isSet = true)
    (hP : ∀ e, KV e → P e)
    (hk1 : ∀ c, c.isSet = true → FailsClean (k c) P)
    (hk2 : ∀ c, c.isSet = true → c.setValues = [] → NoFail (k c)) :
    FailsClean (m >>= k) P := by
  intro d e d' h
  simp only [bind_apply] at h
  rcases hw : m d with ⟨r, d1⟩
  have post := hm _ _ _ hw
  rw [hw] at h
  cases r with
  | error e1 =>
    simp only [Prod.mk.injEq, Except.error.injEq] at h
    obtain ⟨rfl, rfl⟩ := h
    exact ⟨(post.1 _ rfl).1, hP _ ((post.1 _ rfl).2 hcur)⟩
  | ok c =>
    simp only at h
    obtain ⟨hcs, hor⟩ := post.2 c rfl
    rcases hor with rfl | ⟨h1, h2⟩
    · exact hk1 c (hcs hcur) _ _ _ h
    · exact ((hk2 c h1 h2).not_error h).elim

theorem setAttrpathValue_clean (tsSid : Nat) (root : Node) (segs : List Text) (v : Node)
    (hne : segs ≠ []) : FailsClean (setAttrpathValue tsSid root segs v) KV := by
  unfold setAttrpathValue
  split
  · refine FailsClean.bind_walk (setAttrpathWalk_spec _ _) rfl (fun _ h => h) ?_ ?_
    · intro c hc
      split
      · rename_i hl
        exact absurd (List.getLast?_eq_none_iff.mp hl) hne
      · split
        · exact FailsClean.throw (Or.inr rfl)
        · split
          · split
            · exact FailsClean.of_noFail (NoFail.assign _ _)
            · exact FailsClean.of_noFail (NoFail.pure _)
          · split
            · rename_i hs
              obtain ⟨i, hi⟩ := isSet_setSid c hc
              rw [hi] at hs; cases hs
            · refine FailsClean.of_noFail ?_
              refine NoFail.bind NoFail.fresh fun _ => ?_
              exact NoFail.bind (NoFail.appendValue _ _) fun _ => NoFail.appendOrderIfNonEmpty _ _
    · intro c hc he
      split
      · rename_i hl
        exact absurd (List.getLast?_eq_none_iff.mp hl) hne
      · obtain ⟨i, hi⟩ := isSet_setSid c hc
        simp only [he, findNamedBinding_nil, Option.isSome_none, Bool.false_eq_true, if_false, hi]
        refine NoFail.bind NoFail.fresh fun _ => ?_
        exact NoFail.bind (NoFail.appendValue _ _) fun _ => NoFail.appendOrderIfNonEmpty _ _
  · exact FailsClean.throw (Or.inr rfl)

/-! ### the path parser raises `ValueError` only, and never yields an empty path -/

/-- what the functions of the path parser return: a result satisfying `Q`, or `ValueError` -/
def Parsed {α : Type} (Q : α → Prop) : Except Err α → Prop
  | .ok x => Q x
  | .error e => e = .value

theorem Parsed.ite {α : Type} {Q : α → Prop} {c : Prop} [Decidable c] {x y : Except Err α}
    (hx : Parsed Q x) (hy : Parsed Q y) : Parsed Q (if c then x else y) := by
  split <;> assumption

theorem Parsed.error {α : Type} {Q : α → Prop} {r : Except Err α} (h : Parsed Q r) {e : Err}
    (he : r = .error e) : e = .value := by
  subst he; exact h

theorem Parsed.ok {α : Type} {Q : α → Prop} {r : Except Err α} (h : Parsed Q r) {x : α}
    (hx : r = .ok x) : Q x := by
  subst hx; exact h

theorem npFinalize_parsed (a : Bool) (st : NPState) : Parsed (·.segs ≠ []) (npFinalize a st) :=
  .ite rfl (.ite rfl (by simp [Parsed]))

theorem npStep_parsed (a : Bool) (st : NPState) (c : Char) : Parsed (fun _ => True) (npStep a st c) := by
  have fin : Parsed (fun _ => True) (npFinalize a st) := by
    cases h : npFinalize a st with
    | ok _ => trivial
    | error e => exact (npFinalize_parsed a st).error h
  -- inside quotes every character is accepted; outside, the branches of `npStep` in order
  exact .ite (.ite trivial (.ite trivial (.ite trivial trivial)))
    (.ite fin (.ite rfl (.ite (.ite rfl trivial) trivial)))

theorem npRun_parsed (a : Bool) (p : Text) : ∀ st, Parsed (fun _ => True) (npRun a st p) := by
  induction p with
  | nil => intro st; trivial
  | cons c cs ih =>
    intro st
    rw [npRun]
    cases hs : npStep a st c with
    | ok st' => exact ih st'
    | error e => exact (npStep_parsed a st c).error hs

theorem parseNPath_parsed (a : Bool) (p : Text) : Parsed (· ≠ []) (parseNPath a p) := by
  unfold parseNPath
  refine .ite rfl ?_
  cases hr : npRun a {} p with
  | error e => exact (npRun_parsed a p {}).error hr
  | ok st =>
    refine .ite rfl (.ite rfl ?_)
    cases hf : npFinalize a st with
    | error e => exact (npFinalize_parsed a st).error hf
    | ok st' => exact (npFinalize_parsed a st).ok hf

theorem formatNPath_parsed (a : Bool) (p : Text) : Parsed (· ≠ []) (formatNPath a p) := by
  unfold formatNPath
  cases hp : parseNPath a p with
  | error e => exact (parseNPath_parsed a p).error hp
  | ok segs => simpa [Except.map, Parsed] using (parseNPath_parsed a p).ok hp

theorem formatNPath_error (a : Bool) (p : Text) (e : Err) (h : formatNPath a p = .error e) :
    e = .value := (formatNPath_parsed a p).error h

theorem formatNPath_ne_nil (a : Bool) (p : Text) (segs : List Text) (h : formatNPath a p = .ok segs) :
    segs ≠ [] := (formatNPath_parsed a p).ok h

/-! ### mapping operations as clean failures -/

theorem setSetItem_noFail (s : Node) (key : Text) (v : Node) (hs : s.isSet = true) :
    NoFail (setSetItem s key v) := by
  obtain ⟨i, hi⟩ := isSet_setSid s hs
  unfold setSetItem
  split
  · split
    · exact NoFail.assign _ _
    · exact NoFail.pure _
  · refine NoFail.bind NoFail.fresh fun _ => ?_
    exact NoFail.bind (NoFail.appendValue _ _) fun _ => NoFail.appendOrderIfNonEmpty _ _
  · rename_i h; rw [hi] at h; cases h

/-- `AttributeSet.__setitem__` fails only on a receiver that is not a set, and then before any
    write. -/
theorem setSetItem_fails (s : Node) (key : Text) (v : Node) :
    FailsClean (setSetItem s key v) fun _ => s.setSid? = none ∧ findBinding s.setValues key = none := by
  unfold setSetItem
  split
  · split
    · exact FailsClean.of_noFail (NoFail.assign _ _)
    · exact FailsClean.of_noFail (NoFail.pure _)
  · refine FailsClean.of_noFail (NoFail.bind NoFail.fresh fun _ => ?_)
    exact NoFail.bind (NoFail.appendValue _ _) fun _ => NoFail.appendOrderIfNonEmpty _ _
  · rename_i hb hs
    exact FailsClean.throw ⟨hs, hb⟩

theorem setSetItem_clean (s : Node) (key : Text) (v : Node) :
    FailsClean (setSetItem s key v) (fun _ => s.isSet = true → False) :=
  (setSetItem_fails s key v).mono fun _ h hs => by
    obtain ⟨i, hi⟩ := isSet_setSid s hs
    rw [hi] at h; cases h.1

theorem setDelItem_clean (s : Node) (key : Text) : FailsClean (setDelItem s key) (fun e => e = .key) := by
  unfold setDelItem
  split
  · split
    · exact FailsClean.of_noFail (NoFail.modify _)
    · exact FailsClean.of_noFail (NoFail.pure _)
  · exact FailsClean.throw rfl

theorem getLast?_cons_ne_none {α : Type} (a : α) (l : List α) : (a :: l).getLast? ≠ none := by
  simp [List.getLast?_eq_none_iff]

/-- `_set_value_in_attrset` raises before its first write; on a set only `KeyError`/`ValueError`. -/
theorem setValueInAttrset_clean (ts : Node) (wl : Bool) (npath : Text) (v : Node) :
    FailsClean (setValueInAttrset ts wl npath v) (fun e => ts.isSet = true → KV e) := by
  unfold setValueInAttrset
  split
  · rename_i e _ hf
    exact FailsClean.throw fun _ => Or.inr (formatNPath_error _ _ _ hf)
  · exact FailsClean.throw fun _ => Or.inr rfl
  · rename_i hs
    refine FailsClean.throw fun hts => ?_
    obtain ⟨i, hi⟩ := isSet_setSid ts hts
    rw [hi] at hs; cases hs
  · rename_i segs seg0 segRest tsSid hf hs
    have hts : ts.isSet = true := isSet_of_setSid hs
    split
    · split
      · exact FailsClean.of_noFail (NoFail.assign _ _)
      · exact FailsClean.of_noFail (NoFail.pure _)
    · dsimp only
      refine .ite (.ite (.throw fun _ => Or.inr rfl) ?_) ?_
      · split
        · exact FailsClean.of_noFail (NoFail.assignExisting _ _ _ _ _)
        · exact FailsClean.of_noFail (setSetItem_noFail _ _ _ hts)
      · split
        · exact (setAttrpathValue_clean _ _ _ _ (by simp)).mono fun _ h _ => h
        · refine FailsClean.bind_walk (resolveParentWalk_spec _ _ _) hts
            (fun _ h _ => h) ?_ ?_
          · intro c hc
            split
            · rename_i hl; exact absurd hl (getLast?_cons_ne_none _ _)
            · split
              · exact FailsClean.of_noFail (NoFail.assignExisting _ _ _ _ _)
              · exact FailsClean.of_noFail (setSetItem_noFail _ _ _ hc)
          · intro c hc he
            split
            · rename_i hl; exact absurd hl (getLast?_cons_ne_none _ _)
            · split
              · exact NoFail.assignExisting _ _ _ _ _
              · exact setSetItem_noFail _ _ _ hc

/-- On an empty set, once the path text is well-formed, `_set_value_in_attrset` cannot fail. -/
theorem setValueInAttrset_empty_noFail (ts : Node) (wl : Bool) (npath : Text) (v : Node)
    (segs : List Text) (hf : formatNPath currentAnchor npath = .ok segs)
    (hts : ts.isSet = true) (he : ts.setValues = []) :
    NoFail (setValueInAttrset ts wl npath v) := by
  obtain ⟨tsSid, hs⟩ := isSet_setSid ts hts
  have hne := formatNPath_ne_nil _ _ _ hf
  unfold setValueInAttrset
  rw [hf, hs]
  cases segs with
  | nil => exact absurd rfl hne
  | cons seg0 segRest =>
    dsimp only
    have hleaf : findAttrpathLeaf ts (seg0 :: segRest) = none := by
      unfold findAttrpathLeaf walkAttrpathStack
      cases segRest <;> simp [he]
    rw [hleaf]
    simp only [he, findAttrpathRoot_nil, findBinding_nil, Option.isSome_none, Bool.false_eq_true,
      if_false]
    split
    · exact setSetItem_noFail _ _ _ hts
    · intro d
      obtain ⟨c, d1, hw, hc, hce⟩ := resolveParentWalk_empty (seg0 :: segRest).dropLast ts d hts he
      have hk : NoFail (match (seg0 :: segRest).getLast? with
          | none => EditM.throw (.internal "IndexError")
          | some finalKey =>
            match findBinding c.setValues finalKey with
            | some b => assignExisting ts c wl b v
            | none => setSetItem c finalKey v) := by
        split
        · rename_i hl; exact absurd hl (getLast?_cons_ne_none _ _)
        · simp only [hce, findBinding_nil]
          exact setSetItem_noFail _ _ _ hc
      obtain ⟨a, d2, h2⟩ := hk d1
      exact ⟨a, d2, by simp only [bind_apply, hw]; exact h2⟩

/-- without `create_missing` the parent walk writes nothing -/
theorem resolveParentWalk_false_ro (segs : List Text) :
    ∀ (cur : Node) (d : Doc) (r : Except Err Node) (d' : Doc),
    resolveParentWalk false cur segs d = (r, d') → d' = d := by
  induction segs with
  | nil =>
    intro cur d r d' h
    simp only [resolveParentWalk, pure_apply, Prod.mk.injEq] at h
    exact h.2.symm
  | cons key more ih =>
    intro cur d r d' h
    rw [resolveParentWalk.eq_2] at h
    cases hg : setGetItem cur key with
    | ok v =>
      cases v with
      | set sid vs o m rc =>
        simp only [hg] at h
        exact ih _ _ _ _ h
      | _ =>
        simp only [hg, throw_apply, Prod.mk.injEq] at h
        exact h.2.symm
    | error e0 =>
      simp only [hg, Bool.not_false, if_true, throw_apply, Prod.mk.injEq] at h
      exact h.2.symm

/-- a computation that writes nothing, followed by one that fails cleanly -/
theorem FailsClean.bind_ro {α β : Type} {m : EditM α} {k : α → EditM β} {P : Err → Prop}
    {Q : α → Prop}
    (hm : ∀ d r d', m d = (r, d') → d' = d ∧ (∀ e, r = .error e → P e) ∧ (∀ a, r = .ok a → Q a))
    (hk : ∀ a, Q a → FailsClean (k a) P) : FailsClean (m >>= k) P := by
  intro d e d' h
  simp only [bind_apply] at h
  rcases hw : m d with ⟨r, d1⟩
  obtain ⟨rfl, h1, h2⟩ := hm _ _ _ hw
  rw [hw] at h
  cases r with
  | error e1 =>
    simp only [Prod.mk.injEq, Except.error.injEq] at h
    obtain ⟨rfl, rfl⟩ := h
    exact ⟨rfl, h1 _ rfl⟩
  | ok c => exact hk c (h2 c rfl) _ _ _ h

/-- `_remove_value_in_attrset` raises before its first write; on a set only `KeyError`/`ValueError`. -/
theorem removeValueInAttrset_clean (ts : Node) (npath : Text) :
    FailsClean (removeValueInAttrset ts npath) (fun e => ts.isSet = true → KV e) := by
  have del : ∀ s k, FailsClean (setDelItem s k) fun e => ts.isSet = true → KV e :=
    fun s k => (setDelItem_clean s k).mono fun _ h _ => Or.inl h
  unfold removeValueInAttrset
  split
  · rename_i e hf
    exact FailsClean.throw fun _ => Or.inr (formatNPath_error _ _ _ hf)
  · exact FailsClean.throw fun _ => Or.inr rfl
  · refine .ite (removeAttrpathValue_clean _ _) ?_
    dsimp only
    refine .ite (.ite (.throw fun _ => Or.inl rfl) (.ite (.throw fun _ => Or.inl rfl) (del _ _))) ?_
    refine .ite (removeAttrpathValue_clean _ _) ?_
    refine FailsClean.bind_ro (Q := fun _ => True) (fun d r d' h => ?_) fun c _ => ?_
    · have post := resolveParentWalk_spec _ _ _ _ _ _ h
      exact ⟨resolveParentWalk_false_ro _ _ _ _ _ h, fun e he hts => (post.1 e he).2 hts,
        fun _ _ => trivial⟩
    · split
      · rename_i hl; exact absurd hl (getLast?_cons_ne_none _ _)
      · exact del _ _

/-! ### scope layers and the two entry points -/

theorem Doc.same_refl (d : Doc) : d.same d := rfl
theorem Doc.same_of_eq {d d' : Doc} (h : d' = d) : d.same d' := by subst h; rfl
theorem Doc.same_trans {a b c : Doc} (h1 : a.same b) (h2 : b.same c) : a.same c := by
  unfold Doc.same at *
  -- `b` is `c` with another `next`, and `a` is `b` with another `next`
  rw [← h2] at h1
  exact h1

theorem setNthNonEmpty_self (stack : List Layer) : ∀ (idx : Nat) (l : Layer),
    (stack.filter (!·.scope.isEmpty))[idx]? = some l → setNthNonEmpty l.scope idx stack = stack := by
  induction stack with
  | nil => intro idx l h; rfl
  | cons x xs ih =>
    intro idx l h
    cases hx : x.scope.isEmpty with
    | true =>
      simp only [List.filter, hx, Bool.not_true] at h
      simp only [setNthNonEmpty, hx, if_true]
      rw [ih idx l h]
    | false =>
      simp only [List.filter, hx, Bool.not_false] at h
      cases idx with
      | zero =>
        simp only [List.getElem?_cons_zero, Option.some.injEq] at h
        subst h
        simp [setNthNonEmpty, hx]
      | succ k =>
        simp only [List.getElem?_cons_succ] at h
        simp only [setNthNonEmpty, hx, Bool.false_eq_true, if_false]
        rw [ih k l h]

/-- writing a collected layer's own `scope` list back changes nothing -/
theorem setLayerScope_self (d : Doc) (idx : Nat) (l : Layer)
    (h : (collectScopeLayers d)[idx]? = some l) : d.setLayerScope idx l.scope = d := by
  unfold collectScopeLayers at h
  unfold Doc.setLayerScope
  cases hs : d.scope.isEmpty with
  | true =>
    simp only [hs, if_true, List.nil_append] at h
    simp only [if_true]
    rw [setNthNonEmpty_self _ _ _ h]
  | false =>
    simp only [hs, Bool.false_eq_true, if_false] at h
    simp only [Bool.false_eq_true, if_false]
    cases idx with
    | zero =>
      simp only [List.cons_append, List.nil_append, List.getElem?_cons_zero, Option.some.injEq] at h
      subst h
      rfl
    | succ k =>
      simp only [List.cons_append, List.nil_append, List.getElem?_cons_succ] at h
      simp only
      rw [setNthNonEmpty_self _ _ _ h]

/-- The post-condition of a rejected top-level edit: the document is as it was, and on a target that
    is a set the exception is a `KeyError`, a `ValueError`, or the `ResolutionError` of a source whose
    target does not resolve. -/
def Rejected (d : Doc) (e : Err) (d' : Doc) : Prop :=
  d.same d' ∧ (d.target.isSet = true → KV e ∨ (e = .resolution ∧ d.noTarget = some .resolution))

theorem Rejected.here_value (d : Doc) : Rejected d .value d := ⟨rfl, fun _ => .inl (.inr rfl)⟩

theorem Rejected.of_clean {d d' : Doc} {e : Err} {ts : Node} {m : EditM Unit}
    (hc : FailsClean m (fun e => ts.isSet = true → KV e)) (hts : ts = d.target)
    (h : m d = (.error e, d')) : Rejected d e d' := by
  obtain ⟨rfl, hk⟩ := hc _ _ _ h
  exact ⟨rfl, fun h1 => .inl (hk (hts ▸ h1))⟩

/-- A failing attrset-level operation on a layer collected from the document leaves the document
    as it was (up to the identity spent on the scratch set). -/
theorem onLayer_fromDoc_error (d : Doc) (idx : Nat) (op : Node → EditM Unit)
    (hscr : d.scratch = none) (hidx : idx < (collectScopeLayers d).length)
    (hop : ∀ s, FailsClean (op s) fun e => s.isSet = true → KV e)
    {e : Err} {d' : Doc}
    (h : onLayer (collectScopeLayers d) true idx op d = (.error e, d')) : Rejected d e d' := by
  cases hl : (collectScopeLayers d)[idx]? with
  | none =>
    rw [List.getElem?_eq_none_iff] at hl
    omega
  | some l =>
    rw [onLayer_some hl] at h
    rcases hr : op (layerAsSet d.next l) (scratchDoc d l) with ⟨r, d1⟩
    rw [hr] at h
    cases r with
    | ok u => cases h
    | error e1 =>
      obtain ⟨rfl, hP⟩ := hop _ _ _ _ hr
      simp only [onLayerFinish, if_true, scratchDoc, Option.getD_some, Prod.mk.injEq,
        Except.error.injEq] at h
      obtain ⟨rfl, rfl⟩ := h
      refine ⟨?_, fun _ => .inl (hP rfl)⟩
      have := setLayerScope_self { d with next := d.next + 1, scratch := none } idx l hl
      simp only [layerAsSet, setValues]
      unfold Doc.same
      rw [this]
      cases d
      simp_all

/-- when the attrset-level operation cannot fail on the scratch set, `onLayer` cannot fail -/
theorem onLayer_noFail (layers : List Layer) (fd : Bool) (idx : Nat) (op : Node → EditM Unit) (l : Layer)
    (hl : layers[idx]? = some l) (hop : ∀ sid, NoFail (op (layerAsSet sid l)))
    {d d' : Doc} {e : Err} (h : onLayer layers fd idx op d = (.error e, d')) : False := by
  rw [onLayer_some hl] at h
  obtain ⟨a, d1, hr⟩ := hop d.next (scratchDoc d l)
  rw [hr] at h
  cases h

/-- the prologue fails with the document untouched; otherwise a failure is the continuation's -/
theorem dispatch_error {p : Text} {l : Nat → Text → Node → EditM Unit} {pl : Node → EditM Unit}
    {d d' : Doc} {e : Err} (h : dispatch p l pl d = (.error e, d'))
    (hl : ∀ k, 0 < k → d.noTarget = none → l k (scopeRest p) d.target d = (.error e, d') → Rejected d e d')
    (hp : pl d.target d = (.error e, d') → Rejected d e d') : Rejected d e d' := by
  rw [dispatch_eq] at h
  cases hr : route p d with
  | refuse e0 =>
    rw [hr] at h
    cases h
    exact ⟨rfl, fun _ => (route_refuse hr).2.imp_left Or.inr⟩
  | layer k => rw [hr] at h; exact hl k (route_layer hr).1 (route_layer hr).2.1 h
  | plain => rw [hr] at h; exact hp h

theorem setValue_error {p : Text} {v : ValueArg} {d d' : Doc} {e : Err}
    (hscr : d.scratch = none) (h : setValue p v d = (.error e, d')) : Rejected d e d' := by
  cases v with
  | empty => cases h; exact Rejected.here_value _
  | invalid => cases h; exact Rejected.here_value _
  | one v =>
    rw [setValue_one] at h
    refine dispatch_error h (fun depth hdepth _ h => ?_)
      fun h => Rejected.of_clean (setValueInAttrset_clean _ _ _ _) rfl h
    unfold setScoped at h
    dsimp only at h
    cases hc : ((collectScopeLayers d).isEmpty && depth == 1) with
    | true =>
      simp only [hc, if_true] at h
      simp only [Bool.and_eq_true, beq_iff_eq] at hc
      obtain ⟨_, rfl⟩ := hc
      cases hf : formatNPath currentAnchor (scopeRest p) with
      | error e0 =>
        simp only [hf] at h
        cases h
        rw [formatNPath_error _ _ _ hf]
        exact Rejected.here_value _
      | ok segs =>
        simp only [hf] at h
        cases hp : pathExistsInAttrset d.target segs with
        | true =>
          simp only [hp, if_true] at h
          exact Rejected.of_clean (setValueInAttrset_clean _ _ _ _) rfl h
        | false =>
          simp only [hp, Bool.false_eq_true, if_false, List.length_singleton, gt_iff_lt,
            Nat.lt_irrefl, Nat.sub_self] at h
          split at h
          · cases h
          · rename_i e1 d1 ho
            exfalso
            refine onLayer_noFail _ _ _ _
              { scope := [], order := [], bodyBefore := d.tBefore, bodyAfter := d.tAfter, afterLet := none }
              ?_ (fun sid => ?_) ho
            · rfl
            · exact setValueInAttrset_empty_noFail _ _ _ _ _ hf rfl rfl
    | false =>
      simp only [hc, Bool.false_eq_true, if_false] at h
      split at h
      · cases h; exact Rejected.here_value _
      · split at h
        · cases h
        · rename_i hle e1 d1 ho
          cases h
          exact onLayer_fromDoc_error d _ _ hscr (by omega)
            (fun s => setValueInAttrset_clean s false (scopeRest p) v) ho

theorem removeValue_error {p : Text} {d d' : Doc} {e : Err}
    (hscr : d.scratch = none) (h : removeValue p d = (.error e, d')) : Rejected d e d' := by
  rw [removeValue_eq] at h
  refine dispatch_error h (fun depth hdepth _ h => ?_)
    fun h => Rejected.of_clean (removeValueInAttrset_clean _ _) rfl h
  unfold removeScoped at h
  dsimp only at h
  split at h
  · cases h; exact Rejected.here_value _
  · split at h
    · rename_i hle _ e1 d1 ho
      cases h
      exact onLayer_fromDoc_error d _ _ hscr (by omega)
        (fun s => removeValueInAttrset_clean s (scopeRest p)) ho
    · cases h

end Nima.EditFail
