import NimaVerif.Model.Rebuild
import NimaVerif.Lemmas.Trivia
/-! Lemmas about the container fragment (L3–L5): the piece-level renderer concatenates to the
string-level renderer. Core Lean only. -/
namespace Nima.Frag
open Nima

/-! ### concat -/

@[simp] theorem concat_nil : concat [] = [] := rfl
@[simp] theorem concat_cons (p : FP) (ps : List FP) : concat (p :: ps) = p.text ++ concat ps := by
  simp [concat]
@[simp] theorem concat_append (a b : List FP) : concat (a ++ b) = concat a ++ concat b := by
  simp [concat]
@[simp] theorem text_tok (s : Text) : (FP.tok s).text = s := rfl
@[simp] theorem text_cmt (s : Text) : (FP.cmt s).text = s := rfl
@[simp] theorem text_ws (s : Text) : (FP.ws s).text = s := rfl
@[simp] theorem text_withText (p : FP) (s : Text) : (p.withText s).text = s := by cases p <;> rfl

theorem concat_joinP (sep : List FP) : ∀ (xs : List (List FP)),
    concat (joinP sep xs) = joinWith (concat sep) (xs.map concat)
  | [] => rfl
  | [x] => by simp [joinP, joinWith]
  | x :: y :: rest => by
    have ih := concat_joinP sep (y :: rest)
    simp only [joinP, concat_append, ih, List.map_cons, joinWith]

theorem concat_flatten (xs : List (List FP)) : concat xs.flatten = (xs.map concat).flatten := by
  induction xs with
  | nil => rfl
  | cons x xs ih => simp [ih]

/-! ### cuts -/

theorem concat_dropLastCharP : ∀ (ps : List FP), concat (dropLastCharP ps) = (concat ps).dropLast
  | [] => rfl
  | p :: rest => by
    simp only [dropLastCharP]
    by_cases h : (concat rest).isEmpty = true
    · have h0 : concat rest = [] := by simpa using h
      simp only [concat_cons, h0, List.append_nil]
      by_cases hl : p.text.length ≤ 1
      · simp only [hl, if_true]
        match hp : p.text with
        | [] => rfl
        | [_] => rfl
        | _ :: _ :: _ => rw [hp] at hl; simp at hl
      · simp [hl]
    · have h0 : concat rest ≠ [] := by simpa using h
      have ih := concat_dropLastCharP rest
      simp only [h, concat_cons]
      rw [List.dropLast_append_of_ne_nil h0, ← ih]
      simp

theorem dropWhile_append_all (p : Char → Bool) : ∀ (x y : Text),
    (x ++ y).dropWhile p = if x.all p then y.dropWhile p else x.dropWhile p ++ y
  | [], y => by simp
  | c :: x, y => by
    by_cases hc : p c = true
    · simp [hc, dropWhile_append_all p x y]
    · simp [hc]

theorem rstripNL_append (a b : Text) :
    rstripNL (a ++ b) = if b.all (· == '\n') then rstripNL a else a ++ rstripNL b := by
  unfold rstripNL
  rw [List.reverse_append, dropWhile_append_all]
  by_cases h : b.all (· == '\n') = true
  · have h' : b.reverse.all (· == '\n') = true := by simpa using h
    simp [h, h']
  · have h' : ¬ b.reverse.all (· == '\n') = true := by simpa using h
    simp [h, h']

theorem concat_rstripNLP : ∀ (ps : List FP), concat (rstripNLP ps) = rstripNL (concat ps)
  | [] => rfl
  | p :: rest => by
    simp only [rstripNLP, concat_cons]
    rw [rstripNL_append]
    by_cases h : (concat rest).all (· == '\n') = true
    · simp only [h, if_true]
      by_cases he : (rstripNL p.text).isEmpty = true
      · have : rstripNL p.text = [] := by simpa using he
        simp [this]
      · simp [he]
    · have ih := concat_rstripNLP rest
      simp [h, ih]

theorem concat_ite (c : Prop) [Decidable c] (a b : List FP) :
    concat (if c then a else b) = if c then concat a else concat b := by split <;> rfl

/-! ### trivia renderers -/

theorem concat_cmtP (c : Comment) (i : Nat) : concat (cmtP c i) = c.rebuild i := by
  simp [cmtP, rebuild_eq_token]

theorem concat_fmtGoP (i : Nat) (ts : List Trivia) (acc : List FP) (e : Bool) :
    concat (fmtGoP i ts acc e) = formatTriviaGo i ts (concat acc) e := by
  fun_induction fmtGoP i ts acc e with
  | case1 acc e => rfl
  | case2 rest acc e ih => rw [ih, formatTriviaGo]; simp
  | case3 rest acc e ih => rw [ih, formatTriviaGo]
  | case4 acc e acc1 acc2 c tl hin ih =>
    rw [ih]; simp only [formatTriviaGo]; simp [acc2, acc1, concat_ite, hin]
  | case5 acc e acc1 acc2 c tl hin ih =>
    rw [ih]; simp only [formatTriviaGo]; simp [acc2, acc1, concat_ite, hin]
  | case6 acc e acc1 acc2 tl ih =>
    rw [ih]; simp only [formatTriviaGo]; simp [acc2, acc1, concat_ite]
  | case7 acc e acc1 acc2 ih =>
    rw [ih]; simp only [formatTriviaGo]; simp [acc2, acc1, concat_ite]
  | case8 rest acc e acc1 acc2 h1 h2 h3 ih =>
    rw [ih]; symm; rw [formatTriviaGo]
    · simp [acc2, acc1, concat_ite]
    · exact h1
    · exact h2
    · exact h3
  | case9 c rest acc e ih => rw [ih, formatTriviaGo]; simp [concat_cmtP]

theorem concat_fmtP (ts : List Trivia) (i : Nat) : concat (fmtP ts i) = formatTrivia ts i := by
  simp [fmtP, formatTrivia, concat_fmtGoP]

theorem concat_trimP (ts : List Trivia) (ps : List FP) :
    concat (trimP ts ps) = trimTrailingLayoutNewline ts (concat ps) := by
  unfold trimP trimTrailingLayoutNewline
  cases ts.getLast? with
  | none => rfl
  | some t =>
    simp only
    split
    · exact concat_dropLastCharP ps
    · rfl

theorem concat_nlBlockP (ps : List FP) :
    concat (nlBlockP ps) = if (concat ps).isEmpty then [] else '\n' :: concat ps := by
  unfold nlBlockP; split <;> simp

theorem concat_trailP (after : List Trivia) (i : Nat) :
    concat (trailP after i) = applyTrailingTrivia [] after i := by
  unfold trailP applyTrailingTrivia
  match after with
  | [] => rfl
  | .emptyLine :: rest => simp [concat_nlBlockP, concat_trimP, concat_fmtP]
  | .linebreak :: rest => simp [concat_nlBlockP, concat_trimP, concat_fmtP]
  | .comma :: rest => simp [concat_nlBlockP, concat_trimP, concat_fmtP]
  | .comment c :: rest =>
    simp only
    split
    · simp [concat_nlBlockP, concat_trimP, concat_fmtP, concat_cmtP]
    · simp [concat_nlBlockP, concat_trimP, concat_fmtP]

theorem applyTrailing_eq (r : Text) (after : List Trivia) (i : Nat) :
    applyTrailingTrivia r after i = r ++ concat (trailP after i) := by
  rw [concat_trailP]; exact applyTrailingTrivia_prefix r after i

theorem concat_indentP (i : Nat) (b : Bool) : concat (indentP i b) = if b then [] else spaces i := by
  unfold indentP; split <;> simp

theorem concat_addTriviaP (before after : List Trivia) (core : List FP) (i : Nat) (b : Bool) :
    concat (addTriviaP before after core i b) = addTrivia before after (concat core) i b := by
  simp [addTriviaP, addTrivia, applyTrailing_eq, concat_fmtP, concat_indentP]

theorem concat_multilineBlockP (bp op body : List FP) (closer : Char) (i : Nat) (b s : Bool) :
    concat (multilineBlockP bp op body closer i b s) =
      multilineBlock (concat bp) (concat op) (concat body) closer i b s := by
  unfold multilineBlockP multilineBlock
  simp only [concat_append, concat_indentP, concat_ite]
  simp

theorem concat_bindingTailP (afterItems : List Trivia) (i : Nat) (r : Text) :
    r ++ concat (bindingTailP afterItems i) = bindingTail r afterItems i := by
  unfold bindingTailP bindingTail
  match afterItems with
  | [] => simp [applyTrailing_eq]
  | .emptyLine :: rest => simp [applyTrailing_eq]
  | .comma :: rest => simp [applyTrailing_eq]
  | .comment c :: rest => simp [applyTrailing_eq]
  | .linebreak :: rest =>
    simp only [concat_ite, concat_dropLastCharP, concat_cons, text_ws, concat_fmtP]
    by_cases h1 : startsWithNL (formatTrivia rest i) = true <;> simp [h1]

theorem concat_recP (r : Bool) : concat (recP r) = if r then ['r', 'e', 'c', ' '] else [] := by
  cases r <;> rfl

theorem concat_fnAfterP : ∀ (cs : List Comment) (acc : List FP) (i : Nat),
    concat (fnAfterP acc cs i) = fnAfterStr (concat acc) cs i
  | [], acc, i => rfl
  | c :: rest, acc, i => by
    simp only [fnAfterP, fnAfterStr]
    split
    · rw [concat_fnAfterP rest]
      congr 1
      simp only [concat_append, concat_cmtP, concat_ite, concat_nil, concat_cons, text_ws]
      split <;> simp
    · rw [concat_fnAfterP rest]
      congr 1
      simp only [concat_append, concat_cmtP, concat_ite, concat_nil, concat_cons, text_ws]
      split <;> simp

theorem concat_dropCharsP : ∀ (ps : List FP) (n : Nat), concat (dropCharsP ps n) = (concat ps).drop n
  | [], n => by simp [dropCharsP]
  | p :: rest, n => by
    simp only [dropCharsP]
    by_cases h0 : n = 0
    · subst h0; simp
    · simp only [h0, if_false]
      by_cases hl : p.text.length ≤ n
      · simp only [hl, if_true, concat_dropCharsP rest, concat_cons]
        rw [List.drop_append]
        have : List.drop n p.text = [] := List.drop_eq_nil_of_le hl
        rw [this, List.nil_append]
      · simp only [hl, if_false, concat_cons, text_withText]
        rw [List.drop_append]
        have : n - p.text.length = 0 := by omega
        rw [this, List.drop_zero]

theorem concat_stripIndentPrefixP (ps : List FP) (i : Nat) :
    concat (stripIndentPrefixP ps i) = stripIndentPrefix (concat ps) i := by
  unfold stripIndentPrefixP stripIndentPrefix
  split
  · exact concat_dropCharsP ps i
  · rfl

theorem concat_withBodyPartP (f a : Bool) (x y : List FP) (i : Nat) :
    concat (withBodyPartP f a x y i) = withBodyPart f a (concat x) (concat y) i := by
  unfold withBodyPartP withBodyPart
  split
  · simp [concat_stripIndentPrefixP]
  · split <;> simp

theorem concat_attrP : ∀ (attrs : List Text), concat (attrP attrs) = attrText attrs
  | [] => rfl
  | [a] => by simp [attrP, attrText]
  | a :: b :: rest => by
    have ih := concat_attrP (b :: rest)
    simp only [attrP, attrText, concat_cons, text_tok, ih]
    simp

theorem concat_binCoreP (l ro ri : List FP) (op : Text) (ogl rgl i : Nat) :
    concat (binCoreP l ro ri op ogl rgl i) = binCore (concat l) (concat ro) (concat ri) op ogl rgl i := by
  unfold binCoreP binCore
  split
  · split <;> simp [List.append_assoc]
  · split <;> simp [List.append_assoc]

/-- a list's one-line preview, where there is one, is the list rendered inline without its trailing trivia -/
theorem previewP_inert {e : Expr} {i : Nat} {p : List FP} (h : e.previewP i = some p) :
    p = e.rebuildAP true i true := by
  cases e with
  | list value ml inner before after =>
    simp only [Expr.previewP, Option.ite_none_left_eq_some, Bool.not_eq_true, Bool.or_eq_false_iff,
      Bool.not_eq_eq_eq_not, Bool.not_false, List.isEmpty_iff, Option.some.injEq] at h
    obtain ⟨rfl, ⟨rfl, rfl⟩, -, -, rfl⟩ := h
    cases value <;> simp [Expr.rebuildAP, fmtP, fmtGoP, indentP, trailP]
  | _ => simp [Expr.previewP] at h

theorem preview_inert {e : Expr} {i : Nat} {p : Text} (h : e.preview i = some p) :
    p = e.rebuildA true i true := by
  cases e with
  | list value ml inner before after =>
    simp only [Expr.preview, Option.ite_none_left_eq_some, Bool.not_eq_true, Bool.or_eq_false_iff,
      Bool.not_eq_eq_eq_not, Bool.not_false, List.isEmpty_iff, Option.some.injEq] at h
    obtain ⟨rfl, ⟨rfl, rfl⟩, -, -, rfl⟩ := h
    cases value <;> simp [Expr.rebuildA, formatTrivia, formatTriviaGo, applyTrailingTrivia]
  | _ => simp [Expr.preview] at h

/-- so a binding renders its value the same way with or without the preview -/
theorem previewP_getD (v : Expr) (on : Bool) (i : Nat) :
    (if on = true then none else v.previewP i).getD (v.rebuildAP true i (!on)) = v.rebuildAP true i (!on) := by
  cases on with
  | true => rfl
  | false =>
    cases h : v.previewP i with
    | none => rfl
    | some p => exact previewP_inert h

theorem preview_getD (v : Expr) (on : Bool) (i : Nat) :
    (if on = true then none else v.preview i).getD (v.rebuildA true i (!on)) = v.rebuildA true i (!on) := by
  cases on with
  | true => rfl
  | false =>
    cases h : v.preview i with
    | none => rfl
    | some p => exact preview_inert h

/-! ### the piece-level renderer concatenates to the string-level renderer -/

mutual
theorem concat_rebuildAP : (e : Expr) → ∀ (na : Bool) (i : Nat) (b : Bool),
    concat (e.rebuildAP na i b) = e.rebuildA na i b
  | .leaf k t before after, na, i, b => by
    simp [Expr.rebuildAP, Expr.rebuildA, concat_addTriviaP]
  | .list value ml inner before after, na, i, b => by
    have ihs := fun i b => concat_rebuildAllP value i b
    cases value with
    | nil =>
      simp only [Expr.rebuildAP, Expr.rebuildA]
      split <;> simp [concat_multilineBlockP, concat_fmtP, applyTrailing_eq, concat_indentP]
    | cons v vs =>
      simp only [Expr.rebuildAP, Expr.rebuildA]
      split <;> simp [concat_multilineBlockP, concat_fmtP, applyTrailing_eq, concat_indentP, concat_joinP, ihs]
  | .set values ml r inner before after, na, i, b => by
    have ihs := fun i b => concat_rebuildAllP values i b
    cases values with
    | nil =>
      simp only [Expr.rebuildAP, Expr.rebuildA]
      split <;> simp [concat_multilineBlockP, concat_fmtP, applyTrailing_eq, concat_addTriviaP, concat_recP]
    | cons v vs =>
      simp only [Expr.rebuildAP, Expr.rebuildA]
      split <;> simp [concat_multilineBlockP, concat_fmtP, applyTrailing_eq, concat_joinP, ihs, concat_addTriviaP, concat_recP]
  | .binding name value vg before after, na, i, b => by
    simp only [Expr.rebuildAP, Expr.rebuildA, previewP_getD, preview_getD]
    rw [← concat_bindingTailP]
    simp only [concat_append, concat_cons, concat_nil, concat_rstripNLP, concat_fmtP, concat_indentP,
      text_tok, text_ws, concat_rebuildAP value]
    simp [List.append_assoc]
  | .paren value lg tg lb tb before after, na, i, b => by
    simp only [Expr.rebuildAP, Expr.rebuildA, concat_addTriviaP, concat_cons, concat_append, text_tok, text_ws,
      concat_nil, apply_ite concat, concat_rebuildAP value, List.append_assoc, List.append_nil, List.cons_append,
      List.nil_append]
  | .app name arg g fa before after, na, i, b => by
    simp only [Expr.rebuildAP, Expr.rebuildA, concat_addTriviaP, concat_append, concat_cons, text_ws, concat_fnAfterP,
      apply_ite concat, concat_rebuildAP name, concat_rebuildAP arg, List.append_assoc]
  | .wth env body awc awGap asc before after, na, i, b => by
    simp only [Expr.rebuildAP, Expr.rebuildA, concat_addTriviaP, concat_append, concat_cons, text_tok,
      text_ws, apply_ite concat, concat_rebuildAP env, concat_rebuildAP body, concat_withBodyPartP,
      List.append_assoc, List.nil_append, List.cons_append]
  | .asrt cond body aac bsc before after, na, i, b => by
    simp only [Expr.rebuildAP, Expr.rebuildA, concat_append, concat_cons, concat_nil, text_tok, text_ws,
      concat_addTriviaP, apply_ite concat, concat_rebuildAP cond, concat_rebuildAP body,
      List.append_assoc, List.nil_append, List.cons_append, List.append_nil]
  | .sel expr attrs g ab before after, na, i, b => by
    simp only [Expr.rebuildAP, Expr.rebuildA, concat_addTriviaP, concat_append, concat_cons, text_tok,
      text_ws, concat_rebuildAP expr, concat_attrP, List.append_assoc, List.nil_append, List.cons_append]
  | .selOr expr attrs g ab d dg db before after, na, i, b => by
    simp only [Expr.rebuildAP, Expr.rebuildA, concat_addTriviaP, concat_append, concat_cons, text_tok,
      text_ws, concat_rebuildAP expr, concat_rebuildAP d, concat_attrP, List.append_assoc, List.nil_append,
      List.cons_append]
  | .lam name bcc g k body before after, na, i, b => by
    simp only [Expr.rebuildAP, Expr.rebuildA, concat_addTriviaP, concat_cons, text_tok,
      text_ws, concat_rebuildAP body, List.append_assoc, List.nil_append, List.cons_append]
  | .un op expr g bt before after, na, i, b => by
    simp only [Expr.rebuildAP, Expr.rebuildA, concat_addTriviaP, concat_append, concat_cons, concat_nil, text_tok,
      text_ws, apply_ite concat, concat_rebuildAP expr, List.append_assoc, List.nil_append, List.cons_append,
      List.append_nil]
  | .bin op left right ogl rgl before after, na, i, b => by
    simp only [Expr.rebuildAP, Expr.rebuildA, concat_addTriviaP, concat_binCoreP, concat_cons, text_ws,
      concat_rebuildAP left, concat_rebuildAP right]
  | .ite cond thn els cg aic aig btc btg atc tg bec beg aec eg before after, na, i, b => by
    simp only [Expr.rebuildAP, Expr.rebuildA, concat_addTriviaP, concat_append, concat_cons, text_tok,
      text_ws, apply_ite concat, concat_rebuildAP cond, concat_rebuildAP thn, concat_rebuildAP els,
      List.append_assoc, List.nil_append, List.cons_append]
  | .has expr attrs lg rg bq aq before after, na, i, b => by
    simp only [Expr.rebuildAP, Expr.rebuildA, concat_addTriviaP, concat_append, concat_cons, text_tok,
      text_ws, concat_rebuildAP expr, concat_attrP, List.append_assoc, List.nil_append, List.cons_append]
theorem concat_rebuildAllP : (es : List Expr) → ∀ (i : Nat) (b : Bool),
    (rebuildAllP es i b).map concat = rebuildAll es i b
  | [], i, b => rfl
  | e :: rest, i, b => by
    simp [rebuildAllP, rebuildAll, concat_rebuildAP e, concat_rebuildAllP rest]
end

theorem concat_previewP : (e : Expr) → ∀ (i : Nat), (e.previewP i).map concat = e.preview i := by
  intro e i
  cases e with
  | list value ml inner before after =>
    have hopt : ∀ (c : Prop) [Decidable c] (p : List FP),
        Option.map concat (if c then none else some p) = (if c then none else some (concat p)) := by
      intro c _ p; split <;> rfl
    simp only [Expr.previewP, Expr.preview]
    split
    · rfl
    · split
      · rfl
      · split
        · rfl
        · rw [hopt]
          cases value with
          | nil => rfl
          | cons v vs =>
            simp only [concat_append, concat_cons, concat_nil, text_tok, text_ws, concat_joinP, concat_rebuildAllP]
            simp
  | _ => rfl

theorem concat_rebuildP (e : Expr) (i : Nat) (b : Bool) : concat (e.rebuildP i b) = e.rebuild i b :=
  concat_rebuildAP e false i b

theorem concat_srcRebuildP (s : Src) : concat s.rebuildP = s.rebuild := by
  unfold Src.rebuildP Src.rebuild
  have h : concat (rebuildAllP s.exprs 0 false).flatten = (rebuildAll s.exprs 0 false).flatten := by
    rw [concat_flatten, concat_rebuildAllP]
  simp only [concat_ite, concat_append, h, concat_trimP, concat_fmtP]
  simp

end Nima.Frag
