import NimaVerif.Lemmas.Edit
/-!
What the by-identity updates `updBind` / `updSet` do to a node, to the lists the lookups read
(`findBinding`, `inheritMentions`, names) and to the fields of a document.
-/
namespace Nima
-- name tokens are compared by spelling in this file (see `NameCmp` in Model/Edit.lean)
attribute [local instance] NameCmp.spelled

open Node EditM

/-- two members with the same key are the same member when the keys are duplicate-free -/
theorem eq_of_nodup_filterMap {α β} (f : α → Option β) {l : List α} (hn : (l.filterMap f).Nodup)
    {a b : α} {x : β} (ha : a ∈ l) (hb : b ∈ l) (hfa : f a = some x) (hfb : f b = some x) : a = b := by
  rw [List.nodup_iff_pairwise_ne, List.pairwise_filterMap, List.pairwise_iff_getElem] at hn
  obtain ⟨ia, ha', rfl⟩ := List.getElem_of_mem ha
  obtain ⟨ib, hb', rfl⟩ := List.getElem_of_mem hb
  rcases Nat.lt_trichotomy ia ib with h | rfl | h
  · exact absurd rfl (hn ia ib ha' hb' h x hfa x hfb)
  · rfl
  · exact absurd rfl (hn ib ia hb' ha' h x hfb x hfa)

@[simp] theorem updBindL_isEmpty (id : Nat) (v : Node) (xs : List Node) :
    (updBindL id v xs).isEmpty = xs.isEmpty := by cases xs <;> rfl
@[simp] theorem updSetL_isEmpty (sid : Nat) (f : Node → Node) (xs : List Node) :
    (updSetL sid f xs).isEmpty = xs.isEmpty := by cases xs <;> rfl

@[simp] theorem updBindL_length (id : Nat) (v : Node) (xs : List Node) :
    (updBindL id v xs).length = xs.length := by simp [updBindL_eq_map]
@[simp] theorem updSetL_length (sid : Nat) (f : Node → Node) (xs : List Node) :
    (updSetL sid f xs).length = xs.length := by simp [updSetL_eq_map]

/-! ### one function applied to every node a document holds

`Doc.updBind` and `Doc.updSet` both are such maps; what holds of any map is proved once. -/

def Layer.mapNodes (g : Node → Node) (l : Layer) : Layer :=
  { l with scope := l.scope.map g, order := l.order.map g }

def Doc.mapNodes (g : Node → Node) (d : Doc) : Doc :=
  { d with
    target := g d.target
    scratch := d.scratch.map g
    scope := d.scope.map g
    stOrder := d.stOrder.map g
    stack := d.stack.map (Layer.mapNodes g)
    topScope := d.topScope.map (List.map g) }

theorem Layer.updBind_eq_mapNodes (id : Nat) (v : Node) :
    Layer.updBind id v = Layer.mapNodes (Node.updBind id v) := by
  funext l; simp only [Layer.updBind, Layer.mapNodes, updBindL_eq_map]

theorem Layer.updSet_eq_mapNodes (sid : Nat) (f : Node → Node) :
    Layer.updSet sid f = Layer.mapNodes (Node.updSet sid f) := by
  funext l; simp only [Layer.updSet, Layer.mapNodes, updSetL_eq_map]

theorem Doc.updBind_eq_mapNodes (id : Nat) (v : Node) (d : Doc) :
    d.updBind id v = d.mapNodes (Node.updBind id v) := by
  simp only [Doc.updBind, Doc.mapNodes, Layer.updBind_eq_mapNodes, updBindL_eq_map]
  congr; funext xs; exact updBindL_eq_map id v xs

theorem Doc.updSet_eq_mapNodes (sid : Nat) (f : Node → Node) (d : Doc) :
    d.updSet sid f = d.mapNodes (Node.updSet sid f) := by
  simp only [Doc.updSet, Doc.mapNodes, Layer.updSet_eq_mapNodes, updSetL_eq_map]
  congr; funext xs; exact updSetL_eq_map sid f xs

theorem Doc.mapNodes_mapNodes (g h : Node → Node) (d : Doc) :
    (d.mapNodes g).mapNodes h = d.mapNodes (h ∘ g) := by
  have e : Layer.mapNodes h ∘ Layer.mapNodes g = Layer.mapNodes (h ∘ g) := by
    funext l; simp [Layer.mapNodes]
  have e' : List.map h ∘ List.map g = List.map (h ∘ g) := by funext xs; simp
  simp [Doc.mapNodes, e, e']

/-! ### the fields of a document under an update by identity -/

section fields
variable (id : Nat) (v : Node) (f : Node → Node) (d : Doc)
@[simp] theorem Doc.updBind_noTarget : (d.updBind id v).noTarget = d.noTarget := rfl
@[simp] theorem Doc.updBind_tBefore : (d.updBind id v).tBefore = d.tBefore := rfl
@[simp] theorem Doc.updBind_tAfter : (d.updBind id v).tAfter = d.tAfter := rfl
@[simp] theorem Doc.updBind_stBodyBefore : (d.updBind id v).stBodyBefore = d.stBodyBefore := rfl
@[simp] theorem Doc.updBind_stBodyAfter : (d.updBind id v).stBodyAfter = d.stBodyAfter := rfl
@[simp] theorem Doc.updBind_stAfterLet : (d.updBind id v).stAfterLet = d.stAfterLet := rfl
@[simp] theorem Doc.updBind_trailing : (d.updBind id v).trailing = d.trailing := rfl
@[simp] theorem Doc.updBind_next : (d.updBind id v).next = d.next := rfl
@[simp] theorem Doc.updBind_rstripped : (d.updBind id v).rstripped = d.rstripped := rfl
@[simp] theorem Doc.updBind_target : (d.updBind id v).target = Node.updBind id v d.target := rfl
@[simp] theorem Doc.updBind_scope : (d.updBind id v).scope = updBindL id v d.scope := rfl
@[simp] theorem Doc.updBind_stOrder : (d.updBind id v).stOrder = updBindL id v d.stOrder := rfl
@[simp] theorem Doc.updBind_stack : (d.updBind id v).stack = d.stack.map (Layer.updBind id v) := rfl
@[simp] theorem Doc.updBind_topScope : (d.updBind id v).topScope = d.topScope.map (updBindL id v) := rfl
@[simp] theorem Doc.updBind_scratch : (d.updBind id v).scratch = d.scratch.map (Node.updBind id v) := rfl
@[simp] theorem Doc.updSet_noTarget : (d.updSet id f).noTarget = d.noTarget := rfl
@[simp] theorem Doc.updSet_tBefore : (d.updSet id f).tBefore = d.tBefore := rfl
@[simp] theorem Doc.updSet_tAfter : (d.updSet id f).tAfter = d.tAfter := rfl
@[simp] theorem Doc.updSet_stBodyBefore : (d.updSet id f).stBodyBefore = d.stBodyBefore := rfl
@[simp] theorem Doc.updSet_stBodyAfter : (d.updSet id f).stBodyAfter = d.stBodyAfter := rfl
@[simp] theorem Doc.updSet_stAfterLet : (d.updSet id f).stAfterLet = d.stAfterLet := rfl
@[simp] theorem Doc.updSet_trailing : (d.updSet id f).trailing = d.trailing := rfl
@[simp] theorem Doc.updSet_next : (d.updSet id f).next = d.next := rfl
@[simp] theorem Doc.updSet_rstripped : (d.updSet id f).rstripped = d.rstripped := rfl
@[simp] theorem Doc.updSet_target : (d.updSet id f).target = Node.updSet id f d.target := rfl
@[simp] theorem Doc.updSet_scope : (d.updSet id f).scope = updSetL id f d.scope := rfl
@[simp] theorem Doc.updSet_stOrder : (d.updSet id f).stOrder = updSetL id f d.stOrder := rfl
@[simp] theorem Doc.updSet_stack : (d.updSet id f).stack = d.stack.map (Layer.updSet id f) := rfl
@[simp] theorem Doc.updSet_topScope : (d.updSet id f).topScope = d.topScope.map (updSetL id f) := rfl
@[simp] theorem Doc.updSet_scratch : (d.updSet id f).scratch = d.scratch.map (Node.updSet id f) := rfl
end fields

/-! ### what `updBind` keeps: kind, identity, name of every item -/

/-- on a binding, `updBind` replaces the value, by `v` or by the updated old value -/
theorem updBind_bind_eq (id : Nat) (v : Node) (i : Nat) (nm : Text) (ne : Bool) (val : Node)
    (b a : Payload) :
    updBind id v (.bind i nm ne val b a) =
      .bind i nm ne (if i = id then v else updBind id v val) b a := by
  simp only [updBind]; split <;> rfl

@[simp] theorem updBind_isBind (id : Nat) (v n : Node) : (updBind id v n).isBind = n.isBind := by
  cases n with
  | bind i nm ne val b a => rw [updBind_bind_eq]; rfl
  | _ => rfl
@[simp] theorem updBind_bindName (id : Nat) (v n : Node) :
    (updBind id v n).bindName? = n.bindName? := by
  cases n with
  | bind i nm ne val b a => rw [updBind_bind_eq]; rfl
  | _ => rfl
@[simp] theorem updBind_bindId (id : Nat) (v n : Node) : (updBind id v n).bindId? = n.bindId? := by
  cases n with
  | bind i nm ne val b a => rw [updBind_bind_eq]; rfl
  | _ => rfl
@[simp] theorem updBind_bindNested (id : Nat) (v n : Node) :
    (updBind id v n).bindNested = n.bindNested := by
  cases n with
  | bind i nm ne val b a => rw [updBind_bind_eq]; rfl
  | _ => rfl
@[simp] theorem updBind_isSet (id : Nat) (v n : Node) : (updBind id v n).isSet = n.isSet := by
  cases n with
  | bind i nm ne val b a => rw [updBind_bind_eq]; rfl
  | _ => rfl

@[simp] theorem setSid_updBind (id : Nat) (v n : Node) : (updBind id v n).setSid? = n.setSid? := by
  cases n with
  | bind i nm ne val b a => rw [updBind_bind_eq]; rfl
  | _ => rfl
@[simp] theorem setMultiline_updBind (id : Nat) (v n : Node) :
    (updBind id v n).setMultiline = n.setMultiline := by
  cases n with
  | bind i nm ne val b a => rw [updBind_bind_eq]; rfl
  | _ => rfl
@[simp] theorem setRecursive_updBind (id : Nat) (v n : Node) :
    (updBind id v n).setRecursive = n.setRecursive := by
  cases n with
  | bind i nm ne val b a => rw [updBind_bind_eq]; rfl
  | _ => rfl
@[simp] theorem setValues_updBind (id : Nat) (v n : Node) :
    (updBind id v n).setValues = updBindL id v n.setValues := by
  cases n with
  | bind i nm ne val b a => rw [updBind_bind_eq]; rfl
  | _ => rfl
@[simp] theorem setOrder_updBind (id : Nat) (v n : Node) :
    (updBind id v n).setOrder = updBindL id v n.setOrder := by
  cases n with
  | bind i nm ne val b a => rw [updBind_bind_eq]; rfl
  | _ => rfl

/-- the value of an updated binding: `v` for the addressed object, else the updated old value -/
theorem updBind_bindValue (id : Nat) (v n : Node) :
    (updBind id v n).bindValue? =
      if n.bindId? = some id then some v else n.bindValue?.map (updBind id v) := by
  cases n with
  | bind i nm ne val b a => by_cases h : i = id <;> simp [updBind_bind_eq, h, bindValue?, bindId?]
  | _ => rfl

/-- a search by a test that `updBind` does not change finds the updated item -/
theorem find?_updBindL (id : Nat) (v : Node) (q : Node → Bool)
    (hq : ∀ x, q (updBind id v x) = q x) (l : List Node) :
    (updBindL id v l).find? q = (l.find? q).map (updBind id v) := by
  rw [updBindL_eq_map, List.find?_map]
  congr 2
  funext x; exact hq x

theorem findBinding_updBindL (id : Nat) (v : Node) (vs : List Node) (k : Text) :
    findBinding (updBindL id v vs) k = (findBinding vs k).map (updBind id v) :=
  find?_updBindL id v _ (by intro x; simp) vs

theorem inheritMentions_updBindL (id : Nat) (v : Node) (vs : List Node) (k : Text) :
    inheritMentions (updBindL id v vs) k = inheritMentions vs k := by
  simp only [inheritMentions, updBindL_eq_map, List.any_map]
  congr 1
  funext n
  cases n with
  | bind i nm ne val b a => simp only [Function.comp, updBind_bind_eq]
  | _ => rfl

/-! ### `updSet`: two mutations of one object in a row are one mutation -/

/-- at the addressed object the mutation is `f` -/
theorem updSet_of_sid {sid : Nat} {f : Node → Node} {n : Node} (h : n.setSid? = some sid) :
    updSet sid f n = f n := by
  cases n <;> simp [setSid?] at h
  subst h
  simp [updSet]

/-- another set object keeps its identity -/
theorem updSet_sid_of_ne {sid : Nat} {f : Node → Node} {n : Node} {t : Nat}
    (hn : n.setSid? = some t) (ht : t ≠ sid) : (updSet sid f n).setSid? = some t := by
  cases n <;> simp [setSid?] at hn
  subst hn
  simp [updSet, ht, setSid?]

mutual
/-- two in-place mutations of the same AttributeSet object fuse (the first keeps the identity) -/
theorem updSet_fuse (sid : Nat) (f g : Node → Node)
    (hf : ∀ vs o m r, (f (.set sid vs o m r)).setSid? = some sid) :
    ∀ n : Node, updSet sid g (updSet sid f n) = updSet sid (fun x => g (f x)) n
  | .atom _ => by simp [updSet]
  | .ident _ => by simp [updSet]
  | .set s vs o m r => by
      by_cases h : s = sid
      · subst h
        have := hf vs o m r
        simp only [updSet, if_true]
        cases hx : f (.set s vs o m r) <;> simp [hx, setSid?] at this
        subst this
        simp [updSet]
      · simp [updSet, h, updSetL_fuse sid f g hf vs, updSetL_fuse sid f g hf o]
  | .bind i n ne val b a => by simp [updSet, updSet_fuse sid f g hf val]
  | .inherit _ _ => by simp [updSet]
  | .entry segs leaf b a => by simp [updSet, updSet_fuse sid f g hf leaf]
theorem updSetL_fuse (sid : Nat) (f g : Node → Node)
    (hf : ∀ vs o m r, (f (.set sid vs o m r)).setSid? = some sid) :
    ∀ l : List Node, updSetL sid g (updSetL sid f l) = updSetL sid (fun x => g (f x)) l
  | [] => rfl
  | x :: xs => by simp [updSetL, updSet_fuse sid f g hf x, updSetL_fuse sid f g hf xs]
end

theorem Layer.updSet_fuse (sid : Nat) (f g : Node → Node)
    (hf : ∀ vs o m r, (f (.set sid vs o m r)).setSid? = some sid) (l : Layer) :
    (l.updSet sid f).updSet sid g = l.updSet sid (fun x => g (f x)) := by
  simp [Layer.updSet, Nima.updSetL_fuse sid f g hf]

theorem Doc.updSet_fuse (sid : Nat) (f g : Node → Node)
    (hf : ∀ vs o m r, (f (.set sid vs o m r)).setSid? = some sid) (d : Doc) :
    (d.updSet sid f).updSet sid g = d.updSet sid (fun x => g (f x)) := by
  rw [Doc.updSet_eq_mapNodes, Doc.updSet_eq_mapNodes, Doc.updSet_eq_mapNodes, Doc.mapNodes_mapNodes]
  congr 1
  funext n
  exact Nima.updSet_fuse sid f g hf n

/-! ### `findBinding` -/

theorem findBinding_some {vs : List Node} {k : Text} {b : Node} (h : findBinding vs k = some b) :
    b ∈ vs ∧ b.isBind = true ∧ b.bindName? = some k := by
  simp only [findBinding_spelled] at h
  have h1 := List.find?_some h
  have h2 := List.mem_of_find?_eq_some h
  simp only [Bool.and_eq_true, beq_iff_eq] at h1
  exact ⟨h2, h1.1, h1.2⟩

theorem findBinding_append_of_ne (vs : List Node) (nb : Node) (k k' : Text)
    (hnb : nb.bindName? = some k) (hk : k' ≠ k) :
    findBinding (vs ++ [nb]) k' = findBinding vs k' := by
  simp only [findBinding_spelled]
  rw [List.find?_append]
  cases h : vs.find? (fun n => n.isBind && n.bindName? == some k') with
  | some b => simp
  | none =>
    simp only [Option.none_or, List.find?_cons, hnb]
    have : (some k == some k') = false := by
      simp only [beq_eq_false_iff_ne, ne_eq, Option.some.injEq]; exact fun h => hk h.symm
    simp [this]

theorem findBinding_append_new (vs : List Node) (nb : Node) (k : Text)
    (hb : nb.isBind = true) (hnb : nb.bindName? = some k) (hnone : findBinding vs k = none) :
    findBinding (vs ++ [nb]) k = some nb := by
  simp only [findBinding_spelled] at hnone ⊢
  rw [List.find?_append, hnone]
  simp [hb, hnb]

/-! ### `__setitem__`, `__delitem__`: what they do to the document -/

theorem setSetItem_existing {s : Node} {k : Text} {b : Node} {bid : Nat} (v : Node) (d : Doc)
    (hb : findBinding s.setValues k = some b) (hid : b.bindId? = some bid) :
    setSetItem s k v d = (.ok (), d.updBind bid v) := by
  unfold setSetItem
  simp only [hb, hid]
  rfl

theorem setSetItem_new {s : Node} {k : Text} {sid : Nat} (v : Node) (d : Doc)
    (hb : findBinding s.setValues k = none) (hs : s.setSid? = some sid) :
    setSetItem s k v d = (.ok (), ({ d with next := d.next + 1 } : Doc).updSet sid
      (appendOrderFn (.bind d.next k false v [] []) ∘ appendValueFn (.bind d.next k false v [] []))) := by
  unfold setSetItem
  simp only [hb, hs, appendValue_eq_modify, appendOrder_eq_modify, EditM.bind_apply, fresh_apply,
    EditM.modify_apply]
  exact congrArg (Prod.mk _) (Doc.updSet_fuse sid _ _ (fun _ _ _ _ => rfl) _)

theorem setSetItem_notSet {s : Node} {k : Text} (v : Node) (d : Doc)
    (hb : findBinding s.setValues k = none) (hs : s.setSid? = none) :
    setSetItem s k v d = (.error (.internal "not-a-set"), d) := by
  unfold setSetItem
  simp only [hb, hs]
  rfl

theorem setDelItem_existing {s : Node} {k : Text} {b : Node} {bid sid : Nat} (d : Doc)
    (hb : findBinding s.setValues k = some b) (hid : b.bindId? = some bid)
    (hs : s.setSid? = some sid) :
    setDelItem s k d = (.ok (), d.updSet sid (delItemFn bid)) := by
  unfold setDelItem
  simp only [hb, hs, hid, EditM.modify_apply]
  congr

theorem setDelItem_missing {s : Node} {k : Text} (d : Doc)
    (hb : findBinding s.setValues k = none) : setDelItem s k d = (.error .key, d) := by
  unfold setDelItem
  simp only [hb]
  rfl

/-! ### an empty set: nothing is found in it, `create_missing` makes the parent -/

theorem setGetItem_emptyset (sid : Nat) (m r : Bool) (key : Text) :
    ∃ e, setGetItem (.set sid [] [] m r) key = .error e := by
  unfold setGetItem
  simp only [findBinding, setValues, List.find?_nil, inheritMentions, List.any_nil,
    Bool.false_eq_true, if_false]
  split
  · exact ⟨_, rfl⟩
  · rename_i segs _
    split
    · exact ⟨_, rfl⟩
    · cases segs with
      | nil => exact ⟨_, rfl⟩
      | cons a rest =>
        cases rest with
        | nil => simp [setGetItem.walk, findBinding_spelled, setValues]
        | cons b more => simp [setGetItem.walk, findBinding_spelled, setValues]

/-- first step of `_resolve_npath_parent(create_missing=True)` on an empty set: the missing parent
    is created and appended -/
theorem rpw_empty_cons (sid : Nat) (m r : Bool) (seg0 : Text) (rest : List Text) (d0 : Doc) :
    resolveParentWalk true (.set sid [] [] m r) (seg0 :: rest) d0 =
      resolveParentWalk true (.set d0.next [] [] m false) rest
        (({ d0 with next := d0.next + 1 + 1 } : Doc).updSet sid
          (appendOrderFn (.bind (d0.next + 1) seg0 false (.set d0.next [] [] m false) [] []) ∘
           appendValueFn (.bind (d0.next + 1) seg0 false (.set d0.next [] [] m false) [] []))) := by
  obtain ⟨e, he⟩ := setGetItem_emptyset sid m r seg0
  have hnew := setSetItem_new (s := .set sid [] [] m r) (k := seg0) (sid := sid)
    (.set d0.next [] [] m false) ({ d0 with next := d0.next + 1 } : Doc)
    (by rw [setValues_set]; rfl) rfl
  rw [resolveParentWalk]
  simp only [he, Bool.not_true, Bool.false_eq_true, if_false, setSid?, setMultiline,
    EditM.bind_apply, fresh_apply, hnew]

/-! ### `_set_value_in_attrset`, `_remove_value_in_attrset` on a path of one name -/

/-- a binding whose value is not an identifier is assigned in place -/
theorem assignExisting_plain (ts parent : Node) (wl : Bool) {b : Node} {bid : Nat} (v : Node)
    (hid : b.bindId? = some bid) (hni : ∀ k, b.bindValue? ≠ some (.ident k)) :
    assignExisting ts parent wl b v = assign bid v := by
  unfold assignExisting
  rw [hid]
  cases hv : b.bindValue? with
  | none => rfl
  | some val =>
    cases val with
    | ident k => exact absurd hv (hni k)
    | _ => rfl

theorem findAttrpathLeaf_single (ts : Node) (k : Text) : findAttrpathLeaf ts [k] = none := by
  simp [findAttrpathLeaf, walkAttrpathStack]

section
variable {ts : Node} {p seg : Text}

theorem setValueInAttrset_single (wl : Bool) (v : Node)
    (hp : formatNPath currentAnchor p = .ok [seg]) (hs : ts.isSet = true)
    (hroot : findAttrpathRoot ts.setValues seg = none) :
    setValueInAttrset ts wl p v = finalSet ts ts wl seg v := by
  obtain ⟨c, vs, o, m, r, rfl⟩ := (isSet_iff ts).mp hs
  simp only [setValueInAttrset, hp, setSid?, findAttrpathLeaf_single, List.isEmpty_nil, if_true, hroot,
    Option.isSome_none, Bool.false_eq_true, if_false]
  rfl

theorem setValueInAttrset_single_root (wl : Bool) (v : Node)
    (hp : formatNPath currentAnchor p = .ok [seg]) (hs : ts.isSet = true)
    (hroot : (findAttrpathRoot ts.setValues seg).isSome = true) :
    setValueInAttrset ts wl p v = EditM.throw .value := by
  obtain ⟨c, vs, o, m, r, rfl⟩ := (isSet_iff ts).mp hs
  simp only [setValueInAttrset, hp, setSid?, findAttrpathLeaf_single, List.isEmpty_nil, if_true, hroot]

theorem removeValueInAttrset_single (hp : formatNPath currentAnchor p = .ok [seg])
    (hroot : findAttrpathRoot ts.setValues seg = none) :
    removeValueInAttrset ts p = setDelItem ts seg := by
  simp only [removeValueInAttrset, hp, findAttrpathLeaf_single, List.isEmpty_nil, if_true, hroot,
    Option.isSome_none, Bool.false_eq_true, if_false]
  -- `__delitem__` raises the same KeyError for a name that is not bound
  funext d
  cases hf : findBinding ts.setValues seg with
  | none => rw [setDelItem_missing d hf]; rfl
  | some b => rfl

theorem removeValueInAttrset_single_root (hp : formatNPath currentAnchor p = .ok [seg])
    (hroot : (findAttrpathRoot ts.setValues seg).isSome = true) :
    removeValueInAttrset ts p = EditM.throw .key := by
  simp only [removeValueInAttrset, hp, findAttrpathLeaf_single, List.isEmpty_nil, if_true, hroot,
    Option.isSome_none, Bool.false_eq_true, if_false]

end

/-! ### `__getitem__` -/

/-- Whatever `__getitem__` answers is an identifier proxy or was reached from the set through
    bindings found by name: a property that such steps keep holds of the answer. -/
theorem setGetItem_induct {P : Node → Prop}
    (hstep : ∀ {n b w : Node} {key : Text}, P n → findBinding n.setValues key = some b →
      b.bindValue? = some w → P w)
    (hident : ∀ k, P (.ident k)) {s : Node} {k : Text} {v : Node} (hs : P s)
    (h : setGetItem s k = .ok v) : P v := by
  have hwalk : ∀ (segs : List Text) (cur : Node), P cur → setGetItem.walk cur segs = .ok v → P v := by
    intro segs
    induction segs with
    | nil => intro cur _ hw; cases hw
    | cons seg more ih =>
      intro cur hc hw
      cases more with
      | nil =>
        simp only [setGetItem.walk] at hw
        split at hw
        · rename_i b hb
          split at hw
          · rename_i w hw'
            cases hw
            exact hstep hc hb hw'
          · cases hw
        · cases hw
      | cons seg2 more2 =>
        simp only [setGetItem.walk] at hw
        split at hw
        · rename_i b hb
          split at hw
          · rename_i w _ _ _ _ _ hw'
            exact ih _ (hstep hc hb hw') hw
          · cases hw
        · cases hw
  unfold setGetItem at h
  split at h
  · rename_i b hb
    split at h
    · rename_i w hw
      cases h
      exact hstep hs hb hw
    · cases h
  · split at h
    · cases h; exact hident k
    · split at h
      · cases h
      · split at h
        · cases h
        · exact hwalk _ _ hs h

end Nima
