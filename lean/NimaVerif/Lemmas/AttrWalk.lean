import NimaVerif.Lemmas.EditCompose
/-!
The attrpath walk (`_walk_attrpath_stack`) sees through a write to the leaf binding it finds;
hence `set` on an attrpath leaf is idempotent. Used by C19.
-/
namespace Nima
-- name tokens are compared by spelling in this file (see `NameCmp` in Model/Edit.lean)
attribute [local instance] NameCmp.spelled
open Node

/-- componentwise write on the (parent set, binding) pairs of an attrpath walk -/
def updPair (id : Nat) (v : Node) (pb : Node × Node) : Node × Node := (updBind id v pb.1, updBind id v pb.2)

/-- the attrpath walk appends exactly one pair per remaining segment -/
theorem go_append (ln rr : Bool) : ∀ (segs : List Text) (current : Node) (stack st : List (Node × Node)),
    walkAttrpathStack.go ln rr current stack segs = .ok (some st) →
      ∃ new, st = stack ++ new ∧ new.length = segs.length := by
  intro segs
  induction segs with
  | nil =>
    intro current stack st h
    simp only [walkAttrpathStack.go] at h
    cases h; exact ⟨[], by simp, rfl⟩
  | cons seg more ih =>
    intro current stack st h
    cases more with
    | nil =>
      simp only [walkAttrpathStack.go] at h
      split at h
      · split at h <;> cases h
      · cases h; exact ⟨[_], rfl, rfl⟩
    | cons s2 more' =>
      simp only [walkAttrpathStack.go] at h
      split at h
      · split at h <;> cases h
      · split at h
        · obtain ⟨new, h1, h2⟩ := ih _ _ _ h
          rename_i b _ _ _ _ _ _ _ _
          exact ⟨(current, b) :: new, by simp [h1], by simp [h2]⟩
        · split at h <;> cases h

/-- the walk sees through a write to a Binding object that is not one of the intermediate bindings -/
theorem go_updBind (ln rr : Bool) (id : Nat) (v : Node) :
    ∀ (segs : List Text) (current : Node) (stack st : List (Node × Node)),
    walkAttrpathStack.go ln rr current stack segs = .ok (some st) →
    (∀ pb ∈ (st.drop stack.length).dropLast, pb.2.bindId? ≠ some id) →
    walkAttrpathStack.go ln rr (updBind id v current) (stack.map (updPair id v)) segs =
      .ok (some (st.map (updPair id v))) := by
  intro segs
  induction segs with
  | nil =>
    intro current stack st h _
    simp only [walkAttrpathStack.go] at h ⊢
    cases h; rfl
  | cons seg more ih =>
    intro current stack st h hids
    cases more with
    | nil =>
      simp only [walkAttrpathStack.go, setValues_updBind, findNamedBinding_updBindL] at h ⊢
      split at h
      · split at h <;> cases h
      · rename_i b hb
        cases h
        simp [hb, updPair]
    | cons s2 more' =>
      simp only [walkAttrpathStack.go] at h
      simp only [walkAttrpathStack.go, setValues_updBind, findNamedBinding_updBindL]
      split at h
      · split at h <;> cases h
      · rename_i b hb
        split at h
        · rename_i sid vs o m r hval
          obtain ⟨new, h1, h2⟩ := go_append ln rr _ _ _ _ h
          have hne : new ≠ [] := by intro hn; simp [hn] at h2
          have hdrop : st.drop stack.length = (current, b) :: new := by
            rw [h1]; simp
          have hbid : b.bindId? ≠ some id := by
            apply hids (current, b)
            rw [hdrop, List.dropLast_cons_of_ne_nil hne]
            simp
          have hids' : ∀ pb ∈ (st.drop (stack ++ [(current, b)]).length).dropLast, pb.2.bindId? ≠ some id := by
            intro pb hpb
            apply hids pb
            rw [hdrop, List.dropLast_cons_of_ne_nil hne]
            have : st.drop (stack ++ [(current, b)]).length = new := by rw [h1]; simp
            rw [this] at hpb
            exact List.mem_cons_of_mem _ hpb
          have := ih _ _ _ h hids'
          simp only [hb, Option.map_some, updBind_bindValue, if_neg hbid, hval, updBind]
          simpa [updPair, updBind] using this
        · split at h <;> cases h


theorem walk_updBind (ln rr : Bool) (id : Nat) (v : Node) (ts : Node) (segs : List Text)
    (st : List (Node × Node))
    (h : walkAttrpathStack ts segs ln rr = .ok (some st))
    (hids : ∀ pb ∈ st.dropLast, pb.2.bindId? ≠ some id) :
    walkAttrpathStack (updBind id v ts) segs ln rr = .ok (some (st.map (updPair id v))) := by
  match segs, h with
  | [], h => simp only [walkAttrpathStack] at h; split at h <;> cases h
  | [_], h => simp only [walkAttrpathStack] at h; split at h <;> cases h
  | root :: s2 :: rest, h =>
    simp only [walkAttrpathStack, setValues_updBind, findAttrpathRoot_updBindL] at h ⊢
    split at h
    · split at h <;> cases h
    · rename_i rootB hroot
      split at h
      · rename_i sid vs o m r hval
        obtain ⟨new, h1, h2⟩ := go_append ln rr _ _ _ _ h
        have hne : new ≠ [] := by intro hn; simp [hn] at h2
        have hrid : rootB.bindId? ≠ some id := by
          apply hids (ts, rootB)
          rw [h1, List.singleton_append, List.dropLast_cons_of_ne_nil hne]
          simp
        have := go_updBind ln rr id v _ _ [(ts, rootB)] st h (by
          intro pb hpb
          apply hids pb
          rw [h1] at hpb ⊢
          rw [List.singleton_append, List.dropLast_cons_of_ne_nil hne]
          simp only [List.length_singleton, List.singleton_append, List.drop_succ_cons, List.drop_zero] at hpb
          exact List.mem_cons_of_mem _ hpb)
        simp only [hroot, Option.map_some, updBind_bindValue, if_neg hrid, hval]
        simpa [updPair, updBind] using this
      · split at h <;> cases h

/-- after `leaf.value = v` the same path finds the same leaf object, now holding `v` -/
theorem findAttrpathLeaf_updBind (lid : Nat) (v : Node) (ts : Node) (segs : List Text)
    (pre : List (Node × Node)) (par : Node) (nm : Text) (ne : Bool) (val : Node) (bf af : Payload)
    (h : walkAttrpathStack ts segs false false = .ok (some (pre ++ [(par, .bind lid nm ne val bf af)])))
    (hids : ∀ pb ∈ pre, pb.2.bindId? ≠ some lid) :
    findAttrpathLeaf (updBind lid v ts) segs = some (.bind lid nm ne v bf af) := by
  unfold findAttrpathLeaf
  rw [walk_updBind false false lid v ts segs _ h (by simpa using hids)]
  simp [updPair, updBind]

theorem findAttrpathLeaf_of_walk (ts : Node) (segs : List Text) (pre : List (Node × Node)) (par leaf : Node)
    (h : walkAttrpathStack ts segs false false = .ok (some (pre ++ [(par, leaf)]))) :
    findAttrpathLeaf ts segs = some leaf := by
  unfold findAttrpathLeaf; rw [h]; simp

/-- `set p v` twice = once, attrpath leaf (`a.b.c = …;` families) -/
theorem set_set_idem_attrpath (d : Doc) (p : Text) (segs : List Text) (v : Node) (lid : Nat) (nm : Text)
    (ne : Bool) (val : Node) (bf af : Payload) (pre : List (Node × Node)) (par : Node)
    (hnt : d.noTarget = none) (hsp : splitScopeNpath p = .ok none)
    (hf : formatNPath currentAnchor p = .ok segs)
    (hw : walkAttrpathStack d.target segs false false =
      .ok (some (pre ++ [(par, .bind lid nm ne val bf af)])))
    (hids : ∀ pb ∈ pre, pb.2.bindId? ≠ some lid) :
    setValue p (.one v) (setValue p (.one v) d).2 = setValue p (.one v) d := by
  have hl := findAttrpathLeaf_of_walk _ _ _ _ _ hw
  rw [set_attrpath_leaf d p segs v lid nm ne val bf af hnt hsp hf hl]
  have hl' : findAttrpathLeaf (d.updBind lid v).target segs = some (.bind lid nm ne v bf af) :=
    findAttrpathLeaf_updBind lid v d.target segs pre par nm ne val bf af hw hids
  rw [set_attrpath_leaf (d.updBind lid v) p segs v lid nm ne v bf af (by simpa using hnt) hsp hf hl',
    Doc.updBind_idem]

end Nima
