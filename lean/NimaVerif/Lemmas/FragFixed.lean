import NimaVerif.Lemmas.FragFlat
/-! Comment-free files of the container fragment: the round trip is the tree normaliser `File.norm`,
which is idempotent — so the rebuilt text is a fixed point. Core Lean only. -/
namespace Nima.Frag
open Nima

/-! ### rendering with layout-only trivia -/

theorem leafBefore_layout (k : LeafKind) (t : Text) {bf : List Trivia} (h : bf.all Trivia.isLayout = true)
    (i : Nat) (inl : Bool) : leafBefore k t bf i inl = bf := by
  unfold leafBefore
  split
  · have : trimLeadingLayoutTrivia bf = [] := dropWhile_eq_nil_of_all _ bf (List.all_eq_true.mp h)
    simp [this]
  · rfl

theorem fmtP_nil (i : Nat) : fmtP [] i = [] := rfl

def Expr.notAsrt : Expr → Bool
  | .asrt .. => false
  | _ => true

/-- leading layout-only trivia are rendered in front of the expression -/
theorem rebuildAP_setBefore {e : Expr} (he : e.before = []) {bf : List Trivia} (h : bf.all Trivia.isLayout = true)
    (na : Bool) (i : Nat) (inl : Bool) :
    (e.setBefore bf).rebuildAP na i inl = fmtP bf i ++ e.rebuildAP na i inl := by
  cases e with
  | leaf k t b a =>
    simp only [Expr.before] at he; subst he
    simp [Expr.setBefore, Expr.rebuildAP, addTriviaP, leafBefore_layout k t h, leafBefore_nil, fmtP_nil]
  | list v m inn b a =>
    simp only [Expr.before] at he; subst he
    cases v with
    | nil =>
      simp only [Expr.setBefore, Expr.rebuildAP]
      split <;> simp [multilineBlockP, fmtP_nil]
    | cons x xs =>
      simp only [Expr.setBefore, Expr.rebuildAP]
      split <;> simp [fmtP_nil]
  | set v m r inn b a =>
    simp only [Expr.before] at he; subst he
    cases v with
    | nil =>
      simp only [Expr.setBefore, Expr.rebuildAP]
      split <;> simp [multilineBlockP, addTriviaP, fmtP_nil]
    | cons x xs =>
      simp only [Expr.setBefore, Expr.rebuildAP]
      split <;> simp [multilineBlockP, addTriviaP, fmtP_nil]
  | binding n v g b a =>
    simp only [Expr.before] at he; subst he
    simp [Expr.setBefore, Expr.rebuildAP, fmtP_nil]
  | asrt c bd x y b a =>
    simp only [Expr.before] at he; subst he
    have hsp : ∀ (bf' a' : List Trivia) (core : List FP), addTriviaP bf' a' core i inl = fmtP bf' i ++ addTriviaP [] a' core i inl := by
      intro bf' a' core; simp [addTriviaP, fmtP_nil]
    simp only [Expr.setBefore, Expr.rebuildAP]
    rw [hsp bf]
    simp only [concat_append, List.append_assoc]
    rw [endsWithNL_append_of_ne_nil _ _ (by simp [addTriviaP, fmtP_nil, concat_append, kwAssert])]
  | _ =>
    -- the other constructs render `addTriviaP before after core` with a core that does not mention `before`
    simp only [Expr.before] at he; subst he
    simp [Expr.setBefore, Expr.rebuildAP, addTriviaP, fmtP_nil]

theorem rebuildA_setBefore {e : Expr} (he : e.before = []) {bf : List Trivia} (h : bf.all Trivia.isLayout = true)
    (na : Bool) (i : Nat) (inl : Bool) :
    (e.setBefore bf).rebuildA na i inl = formatTrivia bf i ++ e.rebuildA na i inl := by
  rw [← concat_rebuildAP, ← concat_rebuildAP, rebuildAP_setBefore he h, concat_append, concat_fmtP]

theorem trailP_emptyLine (i : Nat) : trailP [.emptyLine] i = [.ws ['\n'], .ws ['\n']] := by
  simp [trailP, fmtP, fmtGoP, trimP, Trivia.isLayout, nlBlockP]

theorem bindingTailP_emptyLine (i : Nat) : bindingTailP [.emptyLine] i = [.ws ['\n'], .ws ['\n']] := by
  simp [bindingTailP, trailP_emptyLine]

/-- a trailing blank-line marker on an expression without trailing trivia: a blank line after it -/
theorem rebuildAP_addAfter_emptyLine {e : Expr} (he : e.effAfter false = []) (hna : e.notAsrt = true) (i : Nat) (inl : Bool) :
    (e.addAfter [.emptyLine]).rebuildAP false i inl = e.rebuildAP false i inl ++ [.ws ['\n'], .ws ['\n']] := by
  cases e with
  | leaf k t b a =>
    simp only [Expr.effAfter, Bool.false_eq_true, if_false] at he; subst he
    simp [Expr.addAfter, Expr.setAfter, Expr.after, Expr.rebuildAP, addTriviaP, trailP_emptyLine, trailP_nil]
  | list v m inn b a =>
    simp only [Expr.effAfter, Bool.false_eq_true, if_false] at he; subst he
    cases v with
    | nil =>
      simp only [Expr.addAfter, Expr.setAfter, Expr.after, Expr.rebuildAP, List.nil_append]
      split <;> simp [trailP_emptyLine, trailP_nil]
    | cons x xs =>
      simp only [Expr.addAfter, Expr.setAfter, Expr.after, Expr.rebuildAP, List.nil_append]
      split <;> simp [trailP_emptyLine, trailP_nil]
  | set v m r inn b a =>
    simp only [Expr.effAfter, Bool.false_eq_true, if_false] at he; subst he
    cases v with
    | nil =>
      simp only [Expr.addAfter, Expr.setAfter, Expr.after, Expr.rebuildAP, List.nil_append]
      split <;> simp [trailP_emptyLine, trailP_nil, addTriviaP]
    | cons x xs =>
      simp only [Expr.addAfter, Expr.setAfter, Expr.after, Expr.rebuildAP, List.nil_append]
      split <;> simp [trailP_emptyLine, trailP_nil, addTriviaP]
  | binding n v g b a =>
    simp only [Expr.effAfter, Bool.false_eq_true, if_false] at he
    have h1 : v.after = [] := (List.append_eq_nil_iff.mp he).1
    have h2 : a = [] := (List.append_eq_nil_iff.mp he).2
    subst h2
    show (Expr.binding n v g b [.emptyLine]).rebuildAP false i inl =
      (Expr.binding n v g b []).rebuildAP false i inl ++ [.ws ['\n'], .ws ['\n']]
    simp only [Expr.rebuildAP, h1, List.nil_append, Bool.false_eq_true, if_false]
    simp [bindingTailP, trailP_nil, trailP_emptyLine]
  | asrt c bd x y b a => cases hna
  | _ =>
    simp only [Expr.effAfter, Bool.false_eq_true, if_false] at he; subst he
    simp [Expr.addAfter, Expr.setAfter, Expr.after, Expr.rebuildAP, addTriviaP, trailP_emptyLine, trailP_nil]

def spacesIf (inl : Bool) (i : Nat) : Text := if inl then [] else spaces i

theorem notAsrt_setBefore (e : Expr) (b : List Trivia) : (e.setBefore b).notAsrt = e.notAsrt := by cases e <;> rfl

theorem cf_parse_notAsrt {c : Cst} {e : Expr} (hcf : c.cf = true) (hp : c.parse = .ok e) : e.notAsrt = true := by
  cases c with
  | leaf k t => obtain ⟨k', t', rfl⟩ := leafFromCst_shape (by simpa only [Cst.parse] using hp); rfl
  | list its cg => obtain ⟨_, _, rfl⟩ := parse_list_ok hp; rfl
  | set r rg its cg => obtain ⟨_, _, rfl⟩ := parse_set_ok hp; rfl
  | paren its cg => obtain ⟨_, _, _, _, rfl⟩ := parse_paren_ok hp; rfl
  | app f cs g a => obtain ⟨_, _, _, _, rfl⟩ := parse_app_ok hp; rfl
  | kw w c1 g1 h c2 g2 c3 g3 b =>
    simp only [Cst.cf, Bool.and_eq_true] at hcf
    obtain rfl : w = true := hcf.1.1.1.1.1
    obtain ⟨_, _, _, _, rfl⟩ := parse_kw_ok hp
    rfl
  | sel e c1 g1 gd ats => obtain ⟨_, _, rfl⟩ := parse_sel_ok hp; rfl
  | selOr e c1 g1 gd ats c2 g2 g3 d => obtain ⟨_, _, _, _, rfl⟩ := parse_selOr_ok hp; rfl
  | lam n c1 g1 c2 g2 b => obtain ⟨_, _, rfl⟩ := parse_lam_ok hp; rfl
  | un op c g e => obtain ⟨_, _, rfl⟩ := parse_un_ok hp; rfl
  | ite c1 g1 c c2 g2 c3 g3 t c4 g4 c5 g5 e => obtain ⟨_, _, _, _, _, _, rfl⟩ := parse_ite_ok hp; rfl
  | has e c1 g1 c2 g2 ats => obtain ⟨_, _, rfl⟩ := parse_has_ok hp; rfl
  | bin l c1 g1 op c2 g2 r => obtain ⟨_, _, _, _, rfl⟩ := parse_bin_ok hp; rfl

theorem addAfter_nil (e : Expr) : e.addAfter [] = e := by
  cases e <;> simp [Expr.addAfter, Expr.setAfter, Expr.after]

theorem formatTrivia_appendGap (g : Text) (i : Nat) : formatTrivia (appendGapTriviaOff [] g) i = blankGap g := by
  unfold appendGapTriviaOff blankGap
  by_cases h1 : containsNL g = true
  · simp only [h1, Bool.not_true, Bool.false_eq_true, if_false]
    by_cases h2 : gapHasEmptyLineOffsets g = true
    · simp [h2, formatTrivia, formatTriviaGo]
    · simp [h2, formatTrivia, formatTriviaGo]
  · have h1' : containsNL g = false := by simpa using h1
    simp [h1', emptyLineOffsets_false h1', formatTrivia, formatTriviaGo]

theorem appendGap_layout (g : Text) : (appendGapTriviaOff [] g).all Trivia.isLayout = true := by
  rcases appendGapTriviaOff_cases [] g true with e | ⟨t, ht, e⟩ <;> rw [e]
  · rfl
  · simp [ht]

theorem formatTrivia_openBefore (its : Items) (i : Nat) :
    formatTrivia (openBefore its) i = blankGap (its.firstGap.getD []) := by
  unfold openBefore blankGap
  cases its.firstGap with
  | none =>
    have : gapHasEmptyLineOffsets [] = false := by decide
    simp [formatTrivia, formatTriviaGo, this]
  | some g => simp only [Option.getD_some]; split <;> simp [formatTrivia, formatTriviaGo]

theorem openBefore_layout (its : Items) : (openBefore its).all Trivia.isLayout = true := by
  rcases openBefore_cases its with h | h <;> rw [h] <;> rfl

/-! ### the items of a container, as rendered -/

/-- items of a multi-line container as rendered: each on its own line -/
def rendML (items : List Expr) (j : Nat) : Text :=
  (items.map fun e => '\n' :: e.rebuildA false j false).flatten

/-- items of a one-line container as rendered: each after one space -/
def rendFlat (items : List Expr) (j : Nat) : Text :=
  (items.map fun e => ' ' :: e.rebuildA false j true).flatten

theorem rendML_append (a b : List Expr) (j : Nat) : rendML (a ++ b) j = rendML a j ++ rendML b j := by
  simp [rendML]
theorem rendFlat_append (a b : List Expr) (j : Nat) : rendFlat (a ++ b) j = rendFlat a j ++ rendFlat b j := by
  simp [rendFlat]
theorem rendML_single (e : Expr) (j : Nat) : rendML [e] j = '\n' :: e.rebuildA false j false := by simp [rendML]
theorem rendFlat_single (e : Expr) (j : Nat) : rendFlat [e] j = ' ' :: e.rebuildA false j true := by simp [rendFlat]

theorem join_nl_eq : ∀ (es : List Expr) (j : Nat), es ≠ [] →
    '\n' :: joinWith ['\n'] (rebuildAll es j false) = rendML es j
  | [], _, h => absurd rfl h
  | [e], j, _ => by simp [rebuildAll, joinWith, rendML]
  | e :: e' :: r, j, _ => by
    have ih := join_nl_eq (e' :: r) j (by simp)
    simp only [rebuildAll, joinWith] at ih ⊢
    simp only [rendML, List.map_cons, List.flatten_cons] at ih ⊢
    rw [← ih]; simp

theorem join_sp_eq : ∀ (es : List Expr) (j : Nat), es ≠ [] →
    ' ' :: joinWith [' '] (rebuildAll es j true) = rendFlat es j
  | [], _, h => absurd rfl h
  | [e], j, _ => by simp [rebuildAll, joinWith, rendFlat]
  | e :: e' :: r, j, _ => by
    have ih := join_sp_eq (e' :: r) j (by simp)
    simp only [rebuildAll, joinWith] at ih ⊢
    simp only [rendFlat, List.map_cons, List.flatten_cons] at ih ⊢
    rw [← ih]; simp

theorem rendML_modifyLast : ∀ (items : List Expr) (j : Nat), items ≠ [] →
    (∀ e ∈ items, e.effAfter false = [] ∧ e.notAsrt = true) →
    rendML (modifyLast (fun e => e.addAfter [.emptyLine]) items) j = rendML items j ++ ['\n', '\n']
  | [], _, h, _ => absurd rfl h
  | [e], j, _, ha => by
    simp only [modifyLast, rendML_single]
    rw [← concat_rebuildAP, rebuildAP_addAfter_emptyLine (ha e (by simp)).1 (ha e (by simp)).2, concat_append, concat_rebuildAP]
    simp
  | e :: e' :: r, j, _, ha => by
    have ih := rendML_modifyLast (e' :: r) j (by simp) (fun x hx => ha x (List.mem_cons_of_mem _ hx))
    simp only [modifyLast]
    rw [show (e :: modifyLast (fun e => e.addAfter [Trivia.emptyLine]) (e' :: r)) =
      [e] ++ modifyLast (fun e => e.addAfter [Trivia.emptyLine]) (e' :: r) from rfl, rendML_append, ih,
      show (e :: e' :: r) = [e] ++ (e' :: r) from rfl, rendML_append]
    simp

theorem solidT_snoc (a : Text) (c : Char) (hc : c ≠ '\n') : solidT (a ++ [c]) := by
  refine ⟨by simp, ?_⟩
  simp [endsWithNL]; exact hc

theorem list_flatten_solid (x : Items) (y : Text) : solidT (Cst.flatten (.list x y)) := by
  simp only [Cst.flatten]
  rw [show ('[' :: x.flatten ++ y ++ [']']) = ('[' :: x.flatten ++ y) ++ [']'] from by simp]
  exact solidT_snoc _ _ (by decide)

theorem set_flatten_solid (a : Bool) (b : Text) (x : Items) (y : Text) : solidT (Cst.flatten (.set a b x y)) := by
  simp only [Cst.flatten]
  rw [show ((if a = true then ['r', 'e', 'c'] ++ b else []) ++ '{' :: x.flatten ++ y ++ ['}']) =
    ((if a = true then ['r', 'e', 'c'] ++ b else []) ++ '{' :: x.flatten ++ y) ++ ['}'] from by simp]
  exact solidT_snoc _ _ (by decide)

/-! ### texts that are non-empty and do not end in a line break -/

theorem solidT_append_left (a : Text) {b : Text} (h : solidT b) : solidT (a ++ b) := by
  refine ⟨fun e => h.1 (List.append_eq_nil_iff.mp e).2, ?_⟩
  rw [endsWithNL_append_of_ne_nil _ _ h.1]; exact h.2

theorem attrText_solid' : ∀ (attrs : List Text), attrs ≠ [] → attrs.all attrSegOk = true → solidT (attrText attrs) := by
  intro attrs hne hall
  induction attrs with
  | nil => exact absurd rfl hne
  | cons a r ih =>
    simp only [List.all_cons, Bool.and_eq_true] at hall
    have ha : solidT a := attrs_solid (attrs := [a]) (by simpa using hall.1) a (List.mem_cons_self ..)
    cases r with
    | nil => simpa [attrText] using ha
    | cons b r' =>
      have := ih (by simp) hall.2
      simp only [attrText]
      rw [show a ++ '.' :: attrText (b :: r') = (a ++ ['.']) ++ attrText (b :: r') from by simp]
      exact solidT_append_left _ this

theorem attrText_solid {e : Cst} {c1 : GC} {g1 gd : Text} {attrs : List Text} (h : (Cst.sel e c1 g1 gd attrs).wf = true) :
    solidT (attrText attrs) := by
  simp only [Cst.wf, Bool.and_eq_true, Bool.not_eq_true', List.isEmpty_eq_false_iff] at h
  exact attrText_solid' attrs h.1.2 h.2

/-- the text of a well-formed tree is non-empty and does not end in a line break -/
theorem flatten_solid : ∀ (c : Cst), c.wf = true → solidT c.flatten
  | .leaf k t, h => by simp only [Cst.flatten]; exact (leaf_spec h).2
  | .list its cg, _ => list_flatten_solid _ _
  | .set r rg its cg, _ => set_flatten_solid _ _ _ _
  | .paren its cg, _ => by
    simp only [Cst.flatten]
    rw [show ('(' :: its.flatten ++ cg ++ [')']) = ('(' :: its.flatten ++ cg) ++ [')'] from by simp]
    exact solidT_snoc _ _ (by decide)
  | .app f cs g a, h => by
    simp only [Cst.wf, Bool.and_eq_true] at h
    simp only [Cst.flatten]
    exact solidT_append_left _ (flatten_solid a h.2)
  | .kw w c1 g1 hd c2 g2 c3 g3 b, h => by
    simp only [Cst.wf, Bool.and_eq_true] at h
    simp only [Cst.flatten]
    exact solidT_append_left _ (flatten_solid b h.2)
  | .sel e c1 g1 gd attrs, h => by
    simp only [Cst.wf, Bool.and_eq_true, Bool.not_eq_true', List.isEmpty_eq_false_iff] at h
    simp only [Cst.flatten]
    have hat : solidT (attrText attrs) := attrText_solid' attrs h.1.2 h.2
    rw [show e.flatten ++ flattenGC c1 ++ g1 ++ '.' :: gd ++ attrText attrs =
      (e.flatten ++ flattenGC c1 ++ g1 ++ '.' :: gd) ++ attrText attrs from by simp]
    exact solidT_append_left _ hat
  | .selOr e c1 g1 gd attrs c2 g2 g3 d, h => by
    simp only [Cst.wf, Bool.and_eq_true] at h
    simp only [Cst.flatten]
    exact solidT_append_left _ (flatten_solid d h.2)
  | .lam n c1 g1 c2 g2 b, h => by
    simp only [Cst.wf, Bool.and_eq_true] at h
    simp only [Cst.flatten]
    exact solidT_append_left _ (flatten_solid b h.2)
  | .un op c g e, h => by
    simp only [Cst.wf, Bool.and_eq_true] at h
    simp only [Cst.flatten]
    exact solidT_append_left _ (flatten_solid e h.2)
  | .bin l c1 g1 op c2 g2 r, h => by
    simp only [Cst.wf, Bool.and_eq_true] at h
    simp only [Cst.flatten]
    exact solidT_append_left _ (flatten_solid r h.2)
  | .ite c1 g1 c c2 g2 c3 g3 t c4 g4 c5 g5 e, h => by
    simp only [Cst.wf, Bool.and_eq_true] at h
    simp only [Cst.flatten]
    exact solidT_append_left _ (flatten_solid e h.2)
  | .has e c1 g1 c2 g2 attrs, h => by
    simp only [Cst.wf, Bool.and_eq_true, Bool.not_eq_true', List.isEmpty_eq_false_iff] at h
    simp only [Cst.flatten]
    have hat : solidT (attrText attrs) := attrText_solid' attrs h.1.2 h.2
    rw [show e.flatten ++ flattenGC c1 ++ g1 ++ '?' :: flattenGC c2 ++ g2 ++ attrText attrs =
      (e.flatten ++ flattenGC c1 ++ g1 ++ '?' :: flattenGC c2 ++ g2) ++ attrText attrs from by simp]
    exact solidT_append_left _ hat

/-! ### the normaliser keeps the outer form and ends with a token -/

/-- `norm` keeps the outer form of a list, a set and a parenthesis -/
theorem norm_list (its : Items) (cg : Text) (i : Nat) : ∃ its' cg', (Cst.list its cg).norm i = .list its' cg' := by
  simp only [Cst.norm]
  split
  · split <;> exact ⟨_, _, rfl⟩
  · split <;> exact ⟨_, _, rfl⟩

theorem norm_set (r : Bool) (rg : Text) (its : Items) (cg : Text) (i : Nat) :
    ∃ its' cg', (Cst.set r rg its cg).norm i = .set r (if r then [' '] else []) its' cg' := by
  simp only [Cst.norm]
  split
  · split <;> exact ⟨_, _, rfl⟩
  · generalize containsNL ((if r = true then rg else []) ++ its.flatten ++ cg) = b
    cases b <;> exact ⟨_, _, rfl⟩

theorem norm_paren (its : Items) (cg : Text) (i : Nat) : ∃ its' cg', (Cst.paren its cg).norm i = .paren its' cg' := by
  cases its with
  | elem g c rest => cases rest <;> exact ⟨_, _, rfl⟩
  | nil => exact ⟨_, _, rfl⟩
  | cmt _ _ _ => exact ⟨_, _, rfl⟩
  | bind _ _ _ _ _ _ _ _ _ _ => exact ⟨_, _, rfl⟩

/-- leaf texts and the normalised containers are non-empty and do not end in a line break -/
theorem norm_flatten_solid : ∀ (c : Cst) (i : Nat), c.wf = true → solidT (c.norm i).flatten
  | .leaf k t, i, h => by
    simp only [Cst.norm, Cst.flatten]; exact (leaf_spec h).2
  | .list its cg, i, _ => by obtain ⟨_, _, h⟩ := norm_list its cg i; rw [h]; exact list_flatten_solid _ _
  | .set r rg its cg, i, _ => by obtain ⟨_, _, h⟩ := norm_set r rg its cg i; rw [h]; exact set_flatten_solid _ _ _ _
  | .paren its cg, i, _ => by
    obtain ⟨x, y, h⟩ := norm_paren its cg i
    rw [h, Cst.flatten, show ('(' :: x.flatten ++ y ++ [')']) = ('(' :: x.flatten ++ y) ++ [')'] from by simp]
    exact solidT_snoc _ _ (by decide)
  | .app f cs g a, i, h => by
    simp only [Cst.wf, Bool.and_eq_true] at h
    simp only [Cst.norm, Cst.flatten]
    exact solidT_append_left _ (norm_flatten_solid a _ h.2)
  | .kw w c1 g1 hd c2 g2 c3 g3 b, i, h => by
    cases w with
    | false => simp only [Cst.norm]; exact flatten_solid _ h
    | true =>
      simp only [Cst.wf, Bool.and_eq_true] at h
      simp only [Cst.norm, Cst.flatten]
      exact solidT_append_left _ (norm_flatten_solid b _ h.2)
  | .sel e c1 g1 gd attrs, i, h => by
    have hat := attrText_solid h
    simp only [Cst.norm, Cst.flatten]
    rw [show (e.norm i).flatten ++ flattenGC c1 ++ (if containsNL g1 = true then vgap g1 (indentFromGap g1) else []) ++
        '.' :: [] ++ attrText attrs =
      ((e.norm i).flatten ++ flattenGC c1 ++ (if containsNL g1 = true then vgap g1 (indentFromGap g1) else []) ++ ['.']) ++
        attrText attrs from by simp]
    exact solidT_append_left _ hat
  | .selOr e c1 g1 gd attrs c2 g2 g3 d, i, h => by
    simp only [Cst.wf, Bool.and_eq_true] at h
    simp only [Cst.norm, Cst.flatten]
    exact solidT_append_left _ (norm_flatten_solid d _ h.2)
  | .lam n c1 g1 c2 g2 b, i, h => by
    simp only [Cst.wf, Bool.and_eq_true] at h
    simp only [Cst.norm, Cst.flatten]
    exact solidT_append_left _ (norm_flatten_solid b _ h.2)
  | .un op c g e, i, h => by
    simp only [Cst.wf, Bool.and_eq_true] at h
    simp only [Cst.norm, Cst.flatten]
    exact solidT_append_left _ (norm_flatten_solid e _ h.2)
  | .bin l c1 g1 op c2 g2 r, i, h => by
    simp only [Cst.wf, Bool.and_eq_true] at h
    simp only [Cst.norm, Cst.flatten]
    exact solidT_append_left _ (norm_flatten_solid r _ h.2)
  | .ite c1 g1 c c2 g2 c3 g3 t c4 g4 c5 g5 e, i, h => by
    simp only [Cst.wf, Bool.and_eq_true] at h
    simp only [Cst.norm, Cst.flatten]
    exact solidT_append_left _ (norm_flatten_solid e _ h.2)
  | .has e c1 g1 c2 g2 attrs, i, h => by
    simp only [Cst.wf, Bool.and_eq_true, Bool.not_eq_true', List.isEmpty_eq_false_iff] at h
    simp only [Cst.norm, Cst.flatten]
    have hat : solidT (attrText attrs) := attrText_solid' attrs h.1.2 h.2
    rw [show (e.norm i).flatten ++ flattenGC c1 ++ sepGap g1 ++ '?' :: flattenGC c2 ++ sepGap g2 ++ attrText attrs =
      ((e.norm i).flatten ++ flattenGC c1 ++ sepGap g1 ++ '?' :: flattenGC c2 ++ sepGap g2) ++ attrText attrs from by simp]
    exact solidT_append_left _ hat

/-- what the tree normaliser writes between `=` and the value, and the value -/
def valueNorm (g2 : Text) (v : Cst) (j : Nat) : Text :=
  if containsNL g2 then vgap g2 (indentFromGap g2) ++ (v.norm (indentFromGap g2)).flatten
  else ' ' :: (v.norm j).flatten

theorem bindOnNewline_layout (g2 : Text) : bindOnNewline g2 (appendGapTriviaOff [] g2) = containsNL g2 := by
  unfold bindOnNewline Layout.fromGap
  have hany : (appendGapTriviaOff [] g2).any Trivia.isComment = false := by
    rcases appendGapTriviaOff_cases [] g2 true with e | ⟨t, ht, e⟩ <;> rw [e]
    · rfl
    · cases t <;> simp [Trivia.isLayout, Trivia.isComment] at ht ⊢
  rw [hany]
  cases h : containsNL g2 <;> simp

theorem bindValIndent_layout (g2 : Text) (j : Nat) :
    bindValIndent g2 (appendGapTriviaOff [] g2) j = if containsNL g2 then indentFromGap g2 else j := by
  unfold bindValIndent Layout.fromGap
  have hany : (appendGapTriviaOff [] g2).any Trivia.isComment = false := by
    rcases appendGapTriviaOff_cases [] g2 true with e | ⟨t, ht, e⟩ <;> rw [e]
    · rfl
    · cases t <;> simp [Trivia.isLayout, Trivia.isComment] at ht ⊢
  rw [hany]
  cases h : containsNL g2 <;> simp

/-- the rendering of a comment-free binding -/
theorem binding_text {n g2 : Text} {v : Cst} {ve b : Expr} {bf : List Trivia} (hn : nameOk n = true)
    (hb : bindingFromCst n [] [] g2 ve [] bf = .ok b) (hvb : ve.before = []) (hva : ve.after = [])
    (hvnb : ve.notBinding = true) (hvw : v.wf = true)
    (hv : ∀ na i inl, ve.rebuildA na i inl = spacesIf inl i ++ (v.norm i).flatten)
    (j : Nat) (inl : Bool) :
    b.rebuildA false j inl = formatTrivia bf j ++ spacesIf inl j ++ n ++ [' ', '='] ++ valueNorm g2 v j ++ [';'] ∧
    (b.effAfter false = [] ∧ b.notAsrt = true) := by
  have hsplit := (nameOk_spec hn).1
  unfold bindingFromCst at hb
  simp only [hsplit, gcTrivia, flattenGC, List.flatMap_nil, List.nil_append, hvb, List.append_nil, addAfter_nil] at hb
  injection hb with hb; subst hb
  have hbv := appendGap_layout g2
  refine ⟨?_, by simp [Expr.effAfter, hva], rfl⟩
  simp only [Expr.rebuildA, before_setBefore, after_setBefore, hva, List.nil_append, bindOnNewline_layout,
    bindValIndent_layout, Bool.false_eq_true, if_false, bindingTail, applyTrailingTrivia]
  by_cases hnl : containsNL g2 = true
  · -- the value goes on its own line
    simp only [hnl, if_true, Option.getD_none, Bool.not_true]
    rw [rebuildA_setBefore hvb hbv, hv, formatTrivia_appendGap]
    have hsol := norm_flatten_solid v (indentFromGap g2) hvw
    have hrs : rstripNL (blankGap g2 ++ (spacesIf false (indentFromGap g2) ++ (v.norm (indentFromGap g2)).flatten)) =
        blankGap g2 ++ (spacesIf false (indentFromGap g2) ++ (v.norm (indentFromGap g2)).flatten) := by
      apply rstripNL_of_solid
      rw [← List.append_assoc, endsWithNL_append_of_ne_nil _ _ hsol.1]; exact hsol.2
    rw [hrs]
    simp [valueNorm, hnl, vgap, spacesIf, List.append_assoc]
  · have hnl' : containsNL g2 = false := by simpa using hnl
    have hbv0 : appendGapTriviaOff [] g2 = [] := appendGap_noNL [] hnl' true
    simp only [hnl', Bool.false_eq_true, if_false, Bool.not_false, hbv0]
    have hve : ve.setBefore [] = ve := by
      cases ve <;> simp_all [Expr.setBefore, Expr.before]
    rw [hve]
    have hval : (ve.preview j).getD (ve.rebuildA true j true) = (v.norm j).flatten := by
      cases hp : ve.preview j with
      | none => simp [hv, spacesIf]
      | some p => simp [preview_inert hp, hv, spacesIf]
    rw [hval]
    have hsol := norm_flatten_solid v j hvw
    rw [rstripNL_of_solid hsol.2]
    simp [valueNorm, hnl', spacesIf, List.append_assoc]

/-- the normalised items of a non-empty comment-free sequence end with a token -/
theorem normML_solid : (its : Items) → ∀ (m : Mode) (cg : Text) (j : Nat), its.wf m cg = true → its.cf = true →
    its.isNil = false → solidT (its.normML j).flatten
  | .nil, _, _, _, _, _, h => by cases h
  | .cmt .., _, _, _, _, hcf, _ => by simp [Items.cf] at hcf
  | .elem g c rest, m, cg, j, hwf, hcf, _ => by
    simp only [Items.wf, Bool.and_eq_true] at hwf
    simp only [Items.cf, Bool.and_eq_true] at hcf
    simp only [Items.normML, Items.flatten]
    cases hr : rest.isNil with
    | true =>
      cases rest with
      | nil =>
        simp only [Items.normML, Items.flatten, List.append_nil]
        exact solidT_append_left _ (norm_flatten_solid c j hwf.1.2)
      | cmt a b c' => cases hr
      | elem a b c' => cases hr
      | bind a b c1 d c2 e f c3 g' h' => cases hr
    | false => exact solidT_append_left _ (normML_solid rest m cg j hwf.2 hcf.2 hr)
  | .bind g n c1 g1 c2 g2 v c3 g3 rest, m, cg, j, hwf, hcf, _ => by
    simp only [Items.wf, Bool.and_eq_true] at hwf
    simp only [Items.cf, Bool.and_eq_true] at hcf
    have key : ∀ (a b c d e : Text) (x : Cst) (tl : Items) , tl.isNil = true →
        solidT (Items.flatten (.bind a b [] c [] d x [] e (tl.normML j))) := by
      intro a b c d e x tl htl
      cases tl with
      | nil =>
        simp only [Items.normML, Items.flatten, flattenGC, List.flatMap_nil, List.append_nil]
        exact solidT_snoc _ _ (by decide)
      | cmt _ _ _ => cases htl
      | elem _ _ _ => cases htl
      | bind _ _ _ _ _ _ _ _ _ _ => cases htl
    cases hr : rest.isNil with
    | true =>
      simp only [Items.normML]
      split <;> exact key _ _ _ _ _ _ rest hr
    | false =>
      have ih := normML_solid rest m cg j hwf.2 hcf.2 hr
      simp only [Items.normML]
      split
      · simp only [Items.flatten]
        rw [show ∀ (p q : Text), p ++ ';' :: q = (p ++ [';']) ++ q from by intro p q; simp]
        exact solidT_append_left _ ih
      · simp only [Items.flatten]
        rw [show ∀ (p q : Text), p ++ ';' :: q = (p ++ [';']) ++ q from by intro p q; simp]
        exact solidT_append_left _ ih


/-! ### the item loop on comment-free items -/

def AllAfterNil (items : List Expr) : Prop := ∀ e ∈ items, e.effAfter false = [] ∧ e.notAsrt = true

/-- loop state on comment-free items -/
def InvS (st : SeqSt) (its : Items) : Prop :=
  AllAfterNil st.items ∧
  ((st.prev = .none ∧ st.before = openBefore its ∧ st.items = []) ∨ (st.prev = .item ∧ st.before = []))

theorem allAfterNil_append {a b : List Expr} (ha : AllAfterNil a) (hb : AllAfterNil b) : AllAfterNil (a ++ b) := by
  intro e he
  rcases List.mem_append.mp he with h | h
  · exact ha e h
  · exact hb e h

/-- the trivia the loop puts in front of an item, on comment-free items: the blank line of the gap, if any -/
theorem pushGap_text {st : SeqSt} {g : Text} {its : Items} (h : InvS st its) (hg : its.firstGap = some g) (j : Nat) :
    formatTrivia (pushGap st g) j = blankGap g ∧ (pushGap st g).all Trivia.isLayout = true := by
  rcases h.2 with ⟨hp, hb, _⟩ | ⟨hp, hb⟩
  · have : pushGap st g = openBefore its := by unfold pushGap; simp [hp, hb]
    rw [this]
    exact ⟨by simpa [hg] using formatTrivia_openBefore its j, openBefore_layout _⟩
  · have : pushGap st g = appendGapTriviaOff [] g := by unfold pushGap; simp [hp, hb]
    rw [this]; exact ⟨formatTrivia_appendGap g j, appendGap_layout g⟩

theorem blankGap_noNL {g : Text} (h : containsNL g = false) : blankGap g = [] := by
  unfold blankGap; simp [emptyLineOffsets_false h]

theorem effAfter_of_parsed {e : Expr} (hnb : e.notBinding = true) (ha : e.after = []) : e.effAfter false = [] := by
  rw [effAfter_notBinding hnb, ha]

theorem finishSeq_cf (st : SeqSt) (cg : Text) (hc : Bool) (hb : st.before = []) :
    finishSeq st (some cg) hc =
      if hc && gapHasEmptyLineOffsets cg then
        (if st.items.isEmpty then (st.items, [.emptyLine]) else (modifyLast (fun e => e.addAfter [.emptyLine]) st.items, []))
      else (st.items, []) := by
  unfold finishSeq
  simp [hb]

theorem endsWithNL_tail_of_solid {t : Text} (h : solidT ('\n' :: t)) : endsWithNL t = false := by
  cases t with
  | nil => rfl
  | cons c r =>
    have := h.2
    rw [show ('\n' :: c :: r) = ['\n'] ++ (c :: r) from rfl, endsWithNL_append_of_ne_nil _ _ (by simp)] at this
    exact this

theorem blankGap_of {g : Text} (h : gapHasEmptyLineOffsets g = true) : blankGap g = ['\n'] := by simp [blankGap, h]
theorem blankGap_of_not {g : Text} (h : gapHasEmptyLineOffsets g = false) : blankGap g = [] := by simp [blankGap, h]

/-- the body of a multi-line container and what closes it -/
theorem ml_body_text {items : List Expr} {T cg : Text} {j : Nat} (hne : items ≠ []) (hall : AllAfterNil items)
    (hr : rendML items j = T) (hT : solidT T) (i : Nat) :
    let items' := if gapHasEmptyLineOffsets cg then modifyLast (fun e => e.addAfter [.emptyLine]) items else items
    let body := joinWith ['\n'] (rebuildAll items' j false)
    ['\n'] ++ body ++ (if (body.isEmpty && !true) || endsWithNL body then [] else ['\n']) ++ spaces i = T ++ vgap cg i := by
  intro items' body
  have hne' : items' ≠ [] := by
    show (if gapHasEmptyLineOffsets cg then _ else _) ≠ []
    split
    · exact modifyLast_ne_nil _ hne
    · exact hne
  have hj : '\n' :: body = rendML items' j := join_nl_eq items' j hne'
  by_cases hb : gapHasEmptyLineOffsets cg = true
  · have hi : items' = modifyLast (fun e => e.addAfter [.emptyLine]) items := by
      show (if gapHasEmptyLineOffsets cg then _ else _) = _; rw [if_pos hb]
    have hr' : rendML items' j = T ++ ['\n', '\n'] := by rw [hi, rendML_modifyLast items j hne hall, hr]
    have hbody : '\n' :: body = T ++ ['\n', '\n'] := by rw [hj, hr']
    have hend : endsWithNL body = true := by
      cases T with
      | nil => exact absurd rfl hT.1
      | cons c r =>
        simp only [List.cons_append] at hbody
        injection hbody with _ hbody
        rw [hbody]; simp [endsWithNL]
    rw [show (['\n'] ++ body) = '\n' :: body from rfl, hbody, hend]
    simp [vgap, blankGap_of hb, List.append_assoc]
  · have hb' : gapHasEmptyLineOffsets cg = false := by simpa using hb
    have hi : items' = items := by
      show (if gapHasEmptyLineOffsets cg then _ else _) = _; rw [if_neg hb]
    have hbody : '\n' :: body = T := by rw [hj, hi, hr]
    have hend : endsWithNL body = false := endsWithNL_tail_of_solid (by rw [hbody]; exact hT)
    rw [show (['\n'] ++ body) = '\n' :: body from rfl, hbody, hend]
    simp [vgap, blankGap_of_not hb', List.append_assoc]

theorem ml_body_text' {items : List Expr} {T cg : Text} {j : Nat} (hne : items ≠ []) (hall : AllAfterNil items)
    (hr : rendML items j = T) (hT : solidT T) (i : Nat) (tl : Text) :
    ['\n'] ++ (joinWith ['\n'] (rebuildAll (if gapHasEmptyLineOffsets cg then
          modifyLast (fun e => e.addAfter [.emptyLine]) items else items) j false) ++
      ((if ((joinWith ['\n'] (rebuildAll (if gapHasEmptyLineOffsets cg then
          modifyLast (fun e => e.addAfter [.emptyLine]) items else items) j false)).isEmpty && false) ||
          endsWithNL (joinWith ['\n'] (rebuildAll (if gapHasEmptyLineOffsets cg then
          modifyLast (fun e => e.addAfter [.emptyLine]) items else items) j false)) then [] else ['\n']) ++
        (spaces i ++ tl))) = T ++ (vgap cg i ++ tl) := by
  have := ml_body_text (cg := cg) hne hall hr hT i
  simp only [Bool.not_true] at this
  rw [← List.append_assoc T, ← this]
  simp only [List.append_assoc]

theorem setBefore_nil_of {e : Expr} (h : e.before = []) : e.setBefore [] = e := by
  cases e <;> simp_all [Expr.setBefore, Expr.before]

theorem nlSep_eq (g : Text) : nlSep (gapHasEmptyLineOffsets g) = '\n' :: blankGap g := by
  unfold nlSep blankGap; split <;> rfl

theorem startsNonSpace_spaces (n : Nat) (X : Text) :
    (if startsNonSpace (spaces n ++ X) = true then spaces n ++ (spaces n ++ X) else spaces n ++ X) = spaces n ++ X := by
  cases n with
  | zero => simp only [spaces, List.replicate_zero, List.nil_append]; exact ite_self _
  | succ k =>
    have : startsNonSpace (spaces (k + 1) ++ X) = false := by
      simp [spaces, List.replicate_succ, startsNonSpace, isPyWhitespace]
    rw [this]; rfl

/-- the separator in front of the `or` of a select without comments -/
theorem selOrSep_nil (g : Text) (i : Nat) :
    selOrSep g [] i =
      (if (Layout.fromGap g).onNewline then
        (if (Layout.fromGap g).blankLine then ['\n', '\n'] else ['\n']) ++ spaces ((Layout.fromGap g).indent.getD (i + 2))
       else [' ']) := by
  unfold selOrSep
  cases hon : (Layout.fromGap g).onNewline <;> simp [hon]

theorem formatTriviaGo_emptyLines (i : Nat) : ∀ (m : Nat) (acc : Text) (e : Bool),
    formatTriviaGo i (List.replicate m Trivia.emptyLine) acc e = acc ++ List.replicate m '\n'
  | 0, acc, e => by simp [formatTriviaGo]
  | m + 1, acc, e => by
    rw [List.replicate_succ, formatTriviaGo, formatTriviaGo_emptyLines i m, List.replicate_succ]
    simp

theorem formatTrivia_emptyLines (m i : Nat) : formatTrivia (List.replicate m Trivia.emptyLine) i = List.replicate m '\n' := by
  unfold formatTrivia; rw [formatTriviaGo_emptyLines]; rfl

theorem emptyLines_layout (m : Nat) : (List.replicate m Trivia.emptyLine).all Trivia.isLayout = true := by
  apply List.all_eq_true.mpr; intro x hx; rw [List.eq_of_mem_replicate hx]; rfl

theorem count_nl_of_noNL : ∀ {g : Text}, containsNL g = false → g.count '\n' = 0
  | [], _ => rfl
  | c :: r, h => by
    rw [containsNL_cons] at h
    simp only [Bool.or_eq_false_iff, beq_eq_false_iff_ne, ne_eq] at h
    rw [List.count_cons, count_nl_of_noNL h.2]
    simp [h.1]

theorem noNL_of_count_nl : ∀ {g : Text}, g.count '\n' = 0 → containsNL g = false
  | [], _ => rfl
  | c :: r, h => by
    rw [List.count_cons] at h
    have h2 : r.count '\n' = 0 := by omega
    have h1 : (c == '\n') = false := by
      cases hc : (c == '\n') with
      | false => rfl
      | true => rw [hc] at h; simp at h
    rw [containsNL_cons, h1, noNL_of_count_nl h2]; rfl

theorem count_nl_breaks (n i : Nat) : (List.replicate n '\n' ++ spaces i).count '\n' = n := by
  rw [List.count_append, List.count_replicate_self, spaces, List.count_replicate]
  simp

theorem isGap_breaks (n i : Nat) : isGap (List.replicate n '\n' ++ spaces i) = true := by
  unfold isGap spaces
  apply List.all_eq_true.mpr
  intro c hc
  rcases List.mem_append.mp hc with h | h <;> rw [List.eq_of_mem_replicate h] <;> rfl

/-! ### the first character of a normalised tree; what `norm` leaves unchanged -/

/-- the text starts with a character that is neither a space nor a line break -/
def headOkB : Text → Bool
  | [] => false
  | c :: _ => c != ' ' && c != '\n'

theorem headOkB_append {a : Text} (h : headOkB a = true) (b : Text) : headOkB (a ++ b) = true := by
  cases a with
  | nil => cases h
  | cons c r => exact h

theorem headOkB_of_all (p : Char → Bool) (hsp : p ' ' = false) (hnl : p '\n' = false) {t : Text} (hne : t ≠ [])
    (hall : t.all p = true) : headOkB t = true := by
  cases t with
  | nil => exact absurd rfl hne
  | cons c r =>
    simp only [List.all_cons, Bool.and_eq_true] at hall
    simp only [headOkB, Bool.and_eq_true, bne_iff_ne, ne_eq]
    constructor
    · intro hc; subst hc; rw [hsp] at hall; cases hall.1
    · intro hc; subst hc; rw [hnl] at hall; cases hall.1

theorem leaf_headOk {k : LeafKind} {t : Text} (h : leafOk k t = true) : headOkB t = true := by
  cases k with
  | ident =>
    simp only [leafOk, Bool.and_eq_true, Bool.not_eq_true', List.isEmpty_eq_false_iff] at h
    exact headOkB_of_all isIdentChar (by decide) (by decide) h.1 h.2
  | int =>
    simp only [leafOk, Bool.and_eq_true, Bool.not_eq_true', List.isEmpty_eq_false_iff] at h
    exact headOkB_of_all isAsciiDigit (by decide) (by decide) h.1.1.1 h.1.1.2
  | float =>
    simp only [leafOk, Bool.and_eq_true, Bool.not_eq_true', List.isEmpty_eq_false_iff] at h
    exact headOkB_of_all _ (by decide) (by decide) h.1 h.2
  | str =>
    simp only [leafOk, Bool.and_eq_true, beq_iff_eq] at h
    cases t with
    | nil => simp at h
    | cons c r =>
      have : c = '"' := by simpa using h.1.2
      subst this; rfl
  | path =>
    simp only [leafOk, Bool.and_eq_true] at h
    refine headOkB_of_all (fun c => !isWsChar c) (by decide) (by decide) ?_ h.2
    intro ht; subst ht; simp at h

theorem lamName_headOk {n : Text} (h : lamNameOk n = true) : headOkB n = true := by
  simp only [lamNameOk, Bool.and_eq_true, Bool.not_eq_true', List.isEmpty_eq_false_iff] at h
  exact headOkB_of_all isIdentChar (by decide) (by decide) h.1 h.2

theorem norm_head : ∀ (c : Cst) (i : Nat), c.wf = true → headOkB (c.norm i).flatten = true
  | .leaf k t, i, h => by simp only [Cst.norm, Cst.flatten]; exact leaf_headOk h
  | .list its cg, i, _ => by
    obtain ⟨its', cg', h⟩ := norm_list its cg i
    rw [h, Cst.flatten]; rfl
  | .set r rg its cg, i, _ => by
    obtain ⟨its', cg', h⟩ := norm_set r rg its cg i
    rw [h, Cst.flatten]
    cases r <;> rfl
  | .paren its cg, i, h => by
    obtain ⟨its', cg', h⟩ := norm_paren its cg i
    rw [h, Cst.flatten]; rfl
  | .app f cs g a, i, h => by
    simp only [Cst.wf, Bool.and_eq_true] at h
    simp only [Cst.norm, Cst.flatten, List.append_assoc]
    exact headOkB_append (norm_head f i h.1.1.1) _
  | .kw w c1 g1 hd c2 g2 c3 g3 b, i, h => by
    cases w <;> simp only [Cst.norm, Cst.flatten, kwText] <;> rfl
  | .sel e c1 g1 gd attrs, i, h => by
    simp only [Cst.wf, Bool.and_eq_true] at h
    simp only [Cst.norm, Cst.flatten, List.append_assoc]
    exact headOkB_append (norm_head e i h.1.1.1.1.1) _
  | .selOr e c1 g1 gd attrs c2 g2 g3 d, i, h => by
    simp only [Cst.wf, Bool.and_eq_true] at h
    simp only [Cst.norm, Cst.flatten, List.append_assoc]
    exact headOkB_append (norm_head e i h.1.1.1.1.1.1.1.1.1) _
  | .lam n c1 g1 c2 g2 b, i, h => by
    simp only [Cst.wf, Bool.and_eq_true] at h
    simp only [Cst.norm, Cst.flatten, List.append_assoc]
    exact headOkB_append (lamName_headOk h.1.1.1.1.1) _
  | .un op c g e, i, h => by
    simp only [Cst.wf, Bool.and_eq_true] at h
    have hop := h.1.1.1
    simp only [unOpOk, Bool.or_eq_true, beq_iff_eq] at hop
    simp only [Cst.norm, Cst.flatten, List.append_assoc]
    rcases hop with h1 | h1 <;> subst h1 <;> rfl
  | .bin l c1 g1 op c2 g2 r, i, h => by
    simp only [Cst.wf, Bool.and_eq_true] at h
    simp only [Cst.norm, Cst.flatten, List.append_assoc]
    exact headOkB_append (norm_head l i h.1.1.1.1.1.1.1) _
  | .ite c1 g1 c c2 g2 c3 g3 t c4 g4 c5 g5 e, i, h => by
    simp only [Cst.norm, Cst.flatten, List.cons_append]; rfl
  | .has e c1 g1 c2 g2 attrs, i, h => by
    simp only [Cst.wf, Bool.and_eq_true] at h
    simp only [Cst.norm, Cst.flatten, List.append_assoc]
    exact headOkB_append (norm_head e i h.1.1.1.1.1.1) _

theorem ensureIndentPad_head {t : Text} (h : headOkB t = true) (k : Nat) : ensureIndentPad t k = k := by
  cases t with
  | nil => cases h
  | cons c r =>
    simp only [headOkB, Bool.and_eq_true, bne_iff_ne, ne_eq] at h
    have h1 : (c != '\n') = true := by simpa using h.2
    have h2 : (c == ' ') = false := by simpa using h.1
    simp only [ensureIndentPad, List.isEmpty_cons, Bool.false_eq_true, if_false, List.takeWhile_cons, h1, if_true, h2,
      List.length_nil]
    split <;> omega

theorem absorbable_norm : ∀ (c : Cst) (i : Nat), (c.norm i).absorbableC = c.absorbableC
  | .leaf .., _ => rfl
  | .list its cg, i => by obtain ⟨_, _, h⟩ := norm_list its cg i; rw [h]; rfl
  | .set r rg its cg, i => by obtain ⟨_, _, h⟩ := norm_set r rg its cg i; rw [h]; rfl
  | .paren its cg, i => by
    cases its with
    | elem g c rest =>
      cases rest with
      | nil => simp only [Cst.norm, Cst.absorbableC]; exact absorbable_norm c _
      | _ => rfl
    | nil => rfl
    | cmt _ _ _ => rfl
    | bind _ _ _ _ _ _ _ _ _ _ => rfl
  | .app .., _ => rfl
  | .kw w .., _ => by cases w <;> rfl
  | .sel .., _ => rfl
  | .selOr .., _ => rfl
  | .lam .., _ => rfl
  | .un .., _ => rfl
  | .bin .., _ => rfl
  | .ite .., _ => rfl
  | .has .., _ => rfl

theorem headLeaf_norm : ∀ (c : Cst) (i : Nat), (c.norm i).headLeaf = c.headLeaf
  | .leaf .., _ => rfl
  | .list its cg, i => by obtain ⟨_, _, h⟩ := norm_list its cg i; rw [h]; rfl
  | .set r rg its cg, i => by obtain ⟨_, _, h⟩ := norm_set r rg its cg i; rw [h]; rfl
  | .paren its cg, i => by obtain ⟨_, _, h⟩ := norm_paren its cg i; rw [h]; rfl
  | .app f cs g a, i => by simp only [Cst.norm, Cst.headLeaf]; exact headLeaf_norm f i
  | .kw w .., _ => by cases w <;> rfl
  | .sel e c1 g1 gd attrs, i => by simp only [Cst.norm, Cst.headLeaf]; exact headLeaf_norm e i
  | .selOr e c1 g1 gd attrs c2 g2 g3 d, i => by simp only [Cst.norm, Cst.headLeaf]; exact headLeaf_norm e i
  | .lam .., _ => rfl
  | .un .., _ => rfl
  | .bin l c1 g1 op c2 g2 r, i => by simp only [Cst.norm, Cst.headLeaf]; exact headLeaf_norm l i
  | .ite .., _ => rfl
  | .has e c1 g1 c2 g2 attrs, i => by simp only [Cst.norm, Cst.headLeaf]; exact headLeaf_norm e i

theorem fusesMinus_norm (c : Cst) (i : Nat) : (c.norm i).fusesMinus = c.fusesMinus := by
  unfold Cst.fusesMinus; rw [headLeaf_norm]

theorem breaksGap_count (g : Text) (k : Nat) :
    (if g.count '\n' = 0 then [' '] else List.replicate (g.count '\n') '\n' ++ spaces k).count '\n' = g.count '\n' := by
  by_cases h0 : g.count '\n' = 0
  · simp [h0]
  · simp only [h0, if_false, count_nl_breaks]

theorem sameOpChain_norm (c : Cst) (i : Nat) (op : Text) : (c.norm i).sameOpChainC op = c.sameOpChainC op := by
  cases c with
  | bin l c1 g1 o c2 g2 r => simp only [Cst.norm, Cst.sameOpChainC, breaksGap_count]
  | list its cg => obtain ⟨_, _, h⟩ := norm_list its cg i; rw [h]; rfl
  | set r rg its cg => obtain ⟨_, _, h⟩ := norm_set r rg its cg i; rw [h]; rfl
  | paren its cg => obtain ⟨_, _, h⟩ := norm_paren its cg i; rw [h]; rfl
  | kw w c1 g1 h c2 g2 c3 g3 b => cases w <;> rfl
  | _ => rfl

theorem binRightIndentC_norm (op : Text) (c : Cst) (j i : Nat) : binRightIndentC op (c.norm j) i = binRightIndentC op c i := by
  unfold binRightIndentC
  rw [sameOpChain_norm, absorbable_norm]

theorem absorbable_setBefore' (e : Expr) (b : List Trivia) : (e.setBefore b).absorbable = e.absorbable := by
  cases e <;> rfl

/-! ### what the renderer asks of a parsed tree, read off the tree -/

/-- `Expr.absorbable` / `Expr.sameOpChain` of a parsed comment-free tree, read off the tree -/
theorem parse_absorbable : (c : Cst) → c.wf = true → c.cf = true → ∀ (e : Expr), c.parse = .ok e →
    e.absorbable = c.absorbableC
  | .leaf k t, _, _, e, hp => by
    obtain ⟨k', t', rfl⟩ := leafFromCst_shape (by simpa only [Cst.parse] using hp); rfl
  | .list its cg, _, _, e, hp => by obtain ⟨_, _, rfl⟩ := parse_list_ok hp; rfl
  | .set r rg its cg, _, _, e, hp => by obtain ⟨_, _, rfl⟩ := parse_set_ok hp; rfl
  | .paren (.elem g c .nil) cg, hwf, hcf, e, hp => by
    simp only [Cst.wf, Items.wf, Bool.and_eq_true] at hwf
    simp only [Cst.cf, Items.cf, Bool.and_eq_true] at hcf
    obtain ⟨e', hpe, _, heb, _⟩ := cst_parse_spec false c hwf.1.1.1.2 (fun h => by cases h)
    have hparse : (Cst.paren (.elem g c .nil) cg).parse =
        .ok (.paren e' g cg (gapHasEmptyLineOffsets g) (gapHasEmptyLineOffsets cg) [] []) := by
      simp [Cst.parse, Items.parseSeq, hpe, pushGap, heb, setBefore_nil_of heb, finishSeq, Items.preElem,
        Items.postElem, Items.flatten, Items.firstGap]
    rw [hparse] at hp; injection hp with hp; subst hp
    exact parse_absorbable c hwf.1.1.1.2 hcf.1 e' hpe
  | .paren .nil cg, hwf, _, _, _ => by simp [Cst.wf, Items.countElems] at hwf
  | .paren (.cmt ..) cg, _, hcf, _, _ => by simp [Cst.cf, Items.cf] at hcf
  | .paren (.bind ..) cg, hwf, _, _, _ => by simp [Cst.wf, Items.wf] at hwf
  | .paren (.elem g c (.cmt ..)) cg, _, hcf, _, _ => by simp [Cst.cf, Items.cf] at hcf
  | .paren (.elem g c (.bind ..)) cg, hwf, _, _, _ => by simp [Cst.wf, Items.wf] at hwf
  | .paren (.elem g c (.elem ..)) cg, hwf, _, _, _ => by simp [Cst.wf, Items.countElems] at hwf
  | .app f cs g a, _, _, e, hp => by obtain ⟨_, _, _, _, rfl⟩ := parse_app_ok hp; rfl
  | .kw w c1 g1 h c2 g2 c3 g3 b, _, _, e, hp => by
    obtain ⟨_, _, _, _, rfl⟩ := parse_kw_ok hp
    cases w <;> rfl
  | .sel e0 c1 g1 gd ats, _, _, e, hp => by obtain ⟨_, _, rfl⟩ := parse_sel_ok hp; rfl
  | .selOr e0 c1 g1 gd ats c2 g2 g3 d, _, _, e, hp => by obtain ⟨_, _, _, _, rfl⟩ := parse_selOr_ok hp; rfl
  | .lam n c1 g1 c2 g2 b, _, _, e, hp => by obtain ⟨_, _, rfl⟩ := parse_lam_ok hp; rfl
  | .un op c g e0, _, _, e, hp => by obtain ⟨_, _, rfl⟩ := parse_un_ok hp; rfl
  | .ite c1 g1 c0 c2 g2 c3 g3 t c4 g4 c5 g5 e0, _, _, e, hp => by
    obtain ⟨_, _, _, _, _, _, rfl⟩ := parse_ite_ok hp; rfl
  | .has e0 c1 g1 c2 g2 ats, _, _, e, hp => by obtain ⟨_, _, rfl⟩ := parse_has_ok hp; rfl
  | .bin l c1 g1 op c2 g2 r, _, _, e, hp => by obtain ⟨_, _, _, _, rfl⟩ := parse_bin_ok hp; rfl

theorem parse_sameOpChain {c : Cst} {e : Expr} (hcf : c.cf = true) (hp : c.parse = .ok e) (op : Text) :
    e.sameOpChain op = c.sameOpChainC op := by
  cases c with
  | leaf k t => obtain ⟨k', t', rfl⟩ := leafFromCst_shape (by simpa only [Cst.parse] using hp); rfl
  | list its cg => obtain ⟨_, _, rfl⟩ := parse_list_ok hp; rfl
  | set r rg its cg => obtain ⟨_, _, rfl⟩ := parse_set_ok hp; rfl
  | paren its cg => obtain ⟨_, _, _, _, rfl⟩ := parse_paren_ok hp; rfl
  | app f cs g a => obtain ⟨_, _, _, _, rfl⟩ := parse_app_ok hp; rfl
  | kw w c1 g1 h c2 g2 c3 g3 b =>
    obtain ⟨_, _, _, _, rfl⟩ := parse_kw_ok hp
    cases w <;> rfl
  | sel e0 c1 g1 gd ats => obtain ⟨_, _, rfl⟩ := parse_sel_ok hp; rfl
  | selOr e0 c1 g1 gd ats c2 g2 g3 d => obtain ⟨_, _, _, _, rfl⟩ := parse_selOr_ok hp; rfl
  | lam n c1 g1 c2 g2 b => obtain ⟨_, _, rfl⟩ := parse_lam_ok hp; rfl
  | un o c g e0 => obtain ⟨_, _, rfl⟩ := parse_un_ok hp; rfl
  | ite c1 g1 c0 c2 g2 c3 g3 t c4 g4 c5 g5 e0 => obtain ⟨_, _, _, _, _, _, rfl⟩ := parse_ite_ok hp; rfl
  | has e0 c1 g1 c2 g2 ats => obtain ⟨_, _, rfl⟩ := parse_has_ok hp; rfl
  | bin l c1 g1 o c2 g2 r => obtain ⟨_, _, _, _, rfl⟩ := parse_bin_ok hp; rfl

theorem containsNL_breaks {n : Nat} (h : n ≠ 0) (i : Nat) : containsNL (List.replicate n '\n' ++ spaces i) = true := by
  cases n with
  | zero => exact absurd rfl h
  | succ m => simp [List.replicate_succ, containsNL_cons]

theorem drop_spaces : ∀ (i : Nat) (X : Text), (spaces i ++ X).drop i = X
  | 0, X => rfl
  | i + 1, X => by
    show ((' ' :: spaces i) ++ X).drop (i + 1) = X
    exact drop_spaces i X

theorem stripIndentPrefix_spaces (i : Nat) (X : Text) : stripIndentPrefix (spaces i ++ X) i = X := by
  unfold stripIndentPrefix
  by_cases hi : i = 0
  · subst hi; rfl
  · have : (i != 0) = true := by simpa using hi
    simp only [this, Bool.true_and, startsWith_append_self, if_true, drop_spaces]

theorem gapHasEmptyLine_semi (t : Text) : gapHasEmptyLine (';' :: t) = gapHasEmptyLine t := by
  rw [gapHasEmptyLine_eq_re, gapHasEmptyLine_eq_re, hasEmptyLineRe_cons_ne (by decide)]

theorem containsNL_semi (t : Text) : containsNL (';' :: t) = containsNL t := by
  rw [containsNL_cons]; simp

/-- separator and body of a `with` without comments, as text -/
theorem withBody_text {be : Expr} (hbb : be.before = []) (S X : Text) (i : Nat)
    (hrt : ∀ (inl : Bool), be.rebuildA false i inl = spacesIf inl i ++ X) :
    withBodyPart
      (withBodyForce [] [] (if (appendGapTrivia [] S).isEmpty then be else be.setBefore (appendGapTrivia [] S ++ be.before)).before)
      be.absorbable
      ((if (appendGapTrivia [] S).isEmpty then be else be.setBefore (appendGapTrivia [] S ++ be.before)).rebuildA false i true)
      ((if (appendGapTrivia [] S).isEmpty then be else be.setBefore (appendGapTrivia [] S ++ be.before)).rebuildA false i false) i =
    (if gapHasEmptyLine S then '\n' :: '\n' :: spaces i
     else if containsNL S then '\n' :: spaces i
     else if be.absorbable then [' ']
     else if containsNL X then '\n' :: spaces i
     else [' ']) ++ X := by
  have h1 := hrt true
  have h2 := hrt false
  simp only [spacesIf, if_true, Bool.false_eq_true, if_false, List.nil_append] at h1 h2
  unfold appendGapTrivia
  cases hE : gapHasEmptyLine S with
  | true =>
    have hsb := rebuildA_setBefore hbb (bf := [Trivia.emptyLine]) rfl false i false
    simp only [if_true, List.nil_append, List.isEmpty_cons, Bool.false_eq_true, if_false, hbb, List.append_nil,
      before_setBefore, withBodyForce, hasLayoutOrComment, List.any_cons, List.any_nil, List.isEmpty_nil, Bool.not_true,
      Bool.false_or, Bool.or_false, withBodyPart, Bool.not_true, Bool.false_and, Bool.true_or, hsb, h2]
    simp [formatTrivia, formatTriviaGo]
  | false =>
    cases hN : containsNL S with
    | true =>
      have hsb := rebuildA_setBefore hbb (bf := [Trivia.linebreak]) rfl false i false
      simp only [Bool.false_eq_true, if_false, Bool.true_and, if_true, List.nil_append, List.isEmpty_cons, hbb, List.append_nil,
        before_setBefore, withBodyForce, hasLayoutOrComment, List.any_cons, List.any_nil, List.isEmpty_nil, Bool.not_true,
        Bool.false_or, Bool.or_false, withBodyPart, Bool.false_and, Bool.true_or, hsb, h2]
      simp [formatTrivia, formatTriviaGo]
    | false =>
      simp only [Bool.false_eq_true, if_false, Bool.true_and, Bool.and_false, List.isEmpty_nil, if_true, hbb, withBodyForce,
        hasLayoutOrComment, List.any_nil, Bool.not_true, Bool.or_false, withBodyPart, Bool.not_false, Bool.true_and,
        Bool.false_or, h1, h2, stripIndentPrefix_spaces]
      cases be.absorbable <;> cases containsNL X <;> simp

/-! ### `if` / `?` without comments: the text of the separators -/

theorem sepText_eq_sepGap (g : Text) : sepText g = sepGap g := by
  unfold sepText sepGap
  rw [fromGap_eq]
  cases containsNL g <;> cases hb : gapHasEmptyLineOffsets g <;> simp [vgap, blankGap, hb]

/-- separator, then the branch inline or on its own line, in terms of the normalised tree -/
theorem branch_text {c : Cst} {ce : Expr}
    (hrt : ∀ (na : Bool) (i : Nat) (inl : Bool), ce.rebuildA na i inl = spacesIf inl i ++ (c.norm i).flatten)
    (g : Text) (i : Nat) (rest : Text) :
    brkText g ++ ((if (Layout.fromGap g).onNewline = true then ce.rebuildA false ((Layout.fromGap g).indent.getD i) false
      else ce.rebuildA false i true) ++ rest) = sepGap g ++ ((c.norm (sepIndent g i)).flatten ++ rest) := by
  unfold brkText sepGap sepIndent
  rw [fromGap_eq]
  cases containsNL g <;> cases hb : gapHasEmptyLineOffsets g <;> simp [vgap, blankGap, hb, hrt, spacesIf, List.append_assoc]

theorem branch_text_last {c : Cst} {ce : Expr}
    (hrt : ∀ (na : Bool) (i : Nat) (inl : Bool), ce.rebuildA na i inl = spacesIf inl i ++ (c.norm i).flatten)
    (g : Text) (i : Nat) :
    brkText g ++ (if (Layout.fromGap g).onNewline = true then ce.rebuildA false ((Layout.fromGap g).indent.getD i) false
      else ce.rebuildA false i true) = sepGap g ++ (c.norm (sepIndent g i)).flatten := by
  have := branch_text hrt g i []
  simpa using this

theorem sepGap_noNL {g : Text} (h : containsNL g = false) : sepGap g = [' '] := by simp [sepGap, h]
theorem sepIndent_noNL {g : Text} (h : containsNL g = false) (i : Nat) : sepIndent g i = i := by simp [sepIndent, h]

/-! ### the round trip of a comment-free tree is the normaliser -/

/-- the loop state after an item and the rest of the items: nothing pending, something parsed -/
theorem after_item {rest : Items} {st st' : SeqSt} (h4 : rest.isNil = false → st'.before = [] ∧ st'.items ≠ [])
    (h5 : rest.isNil = true → st' = st) (hb : st.before = []) (hne : st.items ≠ []) :
    st'.before = [] ∧ st'.items ≠ [] := by
  cases hr : rest.isNil with
  | false => exact h4 hr
  | true => rw [h5 hr]; exact ⟨hb, hne⟩

mutual
theorem cst_rt : (c : Cst) → c.wf = true → c.cf = true →
    ∃ e, c.parse = .ok e ∧ e.before = [] ∧ e.after = [] ∧ e.notBinding = true ∧
      ∀ (na : Bool) (i : Nat) (inl : Bool), e.rebuildA na i inl = spacesIf inl i ++ (c.norm i).flatten
  | .leaf k t, hwf, _ => by
    have hs := leaf_spec (k := k) (t := t) hwf
    refine ⟨_, hs.1, rfl, rfl, rfl, fun na i inl => ?_⟩
    cases na <;> simp [Expr.rebuildA, addTrivia, leafBefore_nil, formatTrivia, formatTriviaGo, applyTrailingTrivia,
      spacesIf, Cst.norm, Cst.flatten]
  | .list its cg, hwf, hcf => by
    have hwf0 := hwf
    simp only [Cst.wf, Bool.and_eq_true] at hwf
    simp only [Cst.cf] at hcf
    obtain ⟨e0, hp0, _⟩ := cst_parse_spec false (.list its cg) hwf0 (fun h => by cases h)
    simp only [Cst.parse] at hp0
    cases hps : its.parseSeq .list { before := openBefore its } with
    | error err => rw [hps] at hp0; cases hp0
    | ok st' =>
      have hinit : InvS { before := openBefore its } its :=
        ⟨fun e he => by simp at he, Or.inl ⟨rfl, rfl, rfl⟩⟩
      have hrt := items_rt its .list cg { before := openBefore its } st' hwf.1 hcf hps (by decide) hinit
      have hpe : (Cst.list its cg).parse = .ok (.list (finishSeq st' (some cg) (!its.isNil)).1
          (containsNL ('[' :: its.flatten ++ cg ++ [']']))
          (emptyInner (finishSeq st' (some cg) (!its.isNil)).1 (finishSeq st' (some cg) (!its.isNil)).2 (its.flatten ++ cg))
          [] []) := by simp only [Cst.parse, hps]
      refine ⟨_, hpe, rfl, rfl, rfl, fun na i inl => ?_⟩
      cases hnil : its.isNil with
      | true =>
        -- no items
        have hst : st' = { before := openBefore its } := hrt.2.2.2.2 hnil
        have hits : its = .nil := by
          cases its with
          | nil => rfl
          | cmt _ _ _ => cases hnil
          | elem _ _ _ => cases hnil
          | bind _ _ _ _ _ _ _ _ _ _ => cases hnil
        subst hits; subst hst
        have hfin : finishSeq { before := openBefore Items.nil } (some cg) false = ([], []) := by
          simp [finishSeq, openBefore, Items.firstGap]
        simp only [Items.isNil, Bool.not_true, hfin, emptyInner, List.isEmpty_nil, Bool.and_self, if_true, Items.flatten,
          List.nil_append, Cst.norm]
        by_cases hb : gapHasEmptyLineOffsets cg = true
        · simp [hb, Expr.rebuildA, multilineBlock, formatTrivia, formatTriviaGo, applyTrailingTrivia, ite_self, spacesIf,
            Cst.flatten, Items.flatten, vgap, blankGap, endsWithNL]
        · have hb' : gapHasEmptyLineOffsets cg = false := by simpa using hb
          simp [hb', Expr.rebuildA, formatTrivia, formatTriviaGo, applyTrailingTrivia, ite_self, spacesIf,
            Cst.flatten, Items.flatten]
      | false =>
        obtain ⟨hbef, hne⟩ := hrt.2.2.2.1 hnil
        have hall := hrt.2.2.1
        have hml0 : ∀ j, rendML st'.items j = (its.normML j).flatten := by
          intro j; rw [hrt.1 j]; simp [rendML]
        have hcontains : containsNL ('[' :: its.flatten ++ cg ++ [']']) = containsNL (its.flatten ++ cg) := by
          simp [containsNL_append, containsNL_cons]
        rw [finishSeq_cf st' cg _ hbef]
        simp only [hnil, Bool.not_false, Bool.true_and, Cst.norm, Bool.false_eq_true, if_false, hcontains]
        by_cases hml : containsNL (its.flatten ++ cg) = true
        · -- several lines
          simp only [hml, if_true]
          have hbody := fun tl => ml_body_text' (cg := cg) hne hall (hml0 (i + 2))
            (normML_solid its .list cg (i + 2) hwf.1 hcf hnil) i tl
          by_cases hb : gapHasEmptyLineOffsets cg = true
          · have hst'e : st'.items.isEmpty = false := by
              cases hx : st'.items with
              | nil => exact absurd hx hne
              | cons _ _ => rfl
            simp only [hb, if_true, hst'e, Bool.false_eq_true, if_false] at hbody ⊢
            cases hx : modifyLast (fun e => e.addAfter [Trivia.emptyLine]) st'.items with
            | nil => exact absurd hx (modifyLast_ne_nil _ hne)
            | cons y ys =>
              rw [hx] at hbody
              simp only [Expr.rebuildA,
                if_true, Bool.not_true, multilineBlock, formatTrivia, formatTriviaGo, applyTrailingTrivia, ite_self]
              simp only [List.nil_append, List.append_assoc]
              rw [hbody]
              simp [spacesIf, Cst.flatten, List.append_assoc]
          · have hb' : gapHasEmptyLineOffsets cg = false := by simpa using hb
            simp only [hb', Bool.false_eq_true, if_false] at hbody ⊢
            cases hx : st'.items with
            | nil => exact absurd hx hne
            | cons y ys =>
              rw [hx] at hbody
              simp only [Expr.rebuildA,
                if_true, Bool.not_true, multilineBlock, formatTrivia, formatTriviaGo, applyTrailingTrivia, ite_self]
              simp only [List.nil_append, List.append_assoc]
              rw [hbody]
              simp [spacesIf, Cst.flatten, List.append_assoc]
        · -- one line
          have hml' : containsNL (its.flatten ++ cg) = false := by simpa using hml
          have hcg : containsNL cg = false := (noNL_append.mp hml').2
          have hfl : rendFlat st'.items i = (its.normFlat i).flatten := by
            rw [hrt.2.1 (noNL_append.mp hml').1 i]; simp [rendFlat]
          simp only [hml', Bool.false_eq_true, if_false, emptyLineOffsets_false hcg]
          cases hx : st'.items with
          | nil => exact absurd hx hne
          | cons y ys =>
            have hj := join_sp_eq (y :: ys) i (by simp)
            rw [← hx, hfl] at hj
            simp only [Bool.false_eq_true, if_false, Expr.rebuildA,
              Bool.not_false, formatTrivia, formatTriviaGo, applyTrailingTrivia, ite_self, List.nil_append]
            rw [hx] at hj
            have hj' : ∀ X, ' ' :: (joinWith [' '] (rebuildAll (y :: ys) i true) ++ X) = (its.normFlat i).flatten ++ X := by
              intro X; rw [← hj]; rfl
            simp only [List.append_assoc, List.cons_append, List.nil_append, hj']
            cases inl <;> simp [spacesIf, Cst.flatten, List.append_assoc]
  | .set isRec rg its cg, hwf, hcf => by
    have hwf0 := hwf
    simp only [Cst.wf, Bool.and_eq_true] at hwf
    simp only [Cst.cf] at hcf
    obtain ⟨e0, hp0, _⟩ := cst_parse_spec false (.set isRec rg its cg) hwf0 (fun h => by cases h)
    simp only [Cst.parse] at hp0
    cases hps : its.parseSeq .set { before := openBefore its } with
    | error err => rw [hps] at hp0; cases hp0
    | ok st' =>
      have hinit : InvS { before := openBefore its } its :=
        ⟨fun e he => by simp at he, Or.inl ⟨rfl, rfl, rfl⟩⟩
      have hrt := items_rt its .set cg { before := openBefore its } st' hwf.1.2 hcf hps (by decide) hinit
      have hpe : (Cst.set isRec rg its cg).parse = .ok (.set (finishSeq st' (some cg) (!its.isNil)).1
          (containsNL (Cst.flatten (.set isRec rg its cg))) isRec
          (emptyInner (finishSeq st' (some cg) (!its.isNil)).1 (finishSeq st' (some cg) (!its.isNil)).2 (its.flatten ++ cg))
          [] []) := by simp only [Cst.parse, hps]
      refine ⟨_, hpe, rfl, rfl, rfl, fun na i inl => ?_⟩
      have hpre : (if isRec = true then ['r', 'e', 'c', ' '] else ([] : Text)) =
          (if isRec = true then ['r', 'e', 'c'] ++ (if isRec = true then [' '] else []) else []) := by
        cases isRec <;> rfl
      cases hnil : its.isNil with
      | true =>
        have hst : st' = { before := openBefore its } := hrt.2.2.2.2 hnil
        have hits : its = .nil := by
          cases its with
          | nil => rfl
          | cmt _ _ _ => cases hnil
          | elem _ _ _ => cases hnil
          | bind _ _ _ _ _ _ _ _ _ _ => cases hnil
        subst hits; subst hst
        have hfin : finishSeq { before := openBefore Items.nil } (some cg) false = ([], []) := by
          simp [finishSeq, openBefore, Items.firstGap]
        simp only [Items.isNil, Bool.not_true, hfin, emptyInner, List.isEmpty_nil, Bool.and_self, if_true, Items.flatten,
          List.nil_append, Cst.norm]
        by_cases hb : gapHasEmptyLineOffsets cg = true
        · cases isRec <;> simp [hb, Expr.rebuildA, multilineBlock, formatTrivia, formatTriviaGo, applyTrailingTrivia, ite_self,
            spacesIf, Cst.flatten, Items.flatten, vgap, blankGap, endsWithNL]
        · have hb' : gapHasEmptyLineOffsets cg = false := by simpa using hb
          cases isRec <;> simp [hb', Expr.rebuildA, addTrivia, formatTrivia, formatTriviaGo, applyTrailingTrivia, ite_self,
            spacesIf, Cst.flatten, Items.flatten]
      | false =>
        obtain ⟨hbef, hne⟩ := hrt.2.2.2.1 hnil
        have hall := hrt.2.2.1
        have hml0 : ∀ j, rendML st'.items j = (its.normML j).flatten := by
          intro j; rw [hrt.1 j]; simp [rendML]
        have hcontains : containsNL (Cst.flatten (.set isRec rg its cg)) =
            containsNL ((if isRec then rg else []) ++ its.flatten ++ cg) := by
          cases isRec <;> simp [Cst.flatten, containsNL_append, containsNL_cons]
        rw [finishSeq_cf st' cg _ hbef]
        simp only [hnil, Bool.not_false, Bool.true_and, Cst.norm, Bool.false_eq_true, if_false, hcontains]
        by_cases hml : containsNL ((if isRec then rg else []) ++ its.flatten ++ cg) = true
        · simp only [hml, if_true]
          have hbody := fun tl => ml_body_text' (cg := cg) hne hall (hml0 (i + 2))
            (normML_solid its .set cg (i + 2) hwf.1.2 hcf hnil) i tl
          by_cases hb : gapHasEmptyLineOffsets cg = true
          · have hst'e : st'.items.isEmpty = false := by
              cases hx : st'.items with
              | nil => exact absurd hx hne
              | cons _ _ => rfl
            simp only [hb, if_true, hst'e, Bool.false_eq_true, if_false] at hbody ⊢
            cases hx : modifyLast (fun e => e.addAfter [Trivia.emptyLine]) st'.items with
            | nil => exact absurd hx (modifyLast_ne_nil _ hne)
            | cons y ys =>
              rw [hx] at hbody
              simp only [Expr.rebuildA,
                if_true, Bool.not_true, multilineBlock, formatTrivia, formatTriviaGo, applyTrailingTrivia, ite_self]
              simp only [List.nil_append, List.append_assoc]
              rw [hbody]
              cases isRec <;> simp [spacesIf, Cst.flatten, List.append_assoc]
          · have hb' : gapHasEmptyLineOffsets cg = false := by simpa using hb
            simp only [hb', Bool.false_eq_true, if_false] at hbody ⊢
            cases hx : st'.items with
            | nil => exact absurd hx hne
            | cons y ys =>
              rw [hx] at hbody
              simp only [Expr.rebuildA,
                if_true, Bool.not_true, multilineBlock, formatTrivia, formatTriviaGo, applyTrailingTrivia, ite_self]
              simp only [List.nil_append, List.append_assoc]
              rw [hbody]
              cases isRec <;> simp [spacesIf, Cst.flatten, List.append_assoc]
        · have hml' : containsNL ((if isRec then rg else []) ++ its.flatten ++ cg) = false := by simpa using hml
          have hcg : containsNL cg = false := (noNL_append.mp hml').2
          have hitsn : containsNL its.flatten = false := (noNL_append.mp (noNL_append.mp hml').1).2
          have hfl : rendFlat st'.items (i + 2) = (its.normFlat (i + 2)).flatten := by
            rw [hrt.2.1 hitsn (i + 2)]; simp [rendFlat]
          simp only [hml', Bool.false_eq_true, if_false, emptyLineOffsets_false hcg]
          cases hx : st'.items with
          | nil => exact absurd hx hne
          | cons y ys =>
            have hj := join_sp_eq (y :: ys) (i + 2) (by simp)
            rw [← hx, hfl] at hj
            rw [hx] at hj
            have hj' : ∀ X, ' ' :: (joinWith [' '] (rebuildAll (y :: ys) (i + 2) true) ++ X) =
                (its.normFlat (i + 2)).flatten ++ X := by
              intro X; rw [← hj]; rfl
            simp only [Bool.false_eq_true, if_false, Expr.rebuildA,
              addTrivia, formatTrivia, formatTriviaGo, applyTrailingTrivia, ite_self, List.nil_append]
            simp only [List.append_assoc, List.cons_append, List.nil_append, hj']
            cases inl <;> cases isRec <;> simp [spacesIf, Cst.flatten, List.append_assoc]
  | .paren (.elem g c .nil) cg, hwf, hcf => by
    simp only [Cst.wf, Items.wf, Bool.and_eq_true] at hwf
    simp only [Cst.cf, Items.cf, Bool.and_eq_true] at hcf
    obtain ⟨e, hpe, heb, hea, henb, hrt⟩ := cst_rt c hwf.1.1.1.2 hcf.1
    have hparse : (Cst.paren (.elem g c .nil) cg).parse =
        .ok (.paren e g cg (gapHasEmptyLineOffsets g) (gapHasEmptyLineOffsets cg) [] []) := by
      simp [Cst.parse, Items.parseSeq, hpe, pushGap, heb, setBefore_nil_of heb, finishSeq, Items.preElem,
        Items.postElem, Items.flatten, Items.firstGap]
    refine ⟨_, hparse, rfl, rfl, rfl, fun na i inl => ?_⟩
    simp only [Expr.rebuildA, ite_self, addTrivia, formatTrivia, formatTriviaGo, applyTrailingTrivia, List.nil_append, hrt,
      nlSep_eq, Cst.norm, Cst.flatten, Items.flatten, List.append_nil]
    cases hg : containsNL g <;> cases hcg : containsNL cg <;>
      simp [Layout.fromGap, hg, hcg, spacesIf, vgap, List.append_assoc]
  | .paren .nil cg, hwf, _ => by simp [Cst.wf, Items.countElems] at hwf
  | .paren (.cmt ..) cg, _, hcf => by simp [Cst.cf, Items.cf] at hcf
  | .paren (.bind ..) cg, hwf, _ => by simp [Cst.wf, Items.wf] at hwf
  | .paren (.elem g c (.cmt ..)) cg, _, hcf => by simp [Cst.cf, Items.cf] at hcf
  | .paren (.elem g c (.bind ..)) cg, hwf, _ => by simp [Cst.wf, Items.wf] at hwf
  | .paren (.elem g c (.elem ..)) cg, hwf, _ => by simp [Cst.wf, Items.countElems] at hwf
  | .app f cs g a, hwf, hcf => by
    simp only [Cst.wf, Bool.and_eq_true] at hwf
    simp only [Cst.cf, Bool.and_eq_true, List.isEmpty_iff] at hcf
    obtain ⟨⟨hfc, hcs⟩, hac⟩ := hcf
    subst hcs
    obtain ⟨fe, hpf, hfb, hfa, hfnb, hfrt⟩ := cst_rt f hwf.1.1.1 hfc
    obtain ⟨ae, hpa, hab, haa, hanb, hart⟩ := cst_rt a hwf.2 hac
    have hparse : (Cst.app f [] g a).parse = .ok (.app fe ae g [] [] []) := by
      simp only [Cst.parse, hpf, hpa, appFromCst, appSplit, appBeforeArg, flattenGC, List.flatMap_nil, List.nil_append,
        List.isEmpty_nil, if_true, hab, trimLeadingLayoutTrivia, List.dropWhile_nil, ite_self, setBefore_nil_of hab,
        List.map_nil]
    refine ⟨_, hparse, rfl, rfl, rfl, fun na i inl => ?_⟩
    simp only [Expr.rebuildA, ite_self, addTrivia, formatTrivia, formatTriviaGo, applyTrailingTrivia, List.nil_append, hfrt,
      hart, fnAfterStr, Cst.norm, Cst.flatten, flattenGC, List.flatMap_nil]
    rw [fromGap_eq]
    cases containsNL g <;> cases hb : gapHasEmptyLineOffsets g <;>
      simp [vgap, blankGap, hb, spacesIf, startsNonSpace_spaces, List.append_assoc]
  | .un op c g e, hwf, hcf => by
    simp only [Cst.wf, Bool.and_eq_true, List.isEmpty_iff] at hwf
    simp only [Cst.cf, Bool.and_eq_true, List.isEmpty_iff] at hcf
    obtain ⟨⟨⟨hop, hc⟩, _⟩, hew⟩ := hwf
    subst hc
    obtain ⟨ee, hpe, heb, hea, henb, hrt⟩ := cst_rt e hew hcf.1.2
    have hparse : (Cst.un op [] g e).parse = .ok (.un op ee g [] [] []) := by
      simp [Cst.parse, hpe, collectTrivia, collectGo]
    refine ⟨_, hparse, rfl, rfl, rfl, fun na i inl => ?_⟩
    have hop2 : (op == ['+', '+']) = false := by
      simp only [unOpOk, Bool.or_eq_true, beq_iff_eq] at hop
      rcases hop with h | h <;> subst h <;> rfl
    simp only [Expr.rebuildA, ite_self, addTrivia, formatTrivia, formatTriviaGo, applyTrailingTrivia, List.nil_append, hrt,
      unSep_cases, unLayout_nil, hop2, Bool.false_and, Bool.false_eq_true, if_false, Cst.norm, Cst.flatten, flattenGC,
      List.flatMap_nil, List.append_nil]
    rw [fromGap_eq]
    cases containsNL g <;> cases hb : gapHasEmptyLineOffsets g <;> simp [vgap, blankGap, hb, spacesIf, List.append_assoc]
  | .sel e c1 g1 gd attrs, hwf, hcf => by
    have hwf0 := hwf
    simp only [Cst.wf, Bool.and_eq_true, List.isEmpty_iff] at hwf
    simp only [Cst.cf, Bool.and_eq_true, List.isEmpty_iff] at hcf
    obtain ⟨hec, hc1⟩ := hcf
    subst hc1
    have hew : e.wf = true := hwf.1.1.1.1.1
    obtain ⟨ee, hpe, heb, hea, henb, hrt⟩ := cst_rt e hew hec
    have hparse : (Cst.sel e [] g1 gd attrs).parse = .ok (.sel ee attrs g1 [] [] []) := by
      simp [Cst.parse, hpe, collectTrivia, collectGo]
    refine ⟨_, hparse, rfl, rfl, rfl, fun na i inl => ?_⟩
    have hsol := norm_flatten_solid e i hew
    simp only [Expr.rebuildA, ite_self, addTrivia, formatTrivia, formatTriviaGo, applyTrailingTrivia, List.nil_append, hrt,
      spacesIf, if_true, selSep_nil _ _ _ hsol.2, Cst.norm, Cst.flatten, flattenGC, List.flatMap_nil, List.append_nil]
    rw [fromGap_eq]
    cases containsNL g1 <;> cases hb : gapHasEmptyLineOffsets g1 <;>
      simp [vgap, blankGap, hb, List.append_assoc]
  | .selOr e c1 g1 gd attrs c2 g2 g3 d, hwf, hcf => by
    simp only [Cst.wf, Bool.and_eq_true, List.isEmpty_iff] at hwf
    simp only [Cst.cf, Bool.and_eq_true, List.isEmpty_iff] at hcf
    obtain ⟨⟨⟨hec, hc1⟩, hc2⟩, hdc⟩ := hcf
    subst hc1; subst hc2
    have hew : e.wf = true := hwf.1.1.1.1.1.1.1.1.1
    obtain ⟨ee, hpe, heb, hea, henb, hrt⟩ := cst_rt e hew hec
    obtain ⟨de, hpd, hdb, hda, hdnb, hdrt⟩ := cst_rt d hwf.2 hdc
    have hparse : (Cst.selOr e [] g1 gd attrs [] g2 g3 d).parse = .ok (.selOr ee attrs g1 [] de g2 [] [] []) := by
      simp [Cst.parse, hpe, hpd, collectTrivia, collectGo]
    refine ⟨_, hparse, rfl, rfl, rfl, fun na i inl => ?_⟩
    have hsol := norm_flatten_solid e i hew
    simp only [Expr.rebuildA, ite_self, addTrivia, formatTrivia, formatTriviaGo, applyTrailingTrivia, List.nil_append, hrt, hdrt,
      spacesIf, if_true, selSep_nil _ _ _ hsol.2, selOrSep_nil, selOrIndent, Cst.norm, Cst.flatten, flattenGC,
      List.flatMap_nil, List.append_nil]
    cases hg : containsNL g1 <;> cases hg2 : containsNL g2 <;>
      simp only [Layout.fromGap, hg, hg2, Bool.not_true, Bool.not_false, Bool.false_eq_true, if_false, if_true,
        Option.getD_some, gapHasEmptyLine_eq_offsets] <;>
      (try cases hb : gapHasEmptyLineOffsets g1) <;> (try cases hb2 : gapHasEmptyLineOffsets g2) <;>
      simp [vgap, blankGap, *, List.append_assoc]
  | .lam n c1 g1 c2 g2 b, hwf, hcf => by
    simp only [Cst.wf, Bool.and_eq_true, List.isEmpty_iff] at hwf
    simp only [Cst.cf, Bool.and_eq_true, List.isEmpty_iff] at hcf
    obtain ⟨⟨hc1, hc2⟩, hbc⟩ := hcf
    subst hc1; subst hc2
    obtain ⟨be, hpb, hbb, hba, hbnb, hbrt⟩ := cst_rt b hwf.2 hbc
    have hparse : (Cst.lam n [] g1 [] g2 b).parse = .ok (lamFromCst n [] g1 g2 be) := by
      simp [Cst.parse, hpb]
    refine ⟨_, hparse, rfl, rfl, rfl, fun na i inl => ?_⟩
    have hpre : lamColonPrefix [] g1 i = (if containsNL g1 = true then vgap g1 (indentFromGap g1) else []) := by
      rw [lamColonPrefix_nil, fromGap_eq]
      cases containsNL g1 <;> cases hb : gapHasEmptyLineOffsets g1 <;> simp [vgap, blankGap, hb]
    have hct : collectTrivia [] g1 = [] := by simp [collectTrivia, collectGo]
    unfold lamFromCst
    rw [hct]
    simp only [Expr.rebuildA, ite_self, addTrivia, formatTrivia, formatTriviaGo, applyTrailingTrivia, List.nil_append,
      hpre, Cst.norm, Cst.flatten, flattenGC, List.flatMap_nil, List.append_nil]
    cases hn : g2.count '\n' with
    | zero =>
      simp [lamBreak, hbrt, spacesIf, List.append_assoc]
    | succ m =>
      cases m with
      | zero =>
        simp [lamBreak, hbrt, spacesIf, List.append_assoc]
      | succ m' =>
        have hsb := rebuildA_setBefore hbb (emptyLines_layout (m' + 1)) false i false
        simp only [Nat.add_sub_cancel, List.isEmpty_replicate, hbb, List.append_nil, Nat.succ_ne_zero,
          decide_false, Bool.false_eq_true, if_false, Nat.zero_lt_succ, if_true, lamBreak,
          show ((1 : Nat) == 0) = false from rfl]
        rw [hsb, formatTrivia_emptyLines, hbrt]
        simp [spacesIf, List.replicate_succ, List.append_assoc]
  | .bin l c1 g1 op c2 g2 r, hwf, hcf => by
    simp only [Cst.wf, Bool.and_eq_true, List.isEmpty_iff] at hwf
    simp only [Cst.cf, Bool.and_eq_true, List.isEmpty_iff] at hcf
    obtain ⟨⟨⟨hlc, hc1⟩, hc2⟩, hrc⟩ := hcf
    subst hc1; subst hc2
    have hlw : l.wf = true := hwf.1.1.1.1.1.1.1
    have hrw : r.wf = true := hwf.2
    obtain ⟨le, hpl, hlb, hla, hlnb, hlrt⟩ := cst_rt l hlw hlc
    obtain ⟨re, hpr, hrb, hra, hrnb, hrrt⟩ := cst_rt r hrw hrc
    have hparse : (Cst.bin l [] g1 op [] g2 r).parse = .ok (.bin op le re (g1.count '\n') (g2.count '\n') [] []) := by
      simp [Cst.parse, hpl, hpr]
    refine ⟨_, hparse, rfl, rfl, rfl, fun na i inl => ?_⟩
    have hri : binRightIndent op re i = binRightIndentC op r i := by
      unfold binRightIndent binRightIndentC
      rw [parse_sameOpChain hrc hpr, parse_absorbable r hrw hrc re hpr, hrb]
      simp [hasLeadingComment]
    have hpad := ensureIndentPad_head (norm_head r (binRightIndentC op r i) hrw) (binRightIndentC op r i)
    simp only [Expr.rebuildA, ite_self, addTrivia, formatTrivia, formatTriviaGo, applyTrailingTrivia, List.nil_append, hlrt, hrrt,
      hri, hrb, List.isEmpty_nil, spacesIf, if_true, hpad, Cst.norm, Cst.flatten, flattenGC, List.flatMap_nil, List.append_nil]
    by_cases h1 : g1.count '\n' = 0 <;> by_cases h2 : g2.count '\n' = 0 <;>
      simp [binCore, h1, h2, List.append_assoc]
  | .ite c1 g1 c c2 g2 c3 g3 t c4 g4 c5 g5 e, hwf, hcf => by
    obtain ⟨⟨h1, h2, h3, h4, h5⟩, ⟨hcw, htw, hew⟩, _⟩ := ite_wf hwf
    subst h1; subst h2; subst h3; subst h4; subst h5
    simp only [Cst.cf, Bool.and_eq_true] at hcf
    obtain ⟨ce, hpc, hcb, hca, hcnb, hcrt⟩ := cst_rt c hcw hcf.1.1.1.1.1.1.1
    obtain ⟨te, hpt, htb, hta, htnb, htrt⟩ := cst_rt t htw hcf.1.1.1.1.1.1.2
    obtain ⟨ee, hpe, heb, hea, henb, hert⟩ := cst_rt e hew hcf.1.1.1.1.1.2
    have hparse : (Cst.ite [] g1 c [] g2 [] g3 t [] g4 [] g5 e).parse =
        .ok (.ite ce te ee g1 [] g1 [] g2 [] g3 [] g4 [] g5 [] []) := by
      simp only [Cst.parse, hpc, hpt, hpe, iteFromCst_nil]
    refine ⟨_, hparse, rfl, rfl, rfl, fun na i inl => ?_⟩
    simp only [Expr.rebuildA, ite_self, addTrivia, formatTrivia, formatTriviaGo, applyTrailingTrivia, List.nil_append, htb, heb,
      iteLayout_nil, branchSep_eq, iteCondPrefix_nil, iteKwPrefix_nil, formatInlineCommentSuffix, List.foldl_nil,
      sepText_eq_sepGap, Cst.norm, Cst.flatten, flattenGC, List.flatMap_nil, List.append_nil, List.append_assoc]
    rw [branch_text hcrt, branch_text htrt, branch_text_last hert]
    simp [spacesIf, kwIf, kwThen, kwElse]
  | .has e c1 g1 c2 g2 attrs, hwf, hcf => by
    obtain ⟨⟨h1, h2⟩, hew, _, _, _⟩ := has_wf hwf
    subst h1; subst h2
    simp only [Cst.cf, Bool.and_eq_true] at hcf
    obtain ⟨ee, hpe, heb, hea, henb, hrt⟩ := cst_rt e hew hcf.1.1
    have hparse : (Cst.has e [] g1 [] g2 attrs).parse = .ok (.has ee attrs g1 g2 [] [] [] []) := by
      simp [Cst.parse, hpe, collectTrivia, collectGo]
    refine ⟨_, hparse, rfl, rfl, rfl, fun na i inl => ?_⟩
    have hs1 := hasSep_nil g1 i
    have hs2 := hasSep_nil g2 i
    simp only [Expr.rebuildA, ite_self, addTrivia, formatTrivia, formatTriviaGo, applyTrailingTrivia, List.nil_append, hrt,
      spacesIf, if_true, Cst.norm, Cst.flatten, flattenGC, List.flatMap_nil, List.append_nil, List.append_assoc]
    rw [← List.append_assoc (formatInterstitialTriviaWithSeparator [] (unLayout [] g1) i (dropBlankIfItems := false)).1,
      hs1, ← List.append_assoc (formatInterstitialTriviaWithSeparator [] (unLayout [] g2) i (dropBlankIfItems := false)).1,
      hs2, sepText_eq_sepGap, sepText_eq_sepGap]
  | .kw false c1 g1 h c2 g2 c3 g3 b, _, hcf => by simp [Cst.cf] at hcf
  | .kw true c1 g1 h c2 g2 c3 g3 b, hwf, hcf => by
    simp only [Cst.wf, Bool.and_eq_true, List.isEmpty_iff] at hwf
    simp only [Cst.cf, Bool.and_eq_true] at hcf
    obtain ⟨⟨⟨⟨⟨⟨⟨hc1, _⟩, hhw⟩, hc2⟩, _⟩, hc3⟩, _⟩, hbw⟩ := hwf
    subst hc1; subst hc2; subst hc3
    obtain ⟨⟨⟨⟨_, hhc⟩, _⟩, _⟩, hbc⟩ := hcf
    obtain ⟨he, hph, hhb, hha, hhnb, hhrt⟩ := cst_rt h hhw hhc
    obtain ⟨be, hpb, hbb, hba, hbnb, hbrt⟩ := cst_rt b hbw hbc
    have hparse : (Cst.kw true [] g1 h [] g2 [] g3 b).parse =
        .ok (.wth he (if (appendGapTrivia [] (g2 ++ ';' :: g3)).isEmpty then be
          else be.setBefore (appendGapTrivia [] (g2 ++ ';' :: g3) ++ be.before)) [] g1 [] [] []) := by
      simp only [Cst.parse, hph, hpb, if_true, withFromCst_shape]
    refine ⟨_, hparse, rfl, rfl, rfl, fun na i inl => ?_⟩
    have habs : be.absorbable = b.absorbableC := parse_absorbable b hbw hbc be hpb
    have habs' : (if (appendGapTrivia [] (g2 ++ ';' :: g3)).isEmpty then be
          else be.setBefore (appendGapTrivia [] (g2 ++ ';' :: g3) ++ be.before)).absorbable = be.absorbable := by
      split
      · rfl
      · exact absorbable_setBefore' _ _
    have hlay := withLayout_nil g1
    have hbody := withBody_text hbb (g2 ++ ';' :: g3) (b.norm i).flatten i (fun inl' => hbrt false i inl')
    rw [habs] at hbody
    have hsep := withSep_cases g1 i
    rw [hlay] at hsep
    simp only [Expr.rebuildA, ite_self, addTrivia, formatTrivia, formatTriviaGo, applyTrailingTrivia, List.nil_append, habs',
      habs, hbody, hlay, hsep, hhrt, Cst.norm, Cst.flatten, flattenGC, List.flatMap_nil, List.append_nil, kwText,
      if_true, kwWith]
    have hsuf : formatInlineCommentSuffix [] = [] := rfl
    rw [hsuf]
    rw [fromGap_eq]
    cases containsNL g1 <;> cases hb : gapHasEmptyLineOffsets g1 <;>
      simp [vgap, blankGap, hb, spacesIf, List.append_assoc]
theorem items_rt : (its : Items) → ∀ (m : Mode) (cg : Text) (st st' : SeqSt), its.wf m cg = true → its.cf = true →
    its.parseSeq m st = .ok st' → (m = .list ∨ m = .set) → InvS st its →
    (∀ j, rendML st'.items j = rendML st.items j ++ (its.normML j).flatten) ∧
    (containsNL its.flatten = false → ∀ j, rendFlat st'.items j = rendFlat st.items j ++ (its.normFlat j).flatten) ∧
    AllAfterNil st'.items ∧
    (its.isNil = false → st'.before = [] ∧ st'.items ≠ []) ∧ (its.isNil = true → st' = st)
  | .nil, m, cg, st, st', _, _, hp, _, h => by
    simp only [Items.parseSeq] at hp; injection hp with hp; subst hp
    refine ⟨fun j => by simp [Items.normML, Items.flatten], fun _ j => by simp [Items.normFlat, Items.flatten], h.1,
      ?_, fun _ => rfl⟩
    intro e; simp [Items.isNil] at e
  | .cmt g t rest, m, cg, st, st', _, hcf, _, _, _ => by simp [Items.cf] at hcf
  | .elem g c rest, m, cg, st, st', hwf, hcf, hp, hm, h => by
    simp only [Items.wf, Bool.and_eq_true] at hwf
    simp only [Items.cf, Bool.and_eq_true] at hcf
    obtain ⟨e, hpe, heb, hea, henb, hrt⟩ := cst_rt c hwf.1.2 hcf.1
    simp only [Items.parseSeq, hpe] at hp
    have hpt := fun j => pushGap_text h rfl j
    have hnew : InvS { items := st.items ++ [e.setBefore (pushGap st g)], before := [], prev := .item } rest :=
      ⟨allAfterNil_append h.1 (fun x hx => by
        simp only [List.mem_singleton] at hx; subst hx
        rw [effAfter_setBefore, notAsrt_setBefore]
        exact ⟨effAfter_of_parsed henb hea, cf_parse_notAsrt hcf.1 hpe⟩), Or.inr ⟨rfl, rfl⟩⟩
    cases m with
    | file => rcases hm with h | h <;> cases h
    | paren => rcases hm with h | h <;> cases h
    | set => cases hp
    | list =>
      simp only at hp
      obtain ⟨ih1, ih2, ih3, ih4, ih5⟩ := items_rt rest .list cg _ st' hwf.2 hcf.2 hp (by decide) hnew
      refine ⟨fun j => ?_, fun hn j => ?_, ih3, fun _ => after_item ih4 ih5 rfl (by simp),
        fun e => by simp [Items.isNil] at e⟩
      · rw [ih1 j, rendML_append, rendML_single, rebuildA_setBefore heb (hpt j).2, (hpt j).1, hrt]
        simp [Items.normML, Items.flatten, vgap, spacesIf, List.append_assoc]
      · simp only [Items.flatten, noNL_append] at hn
        obtain ⟨⟨hg, _⟩, hr⟩ := hn
        rw [ih2 hr j, rendFlat_append, rendFlat_single, rebuildA_setBefore heb (hpt j).2, (hpt j).1, hrt,
          blankGap_noNL hg]
        simp [Items.normFlat, Items.flatten, spacesIf, List.append_assoc]
  | .bind g n c1 g1 c2 g2 v c3 g3 rest, m, cg, st, st', hwf, hcf, hp, hm, h => by
    simp only [Items.wf, Bool.and_eq_true, beq_iff_eq] at hwf
    obtain ⟨⟨⟨⟨⟨⟨⟨⟨⟨⟨hmm, _⟩, hn⟩, _⟩, _⟩, _⟩, _⟩, hv⟩, _⟩, _⟩, hrest⟩ := hwf
    subst hmm
    simp only [Items.cf, Bool.and_eq_true, List.isEmpty_iff] at hcf
    obtain ⟨⟨⟨⟨hc1, hc2⟩, hc3⟩, hvcf⟩, hrcf⟩ := hcf
    subst hc1; subst hc2; subst hc3
    obtain ⟨ve, hpv, hvb, hva, hvnb, hvrt⟩ := cst_rt v hv hvcf
    simp only [Items.parseSeq, hpv] at hp
    have hpt := fun j => pushGap_text h rfl j
    cases hb : bindingFromCst n [] [] g2 ve [] (pushGap st g) with
    | error err => rw [hb] at hp; cases hp
    | ok b =>
      rw [hb] at hp; simp only at hp
      have hbt := fun j inl => binding_text hn hb hvb hva hvnb hv hvrt j inl
      have hnew : InvS { items := st.items ++ [b], before := [], prev := .item } rest :=
        ⟨allAfterNil_append h.1 (fun x hx => by
          simp only [List.mem_singleton] at hx; subst hx; exact (hbt 0 false).2), Or.inr ⟨rfl, rfl⟩⟩
      obtain ⟨ih1, ih2, ih3, ih4, ih5⟩ := items_rt rest .set cg _ st' hrest hrcf hp (by decide) hnew
      refine ⟨fun j => ?_, fun hnl j => ?_, ih3, fun _ => after_item ih4 ih5 rfl (by simp),
        fun e => by simp [Items.isNil] at e⟩
      · rw [ih1 j, rendML_append, rendML_single, (hbt j false).1, (hpt j).1]
        simp only [Items.normML, valueNorm]
        split <;> simp [Items.flatten, flattenGC, vgap, spacesIf, List.append_assoc]
      · simp only [Items.flatten, noNL_append, noNL_cons] at hnl
        obtain ⟨⟨⟨⟨⟨⟨⟨⟨⟨hg, _⟩, _⟩, _⟩, _⟩, hg2⟩, _⟩, _⟩, _⟩, _, hr⟩ := hnl
        rw [ih2 hr j, rendFlat_append, rendFlat_single, (hbt j true).1, (hpt j).1, blankGap_noNL hg]
        simp [Items.normFlat, valueNorm, hg2, Items.flatten, flattenGC, spacesIf, List.append_assoc]
end

def File.cf (f : File) : Bool := f.items.cf

theorem file_shape (f : File) (hwf : f.wf = true) (hcf : f.cf = true) :
    ∃ g c, f.items = .elem g c .nil ∧ c.wf = true ∧ c.cf = true := by
  simp only [File.wf, Bool.and_eq_true, decide_eq_true_eq] at hwf
  simp only [File.cf] at hcf
  obtain ⟨⟨hw, hcount⟩, _⟩ := hwf
  cases hi : f.items with
  | nil => rw [hi] at hcount; simp [Items.countElems] at hcount
  | cmt _ _ _ => rw [hi] at hcf; simp [Items.cf] at hcf
  | bind _ _ _ _ _ _ _ _ _ _ => rw [hi] at hw; simp [Items.wf] at hw
  | elem g c rest =>
    rw [hi] at hw hcf hcount
    simp only [Items.wf, Bool.and_eq_true] at hw
    simp only [Items.cf, Bool.and_eq_true] at hcf
    simp only [Items.countElems] at hcount
    cases rest with
    | nil => exact ⟨g, c, rfl, hw.1.2, hcf.1⟩
    | cmt _ _ _ => simp [Items.cf] at hcf
    | bind _ _ _ _ _ _ _ _ _ _ => simp [Items.wf] at hw
    | elem g' c' r' => simp [Items.countElems] at hcount

/-- THE ROUND TRIP OF A COMMENT-FREE FILE IS THE TREE NORMALISER -/
theorem file_rt (f : File) (hwf : f.wf = true) (hcf : f.cf = true) : f.roundtrip = .ok f.norm.flatten := by
  obtain ⟨g, c, hi, hcw, hcc⟩ := file_shape f hwf hcf
  obtain ⟨e, hpe, heb, hea, _, hrt⟩ := cst_rt c hcw hcc
  have hsol := norm_flatten_solid c 0 hcw
  have hpg : pushGap ({} : SeqSt) g = [] := by simp [pushGap]
  have hparse : f.parse = .ok { exprs := [e], trailing := appendGapTriviaOff [] f.endGap } := by
    simp only [File.parse, hi, Items.parseSeq, hpe, hpg, heb, List.append_nil, setBefore_nil_of heb]
    simp [finishSeq]
  have hreb : (rebuildAll [e] 0 false).flatten = (c.norm 0).flatten := by
    simp [rebuildAll, hrt, spacesIf]
  simp only [File.roundtrip, hparse, File.norm, hi, File.flatten, Items.flatten, List.nil_append, List.append_nil]
  congr 1
  unfold Src.rebuild
  simp only [hreb]
  have hne : ((c.norm 0).flatten).isEmpty = false := by
    cases hx : (c.norm 0).flatten with
    | nil => exact absurd hx hsol.1
    | cons _ _ => rfl
  rcases trailing_cases f.endGap with h | h | h
  · have hnl : containsNL f.endGap = false := by
      cases hc : containsNL f.endGap with
      | false => rfl
      | true => unfold appendGapTriviaOff at h; simp [hc] at h; split at h <;> simp at h
    simp [h, hnl]
  · have hnl : containsNL f.endGap = true := appendGap_ne_nil_NL (by rw [h]; simp)
    have hbl : gapHasEmptyLineOffsets f.endGap = true := by
      unfold appendGapTriviaOff at h; simp only [hnl, Bool.not_true, Bool.false_eq_true, if_false] at h
      split at h
      · assumption
      · simp at h
    simp [h, hnl, hbl, formatTrivia, formatTriviaGo, trimTrailingLayoutNewline, Trivia.isLayout, hne]
  · have hnl : containsNL f.endGap = true := appendGap_ne_nil_NL (by rw [h]; simp)
    have hbl : gapHasEmptyLineOffsets f.endGap = false := by
      unfold appendGapTriviaOff at h; simp only [hnl, Bool.not_true, Bool.false_eq_true, if_false] at h
      split at h
      · simp at h
      · rename_i hh; simpa using hh
    simp [h, hnl, hbl, formatTrivia, formatTriviaGo, trimTrailingLayoutNewline, Trivia.isLayout, hsol.2]

/-! ### the normaliser is idempotent -/

theorem offsets_nlnl_spaces (k : Nat) : gapHasEmptyLineOffsets ('\n' :: '\n' :: spaces k) = true := by
  rw [gapHasEmptyLineOffsets_eq_re, ← gapHasEmptyLine_eq_re]; exact gapHasEmptyLine_nlnl_spaces k
theorem offsets_nl_spaces (k : Nat) : gapHasEmptyLineOffsets ('\n' :: spaces k) = false := by
  rw [gapHasEmptyLineOffsets_eq_re, ← gapHasEmptyLine_eq_re]; exact gapHasEmptyLine_nl_spaces k

theorem blank_vgap (g : Text) (k : Nat) : gapHasEmptyLineOffsets (vgap g k) = gapHasEmptyLineOffsets g := by
  unfold vgap blankGap
  cases h : gapHasEmptyLineOffsets g with
  | true => simp only [if_true]; exact offsets_nlnl_spaces k
  | false => simp only [Bool.false_eq_true, if_false]; exact offsets_nl_spaces k

theorem vgap_vgap (g : Text) (k k' : Nat) : vgap (vgap g k) k' = vgap g k' := by
  unfold vgap blankGap; rw [show ('\n' :: (if gapHasEmptyLineOffsets g = true then ['\n'] else []) ++ spaces k) = vgap g k from rfl,
    blank_vgap]

theorem containsNL_vgap (g : Text) (k : Nat) : containsNL (vgap g k) = true := by
  simp [vgap, containsNL]

theorem indentFromGap_vgap (g : Text) (k : Nat) : indentFromGap (vgap g k) = k := by
  unfold vgap blankGap
  split
  · exact indentFromGap_nlnl_spaces k
  · exact indentFromGap_nl_spaces k

theorem isGap_vgap (g : Text) (k : Nat) : isGap (vgap g k) = true := by
  unfold vgap blankGap isGap
  have hs : (spaces k).all isWsChar = true := by
    apply List.all_eq_true.mpr; intro c hc; rw [mem_spaces hc]; rfl
  split <;> simp [isWsChar, hs]

theorem isNil_normML : ∀ (its : Items) (j : Nat), its.cf = true → (its.normML j).isNil = its.isNil
  | .nil, _, _ => rfl
  | .cmt .., _, h => by simp [Items.cf] at h
  | .elem .., _, _ => rfl
  | .bind g n c1 g1 c2 g2 v c3 g3 rest, j, _ => by simp only [Items.normML]; split <;> rfl

theorem isNil_normFlat : ∀ (its : Items) (j : Nat), its.cf = true → (its.normFlat j).isNil = its.isNil
  | .nil, _, _ => rfl
  | .cmt .., _, h => by simp [Items.cf] at h
  | .elem .., _, _ => rfl
  | .bind .., _, _ => rfl

theorem containsNL_cons_ne {c : Char} (hc : c ≠ '\n') (s : Text) : containsNL (c :: s) = containsNL s := by
  rw [containsNL_cons]; simp [hc]

theorem containsNL_sepGap (g : Text) : containsNL (sepGap g) = containsNL g := by
  unfold sepGap
  cases hg : containsNL g with
  | false => rfl
  | true => simp only [if_true]; exact containsNL_vgap _ _

theorem sepGap_sepGap (g : Text) : sepGap (sepGap g) = sepGap g := by
  unfold sepGap
  cases hg : containsNL g with
  | false => rfl
  | true => simp only [if_true, containsNL_vgap, vgap_vgap, indentFromGap_vgap]

theorem sepIndent_sepGap (g : Text) (i : Nat) : sepIndent (sepGap g) i = sepIndent g i := by
  unfold sepIndent
  rw [containsNL_sepGap]
  unfold sepGap
  cases hg : containsNL g with
  | false => rfl
  | true => simp only [if_true, indentFromGap_vgap]

theorem isGap_sepGap (g : Text) : isGap (sepGap g) = true := by
  unfold sepGap
  split
  · exact isGap_vgap _ _
  · rfl

/-! ### a tree on one line stays on one line -/

/- In each case the hypothesis is split into one fact per piece of `c.flatten`; the pieces of
   `(c.norm i).flatten` are pieces of `c`, fixed separators, or normalised subtrees. -/
mutual
theorem norm_noNL : (c : Cst) → c.cf = true → containsNL c.flatten = false → ∀ (i : Nat),
    containsNL (c.norm i).flatten = false
  | .leaf _ _, _ => fun h _ => h
  | .list its cg, hcf => fun h i => by
    simp only [Cst.cf] at hcf
    simp only [Cst.flatten, List.cons_append, noNL_append, noNL_cons] at h
    simp only [Cst.norm, noNL_append.mpr h.2.1, emptyLineOffsets_false h.2.1.2, Bool.false_eq_true, if_false]
    split
    · decide
    · simp [Cst.flatten, noNL_append, noNL_cons, items_noNL its hcf h.2.1.1]
  | .set r rg its cg, hcf => fun h i => by
    simp only [Cst.cf] at hcf
    have ⟨hrg, hits, hcg⟩ : containsNL (if r = true then rg else []) = false ∧ containsNL its.flatten = false ∧
        containsNL cg = false := by
      cases r <;> simpa [Cst.flatten, noNL_append, noNL_cons] using h
    simp only [Cst.norm, noNL_append.mpr ⟨noNL_append.mpr ⟨hrg, hits⟩, hcg⟩, emptyLineOffsets_false hcg,
      Bool.false_eq_true, if_false]
    split
    · cases r <;> decide
    · cases r <;> simp [Cst.flatten, noNL_append, noNL_cons, items_noNL its hcf hits]
  | .paren (.elem g c .nil) cg, hcf => fun h i => by
    simp only [Cst.cf, Items.cf, Bool.and_eq_true] at hcf
    simp only [Cst.flatten, Items.flatten, noNL_append, noNL_cons] at h
    simp [Cst.norm, h, Cst.flatten, Items.flatten, noNL_append, noNL_cons, norm_noNL c hcf.1]
  | .paren .nil cg, _ => fun h _ => by simpa only [Cst.norm] using h
  | .paren (.cmt ..) cg, _ => fun h _ => by simpa only [Cst.norm] using h
  | .paren (.bind ..) cg, _ => fun h _ => by simpa only [Cst.norm] using h
  | .paren (.elem g c (.cmt ..)) cg, _ => fun h _ => by simpa only [Cst.norm] using h
  | .paren (.elem g c (.bind ..)) cg, _ => fun h _ => by simpa only [Cst.norm] using h
  | .paren (.elem g c (.elem ..)) cg, _ => fun h _ => by simpa only [Cst.norm] using h
  | .app f cs g a, hcf => fun h i => by
    simp only [Cst.cf, Bool.and_eq_true, List.isEmpty_iff] at hcf
    obtain ⟨⟨hfc, rfl⟩, hac⟩ := hcf
    simp only [Cst.flatten, flattenGC, noNL_append] at h
    simp [Cst.norm, h, Cst.flatten, flattenGC, noNL_append, noNL_cons, norm_noNL f hfc, norm_noNL a hac]
  | .un op c g e, hcf => fun h i => by
    simp only [Cst.cf, Bool.and_eq_true, List.isEmpty_iff] at hcf
    obtain ⟨⟨rfl, hec⟩, _⟩ := hcf
    simp only [Cst.flatten, flattenGC, noNL_append] at h
    simp [Cst.norm, h, Cst.flatten, flattenGC, noNL_append, norm_noNL e hec]
  | .sel e c1 g1 gd attrs, hcf => fun h i => by
    simp only [Cst.cf, Bool.and_eq_true, List.isEmpty_iff] at hcf
    obtain ⟨hec, rfl⟩ := hcf
    simp only [Cst.flatten, flattenGC, noNL_append, noNL_cons] at h
    simp [Cst.norm, h, Cst.flatten, flattenGC, noNL_append, noNL_cons, norm_noNL e hec]
  | .selOr e c1 g1 gd attrs c2 g2 g3 d, hcf => fun h i => by
    simp only [Cst.cf, Bool.and_eq_true, List.isEmpty_iff] at hcf
    obtain ⟨⟨⟨hec, rfl⟩, rfl⟩, hdc⟩ := hcf
    simp only [Cst.flatten, flattenGC, noNL_append, noNL_cons] at h
    simp [Cst.norm, h, Cst.flatten, flattenGC, noNL_append, noNL_cons, norm_noNL e hec, norm_noNL d hdc]
  | .lam n c1 g1 c2 g2 b, hcf => fun h i => by
    simp only [Cst.cf, Bool.and_eq_true, List.isEmpty_iff] at hcf
    obtain ⟨⟨rfl, rfl⟩, hbc⟩ := hcf
    simp only [Cst.flatten, flattenGC, noNL_append, noNL_cons] at h
    simp [Cst.norm, h, count_nl_of_noNL, Cst.flatten, flattenGC, noNL_append, noNL_cons, norm_noNL b hbc]
  | .bin l c1 g1 op c2 g2 r, hcf => fun h i => by
    simp only [Cst.cf, Bool.and_eq_true, List.isEmpty_iff] at hcf
    obtain ⟨⟨⟨hlc, rfl⟩, rfl⟩, hrc⟩ := hcf
    simp only [Cst.flatten, flattenGC, noNL_append] at h
    simp [Cst.norm, h, count_nl_of_noNL, Cst.flatten, flattenGC, noNL_append, noNL_cons, norm_noNL l hlc, norm_noNL r hrc]
  | .kw false c1 g1 h c2 g2 c3 g3 b, hcf => fun _ _ => by simp [Cst.cf] at hcf
  | .kw true c1 g1 h c2 g2 c3 g3 b, hcf => fun hfl i => by
    simp only [Cst.cf, Bool.and_eq_true, List.isEmpty_iff] at hcf
    obtain ⟨⟨⟨⟨⟨_, rfl⟩, hhc⟩, rfl⟩, rfl⟩, hbc⟩ := hcf
    simp only [Cst.flatten, flattenGC, kwText, noNL_append, noNL_cons] at hfl
    have hsemi : containsNL (g2 ++ ';' :: g3) = false := by simp [noNL_append, noNL_cons, hfl]
    simp [Cst.norm, hfl, hsemi, gapHasEmptyLine_of_noNL hsemi, Cst.flatten, flattenGC, kwText, noNL_append, noNL_cons,
      norm_noNL h hhc, norm_noNL b hbc]
  | .ite c1 g1 c c2 g2 c3 g3 t c4 g4 c5 g5 e, hcf => fun h i => by
    simp only [Cst.cf, Bool.and_eq_true, List.isEmpty_iff] at hcf
    obtain ⟨⟨⟨⟨⟨⟨⟨hcc, htc⟩, hec⟩, rfl⟩, rfl⟩, rfl⟩, rfl⟩, rfl⟩ := hcf
    simp only [Cst.flatten, flattenGC, noNL_append, noNL_cons] at h
    simp [Cst.norm, sepGap_noNL, sepIndent_noNL, h, Cst.flatten, flattenGC, noNL_append, noNL_cons,
      norm_noNL c hcc, norm_noNL t htc, norm_noNL e hec]
  | .has e c1 g1 c2 g2 attrs, hcf => fun h i => by
    simp only [Cst.cf, Bool.and_eq_true, List.isEmpty_iff] at hcf
    obtain ⟨⟨hec, rfl⟩, rfl⟩ := hcf
    simp only [Cst.flatten, flattenGC, noNL_append, noNL_cons] at h
    simp [Cst.norm, sepGap_noNL, h, Cst.flatten, flattenGC, noNL_append, noNL_cons, norm_noNL e hec]
theorem items_noNL : (its : Items) → its.cf = true → containsNL its.flatten = false → ∀ (j : Nat),
    containsNL (its.normFlat j).flatten = false
  | .nil, _ => fun _ _ => rfl
  | .cmt .., h => fun _ _ => by simp [Items.cf] at h
  | .elem g c rest, hcf => fun h j => by
    simp only [Items.cf, Bool.and_eq_true] at hcf
    simp only [Items.flatten, noNL_append] at h
    simp [Items.normFlat, Items.flatten, noNL_append, noNL_cons, h, norm_noNL c hcf.1, items_noNL rest hcf.2]
  | .bind g n c1 g1 c2 g2 v c3 g3 rest, hcf => fun h j => by
    simp only [Items.cf, Bool.and_eq_true] at hcf
    simp only [Items.flatten, noNL_append, noNL_cons] at h
    simp [Items.normFlat, Items.flatten, flattenGC, noNL_append, noNL_cons, h, norm_noNL v hcf.1.2,
      items_noNL rest hcf.2]
end

theorem containsNL_append_vgap (a g : Text) (k : Nat) : containsNL (a ++ vgap g k) = true := by
  rw [containsNL_append, containsNL_vgap]; simp

theorem offsets_space : gapHasEmptyLineOffsets [' '] = false := by decide

mutual
theorem norm_idem : (c : Cst) → c.cf = true → ∀ (i : Nat), (c.norm i).norm i = c.norm i
  | .leaf _ _, _, _ => rfl
  | .list its cg, hcf, i => by
    simp only [Cst.cf] at hcf
    simp only [Cst.norm]
    cases hnil : its.isNil with
    | true =>
      simp only [if_true]
      by_cases hb : gapHasEmptyLineOffsets cg = true
      · simp [hb, Cst.norm, Items.isNil, blank_vgap, vgap_vgap]
      · have hb' : gapHasEmptyLineOffsets cg = false := by simpa using hb
        simp [hb', Cst.norm, Items.isNil, offsets_space]
    | false =>
      simp only [Bool.false_eq_true, if_false]
      by_cases hml : containsNL (its.flatten ++ cg) = true
      · simp only [hml, if_true, Cst.norm, isNil_normML its (i + 2) hcf, hnil, Bool.false_eq_true, if_false,
          containsNL_append_vgap, normML_idem its hcf (i + 2), vgap_vgap]
      · have hml' : containsNL (its.flatten ++ cg) = false := by simpa using hml
        have hits := (noNL_append.mp hml').1
        have hno : containsNL ((its.normFlat i).flatten ++ [' ']) = false := by
          rw [containsNL_append, items_noNL its hcf hits i]; rfl
        simp only [hml', Bool.false_eq_true, if_false, Cst.norm, isNil_normFlat its i hcf, hnil, hno,
          normFlat_idem its hcf hits i]
  | .set r rg its cg, hcf, i => by
    simp only [Cst.cf] at hcf
    simp only [Cst.norm]
    cases hnil : its.isNil with
    | true =>
      simp only [if_true]
      by_cases hb : gapHasEmptyLineOffsets cg = true
      · cases r <;> simp [hb, Cst.norm, Items.isNil, blank_vgap, vgap_vgap]
      · have hb' : gapHasEmptyLineOffsets cg = false := by simpa using hb
        cases r <;> simp [hb', Cst.norm, Items.isNil, offsets_space]
    | false =>
      simp only [Bool.false_eq_true, if_false]
      by_cases hml : containsNL ((if r then rg else []) ++ its.flatten ++ cg) = true
      · simp only [hml, if_true, Cst.norm, isNil_normML its (i + 2) hcf, hnil, Bool.false_eq_true, if_false,
          containsNL_append_vgap, normML_idem its hcf (i + 2), vgap_vgap]
      · have hml' : containsNL ((if r then rg else []) ++ its.flatten ++ cg) = false := by simpa using hml
        have hits := (noNL_append.mp (noNL_append.mp hml').1).2
        have hno : containsNL ((if r = true then (if r = true then [' '] else []) else []) ++
            (its.normFlat (i + 2)).flatten ++ [' ']) = false := by
          rw [containsNL_append, containsNL_append, items_noNL its hcf hits (i + 2)]
          cases r <;> rfl
        simp only [hml', Bool.false_eq_true, if_false, Cst.norm, isNil_normFlat its (i + 2) hcf, hnil, hno,
          normFlat_idem its hcf hits (i + 2)]
  | .paren (.elem g c .nil) cg, hcf, i => by
    simp only [Cst.cf, Items.cf, Bool.and_eq_true] at hcf
    have hcg : (if containsNL (if containsNL cg = true then vgap cg i else []) = true
        then vgap (if containsNL cg = true then vgap cg i else []) i else []) =
        (if containsNL cg = true then vgap cg i else []) := by
      split
      · simp [containsNL_vgap, vgap_vgap]
      · rfl
    cases hg : containsNL g with
    | true =>
      simp only [Cst.norm, hg, if_true, containsNL_vgap, indentFromGap_vgap, vgap_vgap, norm_idem c hcf.1 _, hcg]
    | false =>
      simp only [Cst.norm, hg, Bool.false_eq_true, if_false, show containsNL ([] : Text) = false from rfl,
        norm_idem c hcf.1 _, hcg]
  | .paren .nil cg, _, _ => by simp only [Cst.norm]
  | .paren (.cmt ..) cg, _, _ => by simp only [Cst.norm]
  | .paren (.bind ..) cg, _, _ => by simp only [Cst.norm]
  | .paren (.elem g c (.cmt ..)) cg, _, _ => by simp only [Cst.norm]
  | .paren (.elem g c (.bind ..)) cg, _, _ => by simp only [Cst.norm]
  | .paren (.elem g c (.elem ..)) cg, _, _ => by simp only [Cst.norm]
  | .app f cs g a, hcf, i => by
    simp only [Cst.cf, Bool.and_eq_true, List.isEmpty_iff] at hcf
    obtain ⟨⟨hfc, hcs⟩, hac⟩ := hcf
    cases hg : containsNL g with
    | true =>
      simp only [Cst.norm, hg, if_true, containsNL_vgap, indentFromGap_vgap, vgap_vgap, norm_idem f hfc _,
        norm_idem a hac _]
    | false =>
      simp only [Cst.norm, hg, Bool.false_eq_true, if_false, show containsNL [' '] = false from rfl,
        norm_idem f hfc _, norm_idem a hac _]
  | .un op c g e, hcf, i => by
    simp only [Cst.cf, Bool.and_eq_true] at hcf
    simp only [Cst.norm]
    by_cases hg : containsNL g = true
    · simp only [hg, if_true, containsNL_vgap, vgap_vgap, indentFromGap_vgap, norm_idem e hcf.1.2 (indentFromGap g)]
    · have hg' : containsNL g = false := by simpa using hg
      simp only [hg', Bool.false_eq_true, if_false, show containsNL ([] : Text) = false from rfl, norm_idem e hcf.1.2 i]
  | .sel e c1 g1 gd attrs, hcf, i => by
    simp only [Cst.cf, Bool.and_eq_true] at hcf
    simp only [Cst.norm]
    by_cases hg : containsNL g1 = true
    · simp only [hg, if_true, containsNL_vgap, vgap_vgap, indentFromGap_vgap, norm_idem e hcf.1 i]
    · have hg' : containsNL g1 = false := by simpa using hg
      simp only [hg', Bool.false_eq_true, if_false, show containsNL ([] : Text) = false from rfl, norm_idem e hcf.1 i]
  | .selOr e c1 g1 gd attrs c2 g2 g3 d, hcf, i => by
    simp only [Cst.cf, Bool.and_eq_true] at hcf
    simp only [Cst.norm]
    by_cases hg : containsNL g1 = true <;> by_cases hg2 : containsNL g2 = true <;>
      simp only [hg, hg2, if_true, if_false, containsNL_vgap, vgap_vgap, indentFromGap_vgap, norm_idem e hcf.1.1.1 i,
        norm_idem d hcf.2 (indentFromGap g2), norm_idem d hcf.2 i, show containsNL ([] : Text) = false from rfl,
        show containsNL [' '] = false from rfl, Bool.false_eq_true]
  | .lam n c1 g1 c2 g2 b, hcf, i => by
    simp only [Cst.cf, Bool.and_eq_true] at hcf
    simp only [Cst.norm]
    have hg2 : (if (if g2.count '\n' = 0 then [' '] else List.replicate (g2.count '\n') '\n' ++ spaces i).count '\n' = 0 then [' ']
        else List.replicate ((if g2.count '\n' = 0 then [' '] else List.replicate (g2.count '\n') '\n' ++ spaces i).count '\n') '\n' ++
          spaces i) = (if g2.count '\n' = 0 then [' '] else List.replicate (g2.count '\n') '\n' ++ spaces i) := by
      by_cases h0 : g2.count '\n' = 0
      · simp [h0]
      · simp only [h0, if_false, count_nl_breaks]
    rw [hg2, norm_idem b hcf.2 i]
    by_cases hg : containsNL g1 = true
    · simp only [hg, if_true, containsNL_vgap, vgap_vgap, indentFromGap_vgap]
    · simp only [hg, if_false, show containsNL ([] : Text) = false from rfl, Bool.false_eq_true]
  | .bin l c1 g1 op c2 g2 r, hcf, i => by
    simp only [Cst.cf, Bool.and_eq_true] at hcf
    simp only [Cst.norm, breaksGap_count, binRightIndentC_norm, norm_idem l hcf.1.1.1 i]
    by_cases h2 : g2.count '\n' = 0
    · simp only [h2, if_true, norm_idem r hcf.2 i]
    · simp only [h2, if_false, norm_idem r hcf.2 (binRightIndentC op r i)]
  | .kw false c1 g1 h c2 g2 c3 g3 b, hcf, _ => by simp [Cst.cf] at hcf
  | .kw true c1 g1 h c2 g2 c3 g3 b, hcf, i => by
    simp only [Cst.cf, Bool.and_eq_true] at hcf
    obtain ⟨⟨⟨⟨_, hhc⟩, _⟩, _⟩, hbc⟩ := hcf
    have hsp : gapHasEmptyLine ([] ++ ';' :: [' ']) = false ∧ containsNL ([] ++ ';' :: [' ']) = false := by decide
    have hnl : ∀ k, gapHasEmptyLine ([] ++ ';' :: '\n' :: spaces k) = false ∧ containsNL ([] ++ ';' :: '\n' :: spaces k) = true := by
      intro k
      refine ⟨by rw [List.nil_append, gapHasEmptyLine_semi]; exact gapHasEmptyLine_nl_spaces k, ?_⟩
      simp [containsNL_cons]
    have hnn : ∀ k, gapHasEmptyLine ([] ++ ';' :: '\n' :: '\n' :: spaces k) = true := by
      intro k; rw [List.nil_append, gapHasEmptyLine_semi]; exact gapHasEmptyLine_nlnl_spaces k
    simp only [Cst.norm, norm_idem b hbc i, absorbable_norm]
    have hhead : (if containsNL (if containsNL g1 = true then vgap g1 (indentFromGap g1) else [' ']) = true then
          vgap (if containsNL g1 = true then vgap g1 (indentFromGap g1) else [' '])
            (indentFromGap (if containsNL g1 = true then vgap g1 (indentFromGap g1) else [' ']))
        else [' ']) = (if containsNL g1 = true then vgap g1 (indentFromGap g1) else [' ']) ∧
        (h.norm (if containsNL g1 = true then indentFromGap g1 else i)).norm
          (if containsNL (if containsNL g1 = true then vgap g1 (indentFromGap g1) else [' ']) = true then
            indentFromGap (if containsNL g1 = true then vgap g1 (indentFromGap g1) else [' ']) else i) =
        h.norm (if containsNL g1 = true then indentFromGap g1 else i) := by
      by_cases hg : containsNL g1 = true
      · simp only [hg, if_true, containsNL_vgap, vgap_vgap, indentFromGap_vgap, norm_idem h hhc (indentFromGap g1), and_self]
      · have hg' : containsNL g1 = false := by simpa using hg
        simp only [hg', Bool.false_eq_true, if_false, show containsNL [' '] = false from rfl, norm_idem h hhc i, and_self]
    rw [hhead.1, hhead.2]
    congr 1
    by_cases hE : gapHasEmptyLine (g2 ++ ';' :: g3) = true
    · simp only [hE, if_true, hnn]
    · have hE' : gapHasEmptyLine (g2 ++ ';' :: g3) = false := by simpa using hE
      by_cases hN : containsNL (g2 ++ ';' :: g3) = true
      · simp only [hE', hN, Bool.false_eq_true, if_false, if_true, (hnl i).1, (hnl i).2]
      · have hN' : containsNL (g2 ++ ';' :: g3) = false := by simpa using hN
        simp only [hE', hN', Bool.false_eq_true, if_false]
        by_cases hA : b.absorbableC = true
        · simp only [hA, if_true, hsp.1, hsp.2, Bool.false_eq_true, if_false]
        · have hA' : b.absorbableC = false := by simpa using hA
          by_cases hX : containsNL (b.norm i).flatten = true
          · simp only [hA', hX, Bool.false_eq_true, if_false, if_true, (hnl i).1, (hnl i).2]
          · have hX' : containsNL (b.norm i).flatten = false := by simpa using hX
            simp only [hA', hX', Bool.false_eq_true, if_false, hsp.1, hsp.2]
  | .ite c1 g1 c c2 g2 c3 g3 t c4 g4 c5 g5 e, hcf, i => by
    simp only [Cst.cf, Bool.and_eq_true] at hcf
    simp only [Cst.norm, sepGap_sepGap, sepIndent_sepGap, norm_idem c hcf.1.1.1.1.1.1.1 _, norm_idem t hcf.1.1.1.1.1.1.2 _,
      norm_idem e hcf.1.1.1.1.1.2 _]
  | .has e c1 g1 c2 g2 attrs, hcf, i => by
    simp only [Cst.cf, Bool.and_eq_true] at hcf
    simp only [Cst.norm, sepGap_sepGap, norm_idem e hcf.1.1 i]
theorem normML_idem : (its : Items) → its.cf = true → ∀ (j : Nat), (its.normML j).normML j = its.normML j
  | .nil, _, _ => rfl
  | .cmt .., h, _ => by simp [Items.cf] at h
  | .elem g c rest, hcf, j => by
    simp only [Items.cf, Bool.and_eq_true] at hcf
    simp only [Items.normML, vgap_vgap, norm_idem c hcf.1 j, normML_idem rest hcf.2 j]
  | .bind g n c1 g1 c2 g2 v c3 g3 rest, hcf, j => by
    simp only [Items.cf, Bool.and_eq_true] at hcf
    simp only [Items.normML]
    split
    · simp only [Items.normML, containsNL_vgap, if_true, vgap_vgap, indentFromGap_vgap,
        norm_idem v hcf.1.2 (indentFromGap g2), normML_idem rest hcf.2 j]
    · simp only [Items.normML, show containsNL [' '] = false from rfl, Bool.false_eq_true, if_false, vgap_vgap,
        norm_idem v hcf.1.2 j, normML_idem rest hcf.2 j]
theorem normFlat_idem : (its : Items) → its.cf = true → containsNL its.flatten = false → ∀ (j : Nat),
    (its.normFlat j).normFlat j = its.normFlat j
  | .nil, _, _, _ => rfl
  | .cmt .., h, _, _ => by simp [Items.cf] at h
  | .elem g c rest, hcf, h, j => by
    simp only [Items.cf, Bool.and_eq_true] at hcf
    simp only [Items.flatten, noNL_append] at h
    simp only [Items.normFlat, norm_idem c hcf.1 j, normFlat_idem rest hcf.2 h.2 j]
  | .bind g n c1 g1 c2 g2 v c3 g3 rest, hcf, h, j => by
    simp only [Items.cf, Bool.and_eq_true] at hcf
    simp only [Items.flatten, noNL_append, noNL_cons] at h
    simp only [Items.normFlat, norm_idem v hcf.1.2 j, normFlat_idem rest hcf.2 h.2.2 j]
end

/-! ### the normal form is well-formed and comment-free -/

theorem isGap_space : isGap [' '] = true := by decide
theorem isGap_nil : isGap [] = true := by decide
theorem isGap_ite {p : Prop} [Decidable p] {a b : Text} (ha : isGap a = true) (hb : isGap b = true) :
    isGap (if p then a else b) = true := by split <;> assumption
theorem gcOk_nil (g : Text) : gcOk [] g = true := rfl

mutual
theorem norm_wf : (c : Cst) → c.wf = true → c.cf = true → ∀ (i : Nat), (c.norm i).wf = true ∧ (c.norm i).cf = true
  | .leaf k t, h, _, _ => ⟨h, rfl⟩
  | .list its cg, hwf, hcf, i => by
    simp only [Cst.wf, Bool.and_eq_true] at hwf
    simp only [Cst.cf] at hcf
    simp only [Cst.norm]
    split
    · split <;> simp [Cst.wf, Cst.cf, Items.wf, Items.cf, isGap_vgap, isGap_space]
    · split
      · have := normML_wf its .list cg hwf.1 hcf (i + 2) (vgap cg i)
        simp [Cst.wf, Cst.cf, this.1, this.2, isGap_vgap]
      · have := normFlat_wf its .list cg hwf.1 hcf i [' ']
        simp [Cst.wf, Cst.cf, this.1, this.2, isGap_space]
  | .set r rg its cg, hwf, hcf, i => by
    simp only [Cst.wf, Bool.and_eq_true] at hwf
    simp only [Cst.cf] at hcf
    have hM := normML_wf its .set cg hwf.1.2 hcf (i + 2) (vgap cg i)
    have hF := normFlat_wf its .set cg hwf.1.2 hcf (i + 2) [' ']
    simp only [Cst.norm]
    by_cases hnil : its.isNil = true
    · simp only [hnil, if_true]
      by_cases hb : gapHasEmptyLineOffsets cg = true
      · cases r <;> simp [hb, Cst.wf, Cst.cf, Items.wf, Items.cf, isGap_vgap, isGap_space, isGap_nil]
      · cases r <;> simp [hb, Cst.wf, Cst.cf, Items.wf, Items.cf, isGap_space, isGap_nil]
    · simp only [hnil, Bool.false_eq_true, if_false]
      by_cases hml : containsNL ((if r then rg else []) ++ its.flatten ++ cg) = true
      · simp only [hml, if_true]
        cases r <;> simp [Cst.wf, Cst.cf, hM.1, hM.2, isGap_vgap, isGap_space, isGap_nil]
      · simp only [hml, Bool.false_eq_true, if_false]
        cases r <;> simp [Cst.wf, Cst.cf, hF.1, hF.2, isGap_space, isGap_nil]
  | .paren (.elem g c .nil) cg, hwf, hcf, i => by
    simp only [Cst.wf, Items.wf, Bool.and_eq_true] at hwf
    simp only [Cst.cf, Items.cf, Bool.and_eq_true] at hcf
    have h1 := norm_wf c hwf.1.1.1.2 hcf.1 (if containsNL g = true then indentFromGap g else i)
    have hg : isGap (if containsNL g = true then vgap g (indentFromGap g) else []) = true := isGap_ite (isGap_vgap _ _) isGap_nil
    have hcg : isGap (if containsNL cg = true then vgap cg i else []) = true := isGap_ite (isGap_vgap _ _) isGap_nil
    simp [Cst.norm, Cst.wf, Cst.cf, Items.wf, Items.cf, Items.countElems, h1.1, h1.2, hg, hcg]
  | .paren .nil cg, hwf, hcf, _ => by simp only [Cst.norm]; exact ⟨hwf, hcf⟩
  | .paren (.cmt ..) cg, hwf, hcf, _ => by simp only [Cst.norm]; exact ⟨hwf, hcf⟩
  | .paren (.bind ..) cg, hwf, hcf, _ => by simp only [Cst.norm]; exact ⟨hwf, hcf⟩
  | .paren (.elem g c (.cmt ..)) cg, hwf, hcf, _ => by simp only [Cst.norm]; exact ⟨hwf, hcf⟩
  | .paren (.elem g c (.bind ..)) cg, hwf, hcf, _ => by simp only [Cst.norm]; exact ⟨hwf, hcf⟩
  | .paren (.elem g c (.elem ..)) cg, hwf, hcf, _ => by simp only [Cst.norm]; exact ⟨hwf, hcf⟩
  | .app f cs g a, hwf, hcf, i => by
    simp only [Cst.wf, Bool.and_eq_true] at hwf
    simp only [Cst.cf, Bool.and_eq_true, List.isEmpty_iff] at hcf
    obtain ⟨⟨hfc, hcs⟩, hac⟩ := hcf
    subst hcs
    have h1 := norm_wf f hwf.1.1.1 hfc i
    have h2 := norm_wf a hwf.2 hac (if containsNL g = true then indentFromGap g else i)
    have hg : isGap (if containsNL g = true then vgap g (indentFromGap g) else [' ']) = true := isGap_ite (isGap_vgap _ _) isGap_space
    simp [Cst.norm, Cst.wf, Cst.cf, gcOk_nil, h1.1, h1.2, h2.1, h2.2, hg]
  | .un op c g e, hwf, hcf, i => by
    simp only [Cst.wf, Bool.and_eq_true] at hwf
    simp only [Cst.cf, Bool.and_eq_true] at hcf
    have h1 := norm_wf e hwf.2 hcf.1.2 (if containsNL g = true then indentFromGap g else i)
    have hg : isGap (if containsNL g = true then vgap g (indentFromGap g) else []) = true := isGap_ite (isGap_vgap _ _) isGap_nil
    have hfm := hcf.2
    simp only [Cst.norm, Cst.wf, Cst.cf, fusesMinus_norm, hwf.1.1.1, hwf.1.1.2, hg, h1.1, h1.2, hfm, Bool.and_self]
    exact ⟨trivial, trivial⟩
  | .sel e c1 g1 gd attrs, hwf, hcf, i => by
    simp only [Cst.wf, Bool.and_eq_true] at hwf
    simp only [Cst.cf, Bool.and_eq_true] at hcf
    have h1 := norm_wf e hwf.1.1.1.1.1 hcf.1 i
    have hg : isGap (if containsNL g1 = true then vgap g1 (indentFromGap g1) else []) = true := isGap_ite (isGap_vgap _ _) isGap_nil
    simp [Cst.norm, Cst.wf, Cst.cf, hwf.1.1.1.1.2, hwf.1.2, hwf.2, hg, h1.1, h1.2, isGap_nil]
  | .selOr e c1 g1 gd attrs c2 g2 g3 d, hwf, hcf, i => by
    simp only [Cst.wf, Bool.and_eq_true] at hwf
    simp only [Cst.cf, Bool.and_eq_true] at hcf
    obtain ⟨⟨⟨⟨⟨⟨⟨⟨⟨hew, hc1⟩, _⟩, _⟩, hne⟩, hall⟩, hc2⟩, _⟩, _⟩, hdw⟩ := hwf
    have h1 := norm_wf e hew hcf.1.1.1 i
    have h2 := norm_wf d hdw hcf.2 (if containsNL g2 = true then indentFromGap g2 else i)
    have hg : isGap (if containsNL g1 = true then vgap g1 (indentFromGap g1) else []) = true := isGap_ite (isGap_vgap _ _) isGap_nil
    have hg2 : isGap (if containsNL g2 = true then vgap g2 (indentFromGap g2) else [' ']) = true := isGap_ite (isGap_vgap _ _) isGap_space
    simp [Cst.norm, Cst.wf, Cst.cf, hc1, hc2, hne, hall, hg, hg2, h1.1, h1.2, h2.1, h2.2, isGap_nil, isGap_space]
  | .lam n c1 g1 c2 g2 b, hwf, hcf, i => by
    simp only [Cst.wf, Bool.and_eq_true] at hwf
    simp only [Cst.cf, Bool.and_eq_true] at hcf
    obtain ⟨⟨⟨⟨⟨hn, hc1⟩, _⟩, hc2⟩, _⟩, hbw⟩ := hwf
    have h1 := norm_wf b hbw hcf.2 i
    have hg : isGap (if containsNL g1 = true then vgap g1 (indentFromGap g1) else []) = true := isGap_ite (isGap_vgap _ _) isGap_nil
    have hg2 : isGap (if g2.count '\n' = 0 then [' '] else List.replicate (g2.count '\n') '\n' ++ spaces i) = true :=
      isGap_ite isGap_space (isGap_breaks _ _)
    simp [Cst.norm, Cst.wf, Cst.cf, hn, hc1, hc2, hg, hg2, h1.1, h1.2]
  | .bin l c1 g1 op c2 g2 r, hwf, hcf, i => by
    simp only [Cst.wf, Bool.and_eq_true] at hwf
    simp only [Cst.cf, Bool.and_eq_true] at hcf
    obtain ⟨⟨⟨⟨⟨⟨⟨hlw, hc1⟩, _⟩, hop⟩, hch⟩, hc2⟩, _⟩, hrw⟩ := hwf
    have h1 := norm_wf l hlw hcf.1.1.1 i
    have h2 := norm_wf r hrw hcf.2 (if g2.count '\n' = 0 then i else binRightIndentC op r i)
    have hg : ∀ (g : Text) (k : Nat), isGap (if g.count '\n' = 0 then [' '] else List.replicate (g.count '\n') '\n' ++ spaces k) = true :=
      fun g k => isGap_ite isGap_space (isGap_breaks _ _)
    have hnl : containsNL (if g1.count '\n' = 0 then [' '] else List.replicate (g1.count '\n') '\n' ++ spaces i) = containsNL g1 := by
      by_cases h0 : g1.count '\n' = 0
      · simp only [h0, if_true, noNL_of_count_nl h0]; rfl
      · simp only [h0, if_false, containsNL_breaks h0]
        cases hc : containsNL g1 with
        | true => rfl
        | false => exact absurd (count_nl_of_noNL hc) h0
    simp only [Cst.norm, Cst.wf, Cst.cf, hnl, hg, h1.1, h1.2, h2.1, h2.2, hc1, hc2, hop, hch, Bool.and_self]
    exact ⟨trivial, trivial⟩
  | .kw false c1 g1 h c2 g2 c3 g3 b, _, hcf, _ => by simp [Cst.cf] at hcf
  | .kw true c1 g1 h c2 g2 c3 g3 b, hwf, hcf, i => by
    simp only [Cst.wf, Bool.and_eq_true] at hwf
    simp only [Cst.cf, Bool.and_eq_true] at hcf
    obtain ⟨⟨⟨⟨⟨⟨⟨hc1, _⟩, hhw⟩, hc2⟩, _⟩, hc3⟩, _⟩, hbw⟩ := hwf
    obtain ⟨⟨⟨⟨_, hhc⟩, _⟩, _⟩, hbc⟩ := hcf
    have h1 := norm_wf h hhw hhc (if containsNL g1 = true then indentFromGap g1 else i)
    have h2 := norm_wf b hbw hbc i
    have hg : isGap (if containsNL g1 = true then vgap g1 (indentFromGap g1) else [' ']) = true := isGap_ite (isGap_vgap _ _) isGap_space
    have hbr : ∀ (n : Nat), isGap (List.replicate n '\n' ++ spaces i) = true := fun n => isGap_breaks n i
    have hg3 : isGap (if gapHasEmptyLine (g2 ++ ';' :: g3) = true then '\n' :: '\n' :: spaces i
        else if containsNL (g2 ++ ';' :: g3) = true then '\n' :: spaces i
        else if b.absorbableC = true then [' ']
        else if containsNL (b.norm i).flatten = true then '\n' :: spaces i else [' ']) = true := by
      repeat' split
      · exact hbr 2
      · exact hbr 1
      · rfl
      · exact hbr 1
      · rfl
    simp [Cst.norm, Cst.wf, Cst.cf, hc1, hc2, hc3, hg, hg3, h1.1, h1.2, h2.1, h2.2, isGap_nil]
  | .ite c1 g1 c c2 g2 c3 g3 t c4 g4 c5 g5 e, hwf, hcf, i => by
    obtain ⟨⟨h1, h2, h3, h4, h5⟩, ⟨hcw, htw, hew⟩, _⟩ := ite_wf hwf
    subst h1; subst h2; subst h3; subst h4; subst h5
    simp only [Cst.cf, Bool.and_eq_true] at hcf
    have k1 := norm_wf c hcw hcf.1.1.1.1.1.1.1 (sepIndent g1 i)
    have k2 := norm_wf t htw hcf.1.1.1.1.1.1.2 (sepIndent g3 i)
    have k3 := norm_wf e hew hcf.1.1.1.1.1.2 (sepIndent g5 i)
    simp [Cst.norm, Cst.wf, Cst.cf, isGap_sepGap, k1.1, k1.2, k2.1, k2.2, k3.1, k3.2]
  | .has e c1 g1 c2 g2 attrs, hwf, hcf, i => by
    have hwf0 := hwf
    obtain ⟨⟨h1, h2⟩, hew, _, _, _⟩ := has_wf hwf
    subst h1; subst h2
    simp only [Cst.wf, Bool.and_eq_true] at hwf0
    simp only [Cst.cf, Bool.and_eq_true] at hcf
    have k1 := norm_wf e hew hcf.1.1 i
    simp [Cst.norm, Cst.wf, Cst.cf, isGap_sepGap, k1.1, k1.2, hwf0.1.2, hwf0.2]
theorem normML_wf : (its : Items) → ∀ (m : Mode) (cg : Text), its.wf m cg = true → its.cf = true → ∀ (j : Nat) (cg' : Text),
    (its.normML j).wf m cg' = true ∧ (its.normML j).cf = true
  | .nil, _, _, _, _, _, _ => ⟨rfl, rfl⟩
  | .cmt .., _, _, _, h, _, _ => by simp [Items.cf] at h
  | .elem g c rest, m, cg, hwf, hcf, j, cg' => by
    simp only [Items.wf, Bool.and_eq_true] at hwf
    simp only [Items.cf, Bool.and_eq_true] at hcf
    have h1 := norm_wf c hwf.1.2 hcf.1 j
    have h2 := normML_wf rest m cg hwf.2 hcf.2 j cg'
    simp only [Items.normML, Items.wf, Items.cf, Bool.and_eq_true]
    exact ⟨⟨⟨⟨hwf.1.1.1, isGap_vgap g j⟩, h1.1⟩, h2.1⟩, h1.2, h2.2⟩
  | .bind g n c1 g1 c2 g2 v c3 g3 rest, m, cg, hwf, hcf, j, cg' => by
    simp only [Items.wf, Bool.and_eq_true] at hwf
    obtain ⟨⟨⟨⟨⟨⟨⟨⟨⟨⟨hm, _⟩, hn⟩, _⟩, _⟩, _⟩, _⟩, hv⟩, _⟩, _⟩, hrest⟩ := hwf
    simp only [Items.cf, Bool.and_eq_true] at hcf
    have h2 := normML_wf rest m cg hrest hcf.2 j cg'
    simp only [Items.normML]
    split
    · have h1 := norm_wf v hv hcf.1.2 (indentFromGap g2)
      simp [Items.wf, Items.cf, hm, hn, isGap_vgap, isGap_space, isGap_nil, gcOk_nil, h1.1, h1.2, h2.1, h2.2]
    · have h1 := norm_wf v hv hcf.1.2 j
      simp [Items.wf, Items.cf, hm, hn, isGap_vgap, isGap_space, isGap_nil, gcOk_nil, h1.1, h1.2, h2.1, h2.2]
theorem normFlat_wf : (its : Items) → ∀ (m : Mode) (cg : Text), its.wf m cg = true → its.cf = true → ∀ (j : Nat) (cg' : Text),
    (its.normFlat j).wf m cg' = true ∧ (its.normFlat j).cf = true
  | .nil, _, _, _, _, _, _ => ⟨rfl, rfl⟩
  | .cmt .., _, _, _, h, _, _ => by simp [Items.cf] at h
  | .elem g c rest, m, cg, hwf, hcf, j, cg' => by
    simp only [Items.wf, Bool.and_eq_true] at hwf
    simp only [Items.cf, Bool.and_eq_true] at hcf
    have h1 := norm_wf c hwf.1.2 hcf.1 j
    have h2 := normFlat_wf rest m cg hwf.2 hcf.2 j cg'
    simp only [Items.normFlat, Items.wf, Items.cf, Bool.and_eq_true]
    exact ⟨⟨⟨⟨hwf.1.1.1, isGap_space⟩, h1.1⟩, h2.1⟩, h1.2, h2.2⟩
  | .bind g n c1 g1 c2 g2 v c3 g3 rest, m, cg, hwf, hcf, j, cg' => by
    simp only [Items.wf, Bool.and_eq_true] at hwf
    obtain ⟨⟨⟨⟨⟨⟨⟨⟨⟨⟨hm, _⟩, hn⟩, _⟩, _⟩, _⟩, _⟩, hv⟩, _⟩, _⟩, hrest⟩ := hwf
    simp only [Items.cf, Bool.and_eq_true] at hcf
    have h1 := norm_wf v hv hcf.1.2 j
    have h2 := normFlat_wf rest m cg hrest hcf.2 j cg'
    simp [Items.normFlat, Items.wf, Items.cf, hm, hn, isGap_space, isGap_nil, gcOk_nil, h1.1, h1.2, h2.1, h2.2]
end

theorem file_norm_wf (f : File) (hwf : f.wf = true) (hcf : f.cf = true) :
    f.norm.wf = true ∧ f.norm.cf = true ∧ f.norm.noLeadingWs = true := by
  obtain ⟨g, c, hi, hcw, hcc⟩ := file_shape f hwf hcf
  have h1 := norm_wf c hcw hcc 0
  have hg : isGap (if !containsNL f.endGap then [] else if gapHasEmptyLineOffsets f.endGap then ['\n', '\n'] else ['\n']) = true := by
    split
    · rfl
    · split <;> decide
  simp only [File.norm, hi, File.wf, File.cf, File.noLeadingWs, Items.wf, Items.cf, Items.countElems, Items.firstGap,
    h1.1, h1.2, hg]
  decide

theorem file_norm_idem (f : File) (hwf : f.wf = true) (hcf : f.cf = true) : f.norm.norm = f.norm := by
  obtain ⟨g, c, hi, hcw, hcc⟩ := file_shape f hwf hcf
  have hid := norm_idem c hcc 0
  have hend : ∀ (e : Text), e = [] ∨ e = ['\n', '\n'] ∨ e = ['\n'] →
      (if !containsNL e then [] else if gapHasEmptyLineOffsets e then ['\n', '\n'] else ['\n']) = e := by
    intro e he
    rcases he with h | h | h <;> subst h <;> decide
  have hcase : (if !containsNL f.endGap then ([] : Text) else if gapHasEmptyLineOffsets f.endGap then ['\n', '\n'] else ['\n']) = [] ∨
      (if !containsNL f.endGap then ([] : Text) else if gapHasEmptyLineOffsets f.endGap then ['\n', '\n'] else ['\n']) = ['\n', '\n'] ∨
      (if !containsNL f.endGap then ([] : Text) else if gapHasEmptyLineOffsets f.endGap then ['\n', '\n'] else ['\n']) = ['\n'] := by
    split
    · exact Or.inl rfl
    · split
      · exact Or.inr (Or.inl rfl)
      · exact Or.inr (Or.inr rfl)
  simp only [File.norm, hi, hid, hend _ hcase]

/-- FIXED POINT for comment-free files: the text the round trip writes is the flattening of a
    well-formed comment-free tree (`File.norm f`, the tree tree-sitter returns for it — compared
    with the real tree on every sample), and the round trip of that tree writes the same text. -/
theorem file_fixed_point (f : File) (hwf : f.wf = true) (hcf : f.cf = true) :
    f.norm.wf = true ∧ f.norm.cf = true ∧ f.norm.noLeadingWs = true ∧
    f.roundtrip = .ok f.norm.flatten ∧ f.norm.roundtrip = .ok f.norm.flatten := by
  have h1 := file_norm_wf f hwf hcf
  refine ⟨h1.1, h1.2.1, h1.2.2, file_rt f hwf hcf, ?_⟩
  rw [file_rt f.norm h1.1 h1.2.1, file_norm_idem f hwf hcf]

end Nima.Frag
