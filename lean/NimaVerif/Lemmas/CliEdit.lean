import NimaVerif.Model.Edit
import NimaVerif.Lemmas.Cli
/-!
The command line over the edit model: `editLib` is ANY library whose two edit entry points are the
modelled `setValue` / `removeValue` (for whichever name comparison `[NameCmp]` is in force) on the
edit code's view `docOf` of a parsed source, with any reading `classify` of the VALUE argument and
any rendering `render` of the edited document (may raise); `parse`, `containsError`, `rebuild` are
arbitrary. `cli_set_model` / `cli_rm_model` say what `nima set` / `nima rm` show in terms of the
model's outcome — the refinement step from which the command-line corollaries of C07 and C08 follow.
-/
namespace Nima.Cli
open Nima

variable {σ : Type} [NameCmp]

def editLib (base : Lib σ) (docOf : σ → Doc) (classify : Text → ValueArg)
    (render : Doc → Except Err Text) : Lib σ :=
  { parse := base.parse
    containsError := base.containsError
    rebuild := base.rebuild
    setValue := fun s p v =>
      match setValue p (classify v) (docOf s) with
      | (.ok _, d') => render d'
      | (.error e, _) => .error e
    removeValue := fun s p =>
      match removeValue p (docOf s) with
      | (.ok _, d') => render d'
      | (.error e, _) => .error e }

/-- what the shell sees of an edit outcome -/
def shown (render : Doc → Except Err Text) : Except Err Unit × Doc → Res
  | (.ok _, d') =>
    match render d' with
    | .ok text => ⟨ensureNewline text, 0, none, false⟩
    | .error e => tracebackRes e
  | (.error e, _) => tracebackRes e

omit [NameCmp] in
/-- what the closed form of `set` / `rm` makes of an edit outcome rendered by `editLib` -/
theorem shown_eq (render : Doc → Except Err Text) (x : Except Err Unit × Doc) :
    (match (match x with
        | (.ok _, d') => render d'
        | (.error e, _) => .error e) with
      | .error e => tracebackRes e
      | .ok text => ⟨ensureNewline text, 0, none, false⟩) = shown render x := by
  obtain ⟨r, d'⟩ := x
  cases r with
  | error e => rfl
  | ok u =>
    show (match render d' with
      | .error e => tracebackRes e
      | .ok text => ⟨ensureNewline text, 0, none, false⟩) =
      match render d' with
      | .ok text => ⟨ensureNewline text, 0, none, false⟩
      | .error e => tracebackRes e
    cases render d' <;> rfl

theorem cli_set_model (base : Lib σ) (docOf : σ → Doc) (classify : Text → ValueArg)
    (render : Doc → Except Err Text) (inv : Inv) (t : Text) (s : σ) (hc : inv.content = .ok t)
    (hp : base.parse t = .ok s) :
    cli (editLib base docOf classify render) .set inv =
      shown render (setValue inv.npath (classify inv.value) (docOf s)) := by
  rw [cli_edit_eq _ .set (by decide)]
  simp only [editClosed, hc, libEdit, editLib, hp]
  exact shown_eq render _

theorem cli_rm_model (base : Lib σ) (docOf : σ → Doc) (classify : Text → ValueArg)
    (render : Doc → Except Err Text) (inv : Inv) (t : Text) (s : σ) (hc : inv.content = .ok t)
    (hp : base.parse t = .ok s) :
    cli (editLib base docOf classify render) .rm inv =
      shown render (removeValue inv.npath (docOf s)) := by
  rw [cli_edit_eq _ .rm (by decide)]
  simp only [editClosed, hc, libEdit, editLib, hp]
  exact shown_eq render _

omit [NameCmp] in
/-- exit status 0 exactly when the edit was accepted and the edited document rendered -/
theorem shown_exit_zero_iff (render : Doc → Except Err Text) (x : Except Err Unit × Doc) :
    (shown render x).exit = 0 ↔ ∃ u d' text, x = (.ok u, d') ∧ render d' = .ok text := by
  obtain ⟨r, d'⟩ := x
  cases r with
  | error e => simp [shown, tracebackRes]
  | ok u => cases hr : render d' <;> simp [shown, tracebackRes, hr]

end Nima.Cli
