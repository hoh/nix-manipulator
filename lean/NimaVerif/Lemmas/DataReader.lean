import NimaVerif.Model.DataReader
import NimaVerif.Lemmas.Escape
import NimaVerif.Model.Value
/-!
The SPEC data reader on the texts the renderer produces: one `lexData_*` equation per kind of
token (white space, punctuation, strings, integers, floats, identifiers), each from what `lexStep`
does on the token's first character, and `pElem` on the three keywords.
-/
namespace Nima

theorem scanStr_length : ∀ (s b r : Text), scanStr s = some (b, r) → r.length < s.length := by
  intro s
  induction s using scanStr.induct with
  | case1 => intro b r h; simp [scanStr] at h
  | case2 rest => intro b r h; simp [scanStr] at h; obtain ⟨_, rfl⟩ := h; simp
  | case3 c cs ih =>
    intro b r h
    simp only [scanStr, Option.map_eq_some_iff] at h
    obtain ⟨⟨b', r'⟩, h1, h2⟩ := h
    simp only [Prod.mk.injEq] at h2
    obtain ⟨_, rfl⟩ := h2
    have := ih b' r' h1
    simp; omega
  | case4 c cs hq hb ih =>
    intro b r h
    rw [scanStr.eq_4 c cs hq hb] at h
    simp only [Option.map_eq_some_iff] at h
    obtain ⟨⟨b', r'⟩, h1, h2⟩ := h
    simp only [Prod.mk.injEq] at h2
    obtain ⟨_, rfl⟩ := h2
    have := ih b' r' h1
    simp; omega


/-! ### character classes; `lexStep` by the class of the first character -/

theorem isAsciiDigit_toNat (c : Char) : isAsciiDigit c = true ↔ 48 ≤ c.toNat ∧ c.toNat ≤ 57 := by
  simp only [isAsciiDigit, Bool.and_eq_true, decide_eq_true_eq, Char.le_def, Char.toNat]
  have h0 : ('0' : Char).val.toNat = 48 := by decide
  have h9 : ('9' : Char).val.toNat = 57 := by decide
  rw [UInt32.le_iff_toNat_le, UInt32.le_iff_toNat_le, h0, h9]

theorem isAsciiDigit_eq_isDigit (c : Char) : isAsciiDigit c = c.isDigit := by
  have h0 : ('0' : Char).val = 48 := by decide
  have h9 : ('9' : Char).val = 57 := by decide
  simp only [isAsciiDigit, Char.isDigit, Char.le_def, h0, h9, ge_iff_le]

theorem identStart_toNat (c : Char) : identStart c = true ↔
    (65 ≤ c.toNat ∧ c.toNat ≤ 90) ∨ c.toNat = 95 ∨ (97 ≤ c.toNat ∧ c.toNat ≤ 122) := by
  simp [identStart, inRanges, identStartRanges]
  omega

theorem identStart_not_digit (c : Char) (h : identStart c = true) : isAsciiDigit c = false := by
  cases hd : isAsciiDigit c with
  | false => rfl
  | true =>
    rw [isAsciiDigit_toNat] at hd
    rw [identStart_toNat] at h
    omega

theorem isWs_cases (c : Char) (h : isWs c = true) : c = ' ' ∨ c = '\n' ∨ c = '\t' ∨ c = '\r' := by
  simpa [isWs, or_assoc] using h

/-- A character that starts a number or an identifier is none of the characters `lexStep` tests first. -/
structure NotSpecial (c : Char) : Prop where
  ws : isWs c = false
  lbrack : c ≠ '['
  rbrack : c ≠ ']'
  lbrace : c ≠ '{'
  rbrace : c ≠ '}'
  eq : c ≠ '='
  semi : c ≠ ';'
  lparen : c ≠ '('
  rparen : c ≠ ')'
  minus : c ≠ '-'
  quote : c ≠ '"'

theorem notSpecial_of (c : Char) (p : Char → Bool) (hp : p c = true)
    (h : p ' ' = false ∧ p '\n' = false ∧ p '\t' = false ∧ p '\r' = false ∧ p '[' = false ∧ p ']' = false ∧
      p '{' = false ∧ p '}' = false ∧ p '=' = false ∧ p ';' = false ∧ p '(' = false ∧ p ')' = false ∧
      p '-' = false ∧ p '"' = false) :
    NotSpecial c := by
  obtain ⟨h1, h2, h3, h4, h5, h6, h7, h8, h9, h10, h13, h14, h11, h12⟩ := h
  have ne : ∀ d : Char, p d = false → c ≠ d := by
    intro d hd hc; subst hc; rw [hp] at hd; cases hd
  refine ⟨?_, ne _ h5, ne _ h6, ne _ h7, ne _ h8, ne _ h9, ne _ h10, ne _ h13, ne _ h14, ne _ h11, ne _ h12⟩
  cases hw : isWs c with
  | false => rfl
  | true =>
    rcases isWs_cases c hw with rfl | rfl | rfl | rfl
    · rw [hp] at h1; cases h1
    · rw [hp] at h2; cases h2
    · rw [hp] at h3; cases h3
    · rw [hp] at h4; cases h4

theorem notSpecial_digit (c : Char) (h : isAsciiDigit c = true) : NotSpecial c :=
  notSpecial_of c isAsciiDigit h (by decide)

theorem notSpecial_dot : NotSpecial '.' := by
  constructor <;> decide

theorem notSpecial_identStart (c : Char) (h : identStart c = true) : NotSpecial c :=
  notSpecial_of c identStart h (by decide)

/-- `lexStep` on a character that is none of the special ones: only the number / identifier branches remain. -/
theorem lexStep_notSpecial (c : Char) (cs : Text) (h : NotSpecial c) :
    lexStep (c :: cs) =
      if isAsciiDigit c || c = '.' then
        let t := (c :: cs).takeWhile isNumChar
        let rest := (c :: cs).dropWhile isNumChar
        if !litEnd rest then none
        else if isIntTok t then
          let n := Nat.ofDigitChars 10 t 0
          if n ≤ nixIntMax then some (some (.int n), rest) else none
        else if isNixFloat t then some (some (.float t), rest)
        else none
      else if identStart c then
        let t := c :: cs.takeWhile nixIdentRest
        let rest := cs.dropWhile nixIdentRest
        if identEnd rest then some (some (.ident t), rest) else none
      else none := by
  simp only [lexStep]
  rw [if_neg (by simp [h.ws]), if_neg h.lbrack, if_neg h.rbrack, if_neg h.lbrace, if_neg h.rbrace,
    if_neg h.eq, if_neg h.semi, if_neg h.lparen, if_neg h.rparen, if_neg h.minus, if_neg h.quote]

/-- The one-character tokens. -/
def punctTable : List (Char × Tok) :=
  [('[', .lbrack), (']', .rbrack), ('{', .lbrace), ('}', .rbrace), ('=', .eq), (';', .semi),
   ('(', .lparen), (')', .rparen), ('-', .minus)]

theorem lexStep_punct (c : Char) (tok : Tok) (h : (c, tok) ∈ punctTable) (cs : Text) :
    lexStep (c :: cs) = some (some tok, cs) := by
  simp only [punctTable, List.mem_cons, List.not_mem_nil, or_false, Prod.mk.injEq] at h
  rcases h with ⟨rfl, rfl⟩ | ⟨rfl, rfl⟩ | ⟨rfl, rfl⟩ | ⟨rfl, rfl⟩ | ⟨rfl, rfl⟩ | ⟨rfl, rfl⟩ | ⟨rfl, rfl⟩ |
    ⟨rfl, rfl⟩ | ⟨rfl, rfl⟩ <;> simp [lexStep, isWs]

/-- The cases `lexStep` distinguishes on the first character. -/
theorem lexStep_first (c : Char) :
    isWs c = true ∨ (∃ tok, (c, tok) ∈ punctTable) ∨ c = '"' ∨ NotSpecial c := by
  by_cases hw : isWs c = true
  · exact .inl hw
  by_cases hp : c ∈ punctTable.map (·.1)
  · obtain ⟨⟨_, tok⟩, hm, rfl⟩ := List.mem_map.mp hp
    exact .inr (.inl ⟨tok, hm⟩)
  by_cases hq : c = '"'
  · exact .inr (.inr (.inl hq))
  simp only [punctTable, List.map_cons, List.map_nil, List.mem_cons, List.not_mem_nil, or_false, not_or] at hp
  obtain ⟨h1, h2, h3, h4, h5, h6, h7, h8, h9⟩ := hp
  exact .inr (.inr (.inr ⟨by simpa using hw, h1, h2, h3, h4, h5, h6, h7, h8, h9, hq⟩))

/-! ### `lexStep` consumes input; `lexData` one token at a time -/

theorem isNumChar_of_start (c : Char) (h : (isAsciiDigit c || decide (c = '.')) = true) : isNumChar c = true := by
  simp only [Bool.or_eq_true, decide_eq_true_eq] at h
  rcases h with h | h
  · simp [isNumChar, h]
  · subst h; decide

theorem lexStep_length (s : Text) (t : Option Tok) (rest : Text) (h : lexStep s = some (t, rest)) :
    rest.length < s.length := by
  cases s with
  | nil => simp [lexStep] at h
  | cons c cs =>
    have easy : ∀ x, lexStep (c :: cs) = some (x, cs) → rest.length < (c :: cs).length := by
      intro x hx
      rw [hx] at h
      cases h
      simp
    rcases lexStep_first c with hw | ⟨tok, hp⟩ | rfl | hns
    · exact easy none (by simp [lexStep, hw])
    · exact easy _ (lexStep_punct c tok hp cs)
    · -- a string: what follows the closing quote
      simp only [lexStep, isWs] at h
      simp only [Char.reduceBEq, Bool.or_self, Bool.false_eq_true, if_false, Char.reduceEq, if_true] at h
      split at h
      · cases h
      · rename_i body rest' hs
        split at h
        · simp only [Option.map_eq_some_iff, Prod.mk.injEq] at h
          obtain ⟨_, _, _, rfl⟩ := h
          have := scanStr_length _ _ _ hs
          simp; omega
        · cases h
    · rw [lexStep_notSpecial c cs hns] at h
      simp only at h
      by_cases hstart : (isAsciiDigit c || decide (c = '.')) = true
      · -- a number: the characters after the run of number characters
        rw [if_pos hstart] at h
        have hnc := isNumChar_of_start c hstart
        have hlen : (List.dropWhile isNumChar (c :: cs)).length ≤ cs.length := by
          rw [List.dropWhile_cons_of_pos hnc]
          exact (List.dropWhile_sublist (l := cs) isNumChar).length_le
        split at h
        · cases h
        split at h
        · split at h
          · simp only [Option.some.injEq, Prod.mk.injEq] at h
            obtain ⟨_, rfl⟩ := h
            simp only [List.length_cons]; omega
          · cases h
        split at h
        · simp only [Option.some.injEq, Prod.mk.injEq] at h
          obtain ⟨_, rfl⟩ := h
          simp only [List.length_cons]; omega
        · cases h
      · -- an identifier
        rw [if_neg hstart] at h
        split at h
        · split at h
          · simp only [Option.some.injEq, Prod.mk.injEq] at h
            obtain ⟨_, rfl⟩ := h
            have := (List.dropWhile_sublist (l := cs) nixIdentRest).length_le
            simp only [List.length_cons]; omega
          · cases h
        · cases h

theorem lexF_fuel : ∀ (n m : Nat) (s : Text), s.length < n → s.length < m → lexF n s = lexF m s := by
  intro n
  induction n with
  | zero => intro m s h; omega
  | succ n ih =>
    intro m s hn hm
    cases m with
    | zero => omega
    | succ m =>
      cases s with
      | nil => simp [lexF]
      | cons c cs =>
        simp only [lexF]
        cases hstep : lexStep (c :: cs) with
        | none => rfl
        | some p =>
          obtain ⟨t, rest⟩ := p
          have hl := lexStep_length _ _ _ hstep
          simp only [List.length_cons] at hl hn hm
          simp only
          rw [ih m rest (by omega) (by omega)]

theorem lexData_nil : lexData [] = some [] := by simp [lexData, lexF]

theorem lexData_step (s : Text) (t : Option Tok) (rest : Text) (h : lexStep s = some (t, rest)) :
    lexData s = (lexData rest).map (t.toList ++ ·) := by
  cases s with
  | nil => simp [lexStep] at h
  | cons c cs =>
    have hl := lexStep_length _ _ _ h
    simp only [lexData, lexF, h, List.length_cons]
    rw [lexF_fuel (cs.length + 1) (rest.length + 1) rest (by simp at hl; omega) (by omega)]


/-! ### white space and punctuation -/

theorem lexData_ws (c : Char) (s : Text) (h : isWs c = true) : lexData (c :: s) = lexData s := by
  rw [lexData_step (c :: s) none s (by simp [lexStep, h])]
  cases lexData s <;> simp

theorem lexData_spaces (n : Nat) (s : Text) : lexData (spaces n ++ s) = lexData s := by
  induction n with
  | zero => simp [spaces]
  | succ n ih =>
    have : spaces (n + 1) ++ s = ' ' :: (spaces n ++ s) := by simp [spaces, List.replicate_succ]
    rw [this, lexData_ws _ _ (by decide), ih]

theorem lexData_punct (c : Char) (tok : Tok) (s : Text) (h : (c, tok) ∈ punctTable := by decide) :
    lexData (c :: s) = (lexData s).map (tok :: ·) := by
  rw [lexData_step (c :: s) (some tok) s (lexStep_punct c tok h s)]
  rfl


/-! ### strings -/

theorem escapeNix_noInterp (s : Text) (h : hasInterp s = false) : escapeNix false s = escapeNix true s := by
  induction s using escapeNix.induct (interp := true) with
  | case1 => simp [escapeNix]
  | case2 cs ih => simp [hasInterp] at h; simp [escapeNix, ih h]
  | case3 cs ih => simp [hasInterp] at h; simp [escapeNix, ih h]
  | case4 cs ih => simp [hasInterp] at h; simp [escapeNix, ih h]
  | case5 cs ih => simp [hasInterp] at h; simp [escapeNix, ih h]
  | case6 cs ih => simp [hasInterp] at h; simp [escapeNix, ih h]
  | case7 cs _ ih => simp [hasInterp] at h
  | case8 cs h' ih => simp at h'
  | case9 c cs h1 h2 h3 h4 h5 h6 ih =>
    have hh : hasInterp cs = false := by
      rw [hasInterp.eq_3 _ _ (by intro cs' hc hcs; exact h6 cs' hc hcs)] at h
      exact h
    rw [escapeNix.eq_8 _ _ _ h1 h2 h3 h4 h5 h6, escapeNix.eq_8 _ _ _ h1 h2 h3 h4 h5 h6, ih hh]

theorem scanStr_escape (rest : Text) (s : Text) :
    scanStr (escapeNix true s ++ '"' :: rest) = some (escapeNix true s, rest) := by
  induction s using escapeNix.induct (interp := true) with
  | case1 => simp [escapeNix, scanStr]
  | case2 cs ih => simp [escapeNix, scanStr, ih]
  | case3 cs ih => simp [escapeNix, scanStr, ih]
  | case4 cs ih => simp [escapeNix, scanStr, ih]
  | case5 cs ih => simp [escapeNix, scanStr, ih]
  | case6 cs ih => simp [escapeNix, scanStr, ih]
  | case7 cs h ih => simp [escapeNix, scanStr, ih]
  | case8 cs h ih => simp at h
  | case9 c cs h1 h2 h3 h4 h5 h6 ih =>
    rw [escapeNix.eq_8 _ _ _ h1 h2 h3 h4 h5 h6]
    simp only [List.cons_append]
    rw [scanStr.eq_4 _ _ (by intro hc; exact h2 hc) (by intro c' cs' hc _; exact h1 hc)]
    simp [ih]

theorem escapeNix_no_cr (s : Text) : (escapeNix true s).contains '\r' = false := by
  induction s using escapeNix.induct (interp := true) with
  | case1 => simp [escapeNix]
  | case2 cs ih => simp only [List.contains_eq_mem, decide_eq_false_iff_not] at ih ⊢; simp [escapeNix, ih]
  | case3 cs ih => simp only [List.contains_eq_mem, decide_eq_false_iff_not] at ih ⊢; simp [escapeNix, ih]
  | case4 cs ih => simp only [List.contains_eq_mem, decide_eq_false_iff_not] at ih ⊢; simp [escapeNix, ih]
  | case5 cs ih => simp only [List.contains_eq_mem, decide_eq_false_iff_not] at ih ⊢; simp [escapeNix, ih]
  | case6 cs ih => simp only [List.contains_eq_mem, decide_eq_false_iff_not] at ih ⊢; simp [escapeNix, ih]
  | case7 cs h ih => simp only [List.contains_eq_mem, decide_eq_false_iff_not] at ih ⊢; simp [escapeNix, ih]
  | case8 cs h ih => simp at h
  | case9 c cs h1 h2 h3 h4 h5 h6 ih =>
    rw [escapeNix.eq_8 _ _ _ h1 h2 h3 h4 h5 h6]
    simp only [List.contains_eq_mem, decide_eq_false_iff_not, List.mem_cons, not_or] at ih ⊢
    exact ⟨fun hc => h4 hc.symm, ih⟩

/-- A rendered string literal is read back as one string token holding exactly the original text. -/
theorem lexData_str (s rest : Text) (hi : hasInterp s = false) (he : litEnd rest = true) :
    lexData ('"' :: escapeNix false s ++ '"' :: rest) = (lexData rest).map (Tok.str s :: ·) := by
  rw [escapeNix_noInterp s hi]
  have hstep : lexStep ('"' :: (escapeNix true s ++ '"' :: rest)) = some (some (Tok.str s), rest) := by
    have hcr : ¬ '\r' ∈ escapeNix true s := by
      have := escapeNix_no_cr s
      simpa using this
    simp [lexStep, isWs, scanStr_escape, he, escape_decode, hcr]
  have := lexData_step _ _ _ hstep
  simpa using this

/-! ### numbers -/

theorem litEnd_identEnd (rest : Text) (h : litEnd rest = true) : identEnd rest = true := by
  cases rest with
  | nil => rfl
  | cons c r => simp only [litEnd, identEnd] at h ⊢; simp [h]

/-- A character at which an identifier (or a literal) may end belongs to no class of characters
    that avoids white space and `;`, `]`, `}`, `)`, `=`. -/
theorem identEnd_head_not (p : Char → Bool)
    (hp : p ' ' = false ∧ p '\n' = false ∧ p '\t' = false ∧ p '\r' = false ∧ p ';' = false ∧ p ']' = false ∧
      p '}' = false ∧ p ')' = false ∧ p '=' = false)
    (c : Char) (r : Text) (h : identEnd (c :: r) = true) : p c = false := by
  obtain ⟨h1, h2, h3, h4, h5, h6, h7, h8, h9⟩ := hp
  simp only [identEnd, Bool.or_eq_true, beq_iff_eq] at h
  rcases h with ((((h | h) | h) | h) | h) | h
  · rcases isWs_cases c h with rfl | rfl | rfl | rfl <;> assumption
  all_goals (subst h; assumption)

theorem takeWhile_stop {p : Char → Bool} (t rest : Text) (hall : ∀ a ∈ t, p a = true)
    (hrest : ∀ c r, rest = c :: r → p c = false) :
    (t ++ rest).takeWhile p = t ∧ (t ++ rest).dropWhile p = rest := by
  rw [List.takeWhile_append_of_pos hall, List.dropWhile_append_of_pos hall]
  cases rest with
  | nil => simp
  | cons c r =>
    have := hrest c r rfl
    simp [this]

/-- The number branch of `lexStep` on a maximal run `t` of number characters followed by a
    literal boundary. -/
theorem lexStep_num (c : Char) (cs rest : Text) (hstart : isAsciiDigit c = true ∨ c = '.')
    (hall : ∀ a ∈ c :: cs, isNumChar a = true) (he : litEnd rest = true) :
    lexStep (c :: cs ++ rest) =
      if isIntTok (c :: cs) then
        if Nat.ofDigitChars 10 (c :: cs) 0 ≤ nixIntMax then
          some (some (.int (Nat.ofDigitChars 10 (c :: cs) 0)), rest) else none
      else if isNixFloat (c :: cs) then some (some (.float (c :: cs)), rest)
      else none := by
  have hns : NotSpecial c := by
    rcases hstart with h | h
    · exact notSpecial_digit c h
    · subst h; exact notSpecial_dot
  have hs : (isAsciiDigit c || decide (c = '.')) = true := by
    rcases hstart with h | h <;> simp [h]
  have hsplit := takeWhile_stop (p := isNumChar) (c :: cs) rest hall
    (by intro d r hr; subst hr; exact identEnd_head_not isNumChar (by decide) d r (litEnd_identEnd _ he))
  have hcons : c :: (cs ++ rest) = (c :: cs) ++ rest := rfl
  rw [List.cons_append, lexStep_notSpecial _ _ hns, if_pos hs]
  simp only [hcons, hsplit.1, hsplit.2, he, Bool.not_true, Bool.false_eq_true, if_false]

theorem toDigits_all_digit (n : Nat) : ∀ a ∈ Nat.toDigits 10 n, isAsciiDigit a = true := by
  intro a ha
  rw [isAsciiDigit_eq_isDigit]
  exact Nat.isDigit_of_mem_toDigits (by decide) (by decide) ha

theorem isNumChar_of_digit (a : Char) (h : isAsciiDigit a = true) : isNumChar a = true := by
  simp [isNumChar, h]

/-- A rendered non-negative integer is read back as one integer token with the same value. -/
theorem lexData_int (n : Nat) (rest : Text) (hn : n ≤ nixIntMax) (he : litEnd rest = true) :
    lexData (Nat.toDigits 10 n ++ rest) = (lexData rest).map (Tok.int n :: ·) := by
  have hne : Nat.toDigits 10 n ≠ [] := Nat.toDigits_ne_nil
  have hd := toDigits_all_digit n
  match hds : Nat.toDigits 10 n with
  | [] => exact absurd hds hne
  | c :: cs =>
    rw [hds] at hd
    have hstep := lexStep_num c cs rest (Or.inl (hd c (by simp)))
      (fun a ha => isNumChar_of_digit a (hd a ha)) he
    have hint : isIntTok (c :: cs) = true := by
      simp only [isIntTok, List.isEmpty_cons, Bool.not_false, Bool.true_and, List.all_eq_true]
      exact hd
    have hval : Nat.ofDigitChars 10 (c :: cs) 0 = n := by
      rw [← hds]; exact Nat.ofDigitChars_ten_toDigits
    rw [hint, hval] at hstep
    simp only [if_true, hn] at hstep
    have := lexData_step _ _ _ hstep
    simpa using this

/-! ### floats -/

theorem isExpPart_all (ex : Text) (h : isExpPart ex = true) : ∀ a ∈ ex, isNumChar a = true := by
  cases ex with
  | nil => intro a ha; cases ha
  | cons e rest =>
    simp only [isExpPart, Bool.and_eq_true, Bool.or_eq_true, beq_iff_eq] at h
    obtain ⟨he, hr⟩ := h
    have he' : isNumChar e = true := by rcases he with rfl | rfl <;> decide
    have hds : ∀ ds : Text, (!ds.isEmpty && ds.all isAsciiDigit) = true → ∀ a ∈ ds, isNumChar a = true := by
      intro ds h a ha
      simp only [Bool.and_eq_true, List.all_eq_true] at h
      exact isNumChar_of_digit a (h.2 a ha)
    have hrest : ∀ a ∈ rest, isNumChar a = true := by
      split at hr
      · intro a ha
        rcases List.mem_cons.mp ha with rfl | ha
        · decide
        · exact hds _ hr a ha
      · intro a ha
        rcases List.mem_cons.mp ha with rfl | ha
        · decide
        · exact hds _ hr a ha
      · exact hds _ hr
    intro a ha
    rcases List.mem_cons.mp ha with rfl | ha
    · exact he'
    · exact hrest a ha

theorem isNixFloat_props (t : Text) (h : isNixFloat t = true) :
    (∃ c cs, t = c :: cs ∧ (isAsciiDigit c = true ∨ c = '.')) ∧ (∀ a ∈ t, isNumChar a = true) ∧
      isIntTok t = false := by
  have hsplit : t = t.takeWhile isAsciiDigit ++ t.dropWhile isAsciiDigit :=
    (List.takeWhile_append_dropWhile).symm
  unfold isNixFloat at h
  simp only at h
  split at h
  · rename_i r hdr
    have hsplit2 : r = r.takeWhile isAsciiDigit ++ r.dropWhile isAsciiDigit :=
      (List.takeWhile_append_dropWhile).symm
    simp only [Bool.and_eq_true] at h
    have hex := isExpPart_all _ h.1
    have hip : ∀ a ∈ t.takeWhile isAsciiDigit, isAsciiDigit a = true := takeWhile_all _ _
    have hfp : ∀ a ∈ r.takeWhile isAsciiDigit, isAsciiDigit a = true := takeWhile_all _ _
    have hdot : '.' ∈ t := by rw [hsplit, hdr]; simp
    refine ⟨?_, ?_, ?_⟩
    · cases hip' : t.takeWhile isAsciiDigit with
      | nil =>
        refine ⟨'.', r, ?_, Or.inr rfl⟩
        rw [hsplit, hip', hdr]; rfl
      | cons c cs =>
        refine ⟨c, cs ++ '.' :: r, ?_, Or.inl (hip c (by rw [hip']; simp))⟩
        rw [hsplit, hip', hdr]; rfl
    · intro a ha
      rw [hsplit, hdr] at ha
      rcases List.mem_append.mp ha with ha | ha
      · exact isNumChar_of_digit a (hip a ha)
      · rcases List.mem_cons.mp ha with rfl | ha
        · decide
        · rw [hsplit2] at ha
          rcases List.mem_append.mp ha with ha | ha
          · exact isNumChar_of_digit a (hfp a ha)
          · exact hex a ha
    · cases hi : isIntTok t with
      | false => rfl
      | true =>
        simp only [isIntTok, Bool.and_eq_true, List.all_eq_true] at hi
        have := hi.2 '.' hdot
        revert this; decide
  · cases h

/-- A Nix float token followed by a literal boundary is read back as that float token. -/
theorem lexData_float (t rest : Text) (hf : isNixFloat t = true) (he : litEnd rest = true) :
    lexData (t ++ rest) = (lexData rest).map (Tok.float t :: ·) := by
  obtain ⟨⟨c, cs, rfl, hstart⟩, hall, hint⟩ := isNixFloat_props t hf
  have hstep := lexStep_num c cs rest hstart hall he
  rw [hint, hf] at hstep
  simp only [Bool.false_eq_true, if_false, if_true] at hstep
  have := lexData_step _ _ _ hstep
  simpa using this

/-! ### identifiers -/

/-- An identifier followed by an identifier boundary is read back as that identifier. -/
theorem lexData_ident (k rest : Text) (hk : isNixIdent k = true) (he : identEnd rest = true) :
    lexData (k ++ rest) = (lexData rest).map (Tok.ident k :: ·) := by
  match k with
  | [] => simp [isNixIdent] at hk
  | c :: cs =>
    simp only [isNixIdent, Bool.and_eq_true, List.all_eq_true] at hk
    have hns := notSpecial_identStart c hk.1
    have hnd : (isAsciiDigit c || decide (c = '.')) = false := by
      have h1 := identStart_not_digit c hk.1
      have h2 : c ≠ '.' := by
        intro hc; subst hc; have := hk.1; revert this; decide
      simp [h1, h2]
    have hsplit := takeWhile_stop (p := nixIdentRest) cs rest hk.2
      (by intro d r hr; subst hr; exact identEnd_head_not nixIdentRest (by decide) d r he)
    have hstep : lexStep (c :: cs ++ rest) = some (some (Tok.ident (c :: cs)), rest) := by
      rw [List.cons_append, lexStep_notSpecial _ _ hns, hnd]
      simp only [Bool.false_eq_true, if_false, hk.1, if_true, hsplit.1, hsplit.2, he]
    have := lexData_step _ _ _ hstep
    simpa using this

/-! ### the three keywords -/

theorem isNixIdent_dNull : isNixIdent dNull = true := by decide +kernel
theorem isNixIdent_dTrue : isNixIdent dTrue = true := by decide +kernel
theorem isNixIdent_dFalse : isNixIdent dFalse = true := by decide +kernel

theorem pElem_true (n : Nat) (r : List Tok) : pElem (n + 1) (.ident dTrue :: r) = some (.bool true, r) := by
  simp only [pElem, if_true]

theorem pElem_false (n : Nat) (r : List Tok) : pElem (n + 1) (.ident dFalse :: r) = some (.bool false, r) := by
  have h : dFalse ≠ dTrue := by decide +kernel
  simp only [pElem, if_neg h, if_true]

theorem pElem_null (n : Nat) (r : List Tok) : pElem (n + 1) (.ident dNull :: r) = some (.null, r) := by
  have h1 : dNull ≠ dTrue := by decide +kernel
  have h2 : dNull ≠ dFalse := by decide +kernel
  simp only [pElem, if_neg h1, if_neg h2, if_true]

end Nima
