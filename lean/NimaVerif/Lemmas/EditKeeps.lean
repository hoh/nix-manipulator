import NimaVerif.Lemmas.EditFail
import NimaVerif.Lemmas.NodeUpd
/-!
Helper lemmas for C08 histories: every operation of the edit model leaves `noTarget`, the kind of
the target node and the absence of a scratch set alone, so well-formedness (`WF`) is an invariant
of histories.
-/
namespace Nima.EditFail
-- name tokens are compared by spelling in this file (see `NameCmp` in Model/Edit.lean)
attribute [local instance] NameCmp.spelled

open Nima.Node Nima.EditM
open Nima.NameAgree (scopeRest)

/-! ### what no write of the edit code touches -/

/-- `d'` has the same edit target kind as `d`, and no scratch set if `d` had none -/
def Keeps (d d' : Doc) : Prop :=
  d'.noTarget = d.noTarget ∧ d'.target.isSet = d.target.isSet ∧ (d.scratch = none → d'.scratch = none)

theorem Keeps.refl (d : Doc) : Keeps d d := ⟨rfl, rfl, id⟩
theorem Keeps.trans {a b c : Doc} (h1 : Keeps a b) (h2 : Keeps b c) : Keeps a c :=
  ⟨h2.1.trans h1.1, h2.2.1.trans h1.2.1, fun h => h2.2.2 (h1.2.2 h)⟩

theorem updSet_isSet (sid : Nat) (f : Node → Node) (hf : ∀ n, (f n).isSet = n.isSet) :
      ∀ n : Node, (Node.updSet sid f n).isSet = n.isSet
    | .atom _ => rfl
    | .ident _ => rfl
    | .set s vs o m r => by
        unfold Node.updSet
        split
        · exact hf _
        · rfl
    | .bind .. => rfl
    | .inherit .. => rfl
    | .entry .. => rfl

theorem Keeps.updSet (d : Doc) (sid : Nat) (f : Node → Node) (hf : ∀ n, (f n).isSet = n.isSet) :
    Keeps d (d.updSet sid f) :=
  ⟨rfl, updSet_isSet sid f hf _, fun h => by simp [Doc.updSet, h]⟩

theorem Keeps.updBind (d : Doc) (id : Nat) (v : Node) : Keeps d (d.updBind id v) :=
  ⟨rfl, updBind_isSet id v _, fun h => by simp [Doc.updBind, h]⟩

/-! ### every operation keeps it: one rule per primitive, `bind` and `if` -/

/-- every state the computation can end in (failed or not) `Keeps` the start state -/
def Pres {α : Type} (m : EditM α) : Prop := ∀ d r d', m d = (r, d') → Keeps d d'

theorem Pres.pure {α : Type} (a : α) : Pres (pure a : EditM α) := by
  intro d r d' h; cases h; exact Keeps.refl _
theorem Pres.throw {α : Type} (e : Err) : Pres (EditM.throw e : EditM α) := by
  intro d r d' h; cases h; exact Keeps.refl _
theorem Pres.get : Pres EditM.get := by
  intro d r d' h; cases h; exact Keeps.refl _
theorem Pres.modify (f : Doc → Doc) (hf : ∀ d, Keeps d (f d)) : Pres (EditM.modify f) := by
  intro d r d' h; cases h; exact hf _
theorem Pres.fresh : Pres fresh := by
  intro d r d' h; cases h; exact ⟨rfl, rfl, id⟩

theorem Pres.bind {α β : Type} {m : EditM α} {f : α → EditM β} (hm : Pres m) (hf : ∀ a, Pres (f a)) :
    Pres (m >>= f) := by
  intro d r d' h
  simp only [bind_apply] at h
  rcases hw : m d with ⟨r1, d1⟩
  rw [hw] at h
  have k1 := hm _ _ _ hw
  cases r1 with
  | error e => cases h; exact k1
  | ok a => exact k1.trans (hf a _ _ _ h)

theorem Pres.ite {α : Type} {c : Prop} [Decidable c] {m n : EditM α} (hm : Pres m) (hn : Pres n) :
    Pres (if c then m else n) := by
  split <;> assumption

theorem Pres.assign (bid : Nat) (v : Node) : Pres (assign bid v) :=
  Pres.modify _ fun d => Keeps.updBind d bid v

theorem Pres.appendValue (sid : Nat) (b : Node) : Pres (appendValue sid b) :=
  Pres.modify _ fun d => Keeps.updSet d sid _ fun n => by cases n <;> rfl

theorem Pres.appendOrderIfNonEmpty (sid : Nat) (b : Node) : Pres (appendOrderIfNonEmpty sid b) :=
  Pres.modify _ fun d => Keeps.updSet d sid _ fun n => by
    cases n <;> try rfl
    dsimp only; split <;> rfl

theorem Pres.removeValueById (sid bid : Nat) : Pres (removeValueById sid bid) :=
  Pres.modify _ fun d => Keeps.updSet d sid _ fun n => by cases n <;> rfl

theorem Pres.setSetItem (s : Node) (key : Text) (v : Node) : Pres (setSetItem s key v) := by
  unfold Nima.setSetItem
  split
  · split
    · exact Pres.assign _ _
    · exact Pres.pure _
  · refine Pres.bind Pres.fresh fun _ => ?_
    exact Pres.bind (Pres.appendValue _ _) fun _ => Pres.appendOrderIfNonEmpty _ _
  · exact Pres.throw _

theorem Pres.setDelItem (s : Node) (key : Text) : Pres (setDelItem s key) := by
  unfold Nima.setDelItem
  split
  · split
    · exact Pres.modify _ fun d => Keeps.updSet d _ _ fun n => by cases n <;> rfl
    · exact Pres.pure _
  · exact Pres.throw _

theorem Pres.scopeSetItem (key : Text) (v : Node) : Pres (scopeSetItem key v) := by
  intro d r d' h
  unfold Nima.scopeSetItem at h
  split at h
  · split at h
    · exact Pres.assign _ _ _ _ _ h
    · cases h; exact Keeps.refl _
  · cases h; exact ⟨rfl, rfl, id⟩

theorem Pres.scopeDelItem (key : Text) : Pres (scopeDelItem key) := by
  intro d r d' h
  unfold Nima.scopeDelItem at h
  split at h
  · cases h; exact Keeps.refl _
  · split at h
    · cases h; exact Keeps.refl _
    · cases h; exact ⟨rfl, rfl, id⟩

theorem Pres.setAttrpathWalk (segs : List Text) : ∀ cur, Pres (setAttrpathWalk cur segs) := by
  induction segs with
  | nil => intro cur; exact Pres.pure _
  | cons seg more ih =>
    intro cur
    rw [Nima.setAttrpathWalk.eq_2]
    split
    · split
      · exact ih _
      · exact Pres.throw _
    · refine Pres.ite (Pres.throw _) ?_
      split
      · exact Pres.throw _
      · refine Pres.bind Pres.fresh fun _ => ?_
        refine Pres.bind Pres.fresh fun _ => ?_
        exact Pres.bind (Pres.appendValue _ _) fun _ => ih _

theorem Pres.setAttrpathValue (tsSid : Nat) (root : Node) (segs : List Text) (v : Node) :
    Pres (setAttrpathValue tsSid root segs v) := by
  unfold Nima.setAttrpathValue
  split
  · refine Pres.bind (Pres.setAttrpathWalk _ _) fun c => ?_
    split
    · exact Pres.throw _
    · refine Pres.ite (Pres.throw _) ?_
      split
      · split
        · exact Pres.assign _ _
        · exact Pres.pure _
      · split
        · exact Pres.throw _
        · refine Pres.bind Pres.fresh fun _ => ?_
          exact Pres.bind (Pres.appendValue _ _) fun _ => Pres.appendOrderIfNonEmpty _ _
  · exact Pres.throw _

theorem Pres.pruneParents (st : List (Node × Node)) : Pres (pruneParents st) := by
  induction st with
  | nil => exact Pres.pure _
  | cons pb rest ih =>
    obtain ⟨parent, b⟩ := pb
    rw [Nima.pruneParents.eq_2]
    refine Pres.bind Pres.get fun d => ?_
    split
    · dsimp only
      refine Pres.ite ?_ (Pres.pure _)
      exact Pres.bind (Pres.removeValueById _ _) fun _ => ih
    · exact Pres.pure _

theorem Pres.removeAttrpathValue (ts : Node) (segs : List Text) : Pres (removeAttrpathValue ts segs) := by
  unfold Nima.removeAttrpathValue
  split
  · exact Pres.throw _
  · exact Pres.throw _
  · split
    · split
      · refine Pres.bind (Pres.removeValueById _ _) fun _ => ?_
        refine Pres.bind (Pres.modify _ fun d => Keeps.updSet d _ _ fun n => by cases n <;> rfl) fun _ => ?_
        exact Pres.pruneParents _
      · exact Pres.throw _
    · exact Pres.throw _

theorem Pres.resolveParentWalk (cm : Bool) (segs : List Text) :
    ∀ cur, Pres (resolveParentWalk cm cur segs) := by
  induction segs with
  | nil => intro cur; exact Pres.pure _
  | cons key more ih =>
    intro cur
    rw [Nima.resolveParentWalk.eq_2]
    split
    · exact ih _
    · exact Pres.throw _
    · refine Pres.ite (Pres.throw _) ?_
      split
      · exact Pres.throw _
      · refine Pres.bind Pres.fresh fun _ => ?_
        exact Pres.bind (Pres.setSetItem _ _ _) fun _ => ih _

theorem Pres.assignThrough (ts : Node) (wl : Bool) (name : Text) (v : Node) :
    Pres (assignThrough ts wl name v) := by
  unfold Nima.assignThrough
  refine Pres.bind Pres.get fun d => ?_
  refine Pres.ite (Pres.pure _) ?_
  split
  · exact Pres.bind (Pres.assign _ _) fun _ => Pres.pure _
  · exact Pres.pure _

theorem Pres.assignExisting (ts parent : Node) (wl : Bool) (b v : Node) :
    Pres (assignExisting ts parent wl b v) := by
  unfold Nima.assignExisting
  split
  · refine Pres.bind (Pres.assignThrough _ _ _ _) fun r => ?_
    refine Pres.ite (Pres.pure _) ?_
    refine Pres.bind Pres.get fun d => ?_
    dsimp only
    split
    · split
      · exact Pres.assign _ _
      · exact Pres.pure _
    · split
      · split
        · exact Pres.assign _ _
        · exact Pres.pure _
      · exact Pres.assign _ _
  · exact Pres.assign _ _
  · exact Pres.pure _

theorem Pres.setValueInAttrset (ts : Node) (wl : Bool) (npath : Text) (v : Node) :
    Pres (setValueInAttrset ts wl npath v) := by
  unfold Nima.setValueInAttrset
  split
  · exact Pres.throw _
  · exact Pres.throw _
  · exact Pres.throw _
  · split
    · split
      · exact Pres.assign _ _
      · exact Pres.pure _
    · dsimp only
      refine Pres.ite (Pres.ite (Pres.throw _) ?_) ?_
      · split
        · exact Pres.assignExisting _ _ _ _ _
        · exact Pres.setSetItem _ _ _
      · split
        · exact Pres.setAttrpathValue _ _ _ _
        · refine Pres.bind (Pres.resolveParentWalk _ _ _) fun c => ?_
          split
          · exact Pres.throw _
          · split
            · exact Pres.assignExisting _ _ _ _ _
            · exact Pres.setSetItem _ _ _

theorem Pres.removeValueInAttrset (ts : Node) (npath : Text) : Pres (removeValueInAttrset ts npath) := by
  unfold Nima.removeValueInAttrset
  split
  · exact Pres.throw _
  · exact Pres.throw _
  · refine Pres.ite (Pres.removeAttrpathValue _ _) ?_
    dsimp only
    refine Pres.ite (Pres.ite (Pres.throw _) (Pres.ite (Pres.throw _) (Pres.setDelItem _ _))) ?_
    refine Pres.ite (Pres.removeAttrpathValue _ _) ?_
    refine Pres.bind (Pres.resolveParentWalk _ _ _) fun c => ?_
    split
    · exact Pres.throw _
    · exact Pres.setDelItem _ _

/-! ### scope layers and the two entry points -/

theorem Keeps.setLayerScope (d : Doc) (idx : Nat) (sc : List Node) : Keeps d (d.setLayerScope idx sc) := by
  unfold Doc.setLayerScope
  split
  · exact ⟨rfl, rfl, id⟩
  · split <;> exact ⟨rfl, rfl, id⟩

theorem Keeps.writeScopeLayers (layers : List Layer) (r : Option Layer) (d : Doc) :
    Keeps d (writeScopeLayers layers r d) := by
  unfold Nima.writeScopeLayers
  split
  · dsimp only
    split <;> exact ⟨rfl, rfl, id⟩
  · exact ⟨rfl, rfl, id⟩

theorem onLayer_keeps (layers : List Layer) (fd : Bool) (idx : Nat) (op : Node → EditM Unit)
    (hop : ∀ s, Pres (op s)) : Pres (onLayer layers fd idx op) := by
  intro d r d' h
  cases hl : layers[idx]? with
  | none => rw [onLayer_none hl] at h; cases h; exact Keeps.refl _
  | some l =>
    rw [onLayer_some hl] at h
    rcases hr : op (layerAsSet d.next l) (scratchDoc d l) with ⟨r1, d1⟩
    rw [hr] at h
    have k1 := hop _ _ _ _ hr
    have k2 : Keeps d { d1 with scratch := none } := ⟨k1.1, k1.2.1, fun _ => rfl⟩
    unfold onLayerFinish at h
    cases r1 with
    | ok u => cases h; exact k2
    | error e1 =>
      dsimp only at h
      split at h
      · cases h; exact k2.trans (Keeps.setLayerScope _ _ _)
      · cases h; exact k2

theorem Keeps.same {d d' : Doc} (h : d.same d') : Keeps d d' := by
  have h : { d' with next := d.next } = d := h
  have h1 := congrArg Doc.noTarget h
  have h2 := congrArg (·.target.isSet) h
  have h3 := congrArg Doc.scratch h
  exact ⟨h1, h2, fun hs => h3.trans hs⟩

theorem Keeps.trailing {d d' : Doc} (h : Keeps d d') (t : Payload) : Keeps d { d' with trailing := t } := h
theorem Keeps.rstripped {d d' : Doc} (h : Keeps d d') (b : Bool) : Keeps d { d' with rstripped := b } := h

theorem Pres.dispatch (p : Text) {l : Nat → Text → Node → EditM Unit} {pl : Node → EditM Unit}
    (hl : ∀ k rest ts, Pres (l k rest ts)) (hp : ∀ ts, Pres (pl ts)) : Pres (dispatch p l pl) := by
  intro d r d' h
  rw [dispatch_eq] at h
  split at h
  · cases h; exact Keeps.refl _
  · exact hl _ _ _ _ _ _ h
  · exact hp _ _ _ _ h

theorem Pres.setScoped (v : Node) (depth : Nat) (sp : Text) (ts : Node) : Pres (setScoped v depth sp ts) := by
  intro d r d' h
  unfold Nima.setScoped at h
  dsimp only at h
  split at h
  · cases h; exact Keeps.refl _
  · exact Pres.setValueInAttrset _ _ _ _ _ _ _ h
  · rename_i layers fromDoc d0 hstep
    have k0 : Keeps d d0 := by
      split at hstep
      · split at hstep
        · cases hstep
        · split at hstep
          · cases hstep
          · cases hstep; exact ⟨rfl, rfl, id⟩
      · cases hstep; exact Keeps.refl _
    split at h
    · cases h; exact k0
    · split at h
      · rename_i ho
        cases h
        exact k0.trans ((onLayer_keeps _ _ _ _ (fun s => Pres.setValueInAttrset s _ _ _) _ _ _ ho).trans
          (Keeps.writeScopeLayers _ _ _))
      · rename_i ho
        cases h
        exact k0.trans (onLayer_keeps _ _ _ _ (fun s => Pres.setValueInAttrset s _ _ _) _ _ _ ho)

theorem setValue_keeps (p : Text) (v : ValueArg) : Pres (setValue p v) := by
  cases v with
  | empty => intro d r d' h; cases h; exact Keeps.refl _
  | invalid => intro d r d' h; cases h; exact Keeps.refl _
  | one v =>
    rw [setValue_one]
    exact Pres.dispatch p (Pres.setScoped v) fun ts => Pres.setValueInAttrset ts true p v

theorem Pres.removeScoped (depth : Nat) (sp : Text) : Pres (removeScoped depth sp) := by
  intro d r d' h
  unfold Nima.removeScoped at h
  dsimp only at h
  split at h
  · cases h; exact Keeps.refl _
  · split at h
    · rename_i ho
      cases h
      exact onLayer_keeps _ _ _ _ (fun s => Pres.removeValueInAttrset s _) _ _ _ ho
    · rename_i layers' d1 ho
      cases h
      obtain ⟨t, rs, e⟩ := rmFinish_eq d ((collectScopeLayers d).length - depth) layers' d1
      rw [e]
      exact ((onLayer_keeps _ _ _ _ (fun s => Pres.removeValueInAttrset s _) _ _ _ ho).trans
        (Keeps.writeScopeLayers _ _ _)).trailing t |>.rstripped rs

theorem removeValue_keeps (p : Text) : Pres (removeValue p) := by
  rw [removeValue_eq]
  exact Pres.dispatch p (fun k rest _ => Pres.removeScoped k rest) fun ts => Pres.removeValueInAttrset ts p

theorem WF.scratch {d : Doc} (h : WF d) : d.scratch = none := Option.isNone_iff_eq_none.mp h.1

theorem WF.of_keeps {d d' : Doc} (h : WF d) (k : Keeps d d') : WF d' :=
  ⟨Option.isNone_iff_eq_none.mpr (k.2.2 (WF.scratch h)), k.2.1.trans h.2⟩

theorem Op.run_keeps (op : Op) : Pres op.run := by
  cases op with
  | set p v => exact setValue_keeps p v
  | rm p => exact removeValue_keeps p

theorem Op.run_error {op : Op} {d d' : Doc} {e : Err} (hscr : d.scratch = none)
    (h : op.run d = (.error e, d')) : Rejected d e d' := by
  cases op with
  | set p v => exact setValue_error hscr h
  | rm p => exact removeValue_error hscr h

/-! ### rejected edits without a scope selector -/

/-- without a scope selector a rejected edit returns exactly the state it started in -/
theorem dispatch_error_exact {p : Text} {l : Nat → Text → Node → EditM Unit} {pl : Node → EditM Unit}
    {d d' : Doc} {e : Err} (hp : splitScopeNpath p = .ok none) (hpl : ∀ ts, FailsClean (pl ts) fun _ => True)
    (h : dispatch p l pl d = (.error e, d')) : d' = d := by
  rw [dispatch_eq] at h
  split at h
  · cases h; rfl
  · rename_i k hr; rw [(route_layer hr).2.2] at hp; cases hp
  · exact (hpl _ _ _ _ h).1

theorem setValue_error_exact {p : Text} {v : ValueArg} {d d' : Doc} {e : Err}
    (hp : splitScopeNpath p = .ok none) (h : setValue p v d = (.error e, d')) : d' = d := by
  cases v with
  | empty => cases h; rfl
  | invalid => cases h; rfl
  | one v =>
    rw [setValue_one] at h
    exact dispatch_error_exact hp (fun ts => (setValueInAttrset_clean ts _ _ _).mono fun _ _ => trivial) h

theorem removeValue_error_exact {p : Text} {d d' : Doc} {e : Err}
    (hp : splitScopeNpath p = .ok none) (h : removeValue p d = (.error e, d')) : d' = d := by
  rw [removeValue_eq] at h
  exact dispatch_error_exact hp (fun ts => (removeValueInAttrset_clean ts _).mono fun _ _ => trivial) h

/-! ### histories -/

theorem finalDoc_nil (d : Doc) : finalDoc d [] = d := rfl

theorem finalDoc_cons (d : Doc) (r : Except Err Unit × Doc) (tr : List (Except Err Unit × Doc)) :
    finalDoc d (r :: tr) = finalDoc r.2 tr := by
  cases tr with
  | nil => rfl
  | cons x xs =>
    have h : (x :: xs).getLast? = some ((x :: xs).getLast (by simp)) := List.getLast?_eq_some_getLast _
    simp [finalDoc, List.getLast?_cons_cons, h]

theorem runOps_cons (op : Op) (ops : List Op) (d : Doc) :
    runOps (op :: ops) d = op.run d :: runOps ops (op.run d).2 := rfl

/-- well-formedness is an invariant of histories, and `noTarget` never changes -/
theorem runOps_wf (ops : List Op) : ∀ (d : Doc), WF d →
    ∀ r ∈ runOps ops d, WF r.2 ∧ r.2.noTarget = d.noTarget := by
  induction ops with
  | nil => intro d _ r hr; cases hr
  | cons op ops ih =>
    intro d hd r hr
    have k := Op.run_keeps op d (op.run d).1 (op.run d).2 rfl
    rw [runOps_cons] at hr
    rcases List.mem_cons.mp hr with rfl | hm
    · exact ⟨WF.of_keeps hd k, k.1⟩
    · obtain ⟨h1, h2⟩ := ih _ (WF.of_keeps hd k) r hm
      exact ⟨h1, h2.trans k.1⟩

theorem runOps_failed_step (ops : List Op) : ∀ (d : Doc) (i : Nat) (e : Err) (d' : Doc), WF d →
    (runOps ops d)[i]? = some (.error e, d') →
    Rejected (finalDoc d ((runOps ops d).take i)) e d' ∧
      (finalDoc d ((runOps ops d).take i)).noTarget = d.noTarget ∧
      WF (finalDoc d ((runOps ops d).take i)) := by
  induction ops with
  | nil => intro d i e d' _ h; simp [runOps] at h
  | cons op ops ih =>
    intro d i e d' hd h
    rw [runOps_cons] at h ⊢
    cases i with
    | zero =>
      simp only [List.getElem?_cons_zero, Option.some.injEq] at h
      simp only [List.take_zero, finalDoc_nil]
      exact ⟨Op.run_error (WF.scratch hd) h, trivial, hd⟩
    | succ k =>
      simp only [List.getElem?_cons_succ] at h
      simp only [List.take_succ_cons, finalDoc_cons]
      have kp := Op.run_keeps op d (op.run d).1 (op.run d).2 rfl
      obtain ⟨h1, h2, h3⟩ := ih _ k e d' (WF.of_keeps hd kp) h
      exact ⟨h1, h2.trans kp.1, h3⟩

theorem runOps_lastGood (ops : List Op) : ∀ (d0 d : Doc), d0.same d → WF d →
    (lastGood d0 (runOps ops d)).same (finalDoc d (runOps ops d)) := by
  induction ops with
  | nil => intro d0 d h _; exact h
  | cons op ops ih =>
    intro d0 d h hd
    rw [runOps_cons, finalDoc_cons]
    have kp := Op.run_keeps op d (op.run d).1 (op.run d).2 rfl
    rcases hr : op.run d with ⟨r, d1⟩
    rw [hr] at kp
    cases r with
    | ok u => exact ih d1 d1 (Doc.same_refl _) (WF.of_keeps hd kp)
    | error e =>
      have hs := (Op.run_error (WF.scratch hd) hr).1
      exact ih d0 d1 (Doc.same_trans h hs) (WF.of_keeps hd kp)

theorem Op.run_error_exact {op : Op} {d d' : Doc} {e : Err} (hp : op.plain)
    (h : op.run d = (.error e, d')) : d' = d := by
  cases op with
  | set p v => exact setValue_error_exact (splitScopeNpath_plain hp) h
  | rm p => exact removeValue_error_exact (splitScopeNpath_plain hp) h

theorem runOps_goodOps (ops : List Op) : ∀ (d : Doc), (∀ op ∈ ops, op.plain) →
    runOps (goodOps ops d) d = (runOps ops d).filter isOk := by
  induction ops with
  | nil => intro d _; rfl
  | cons op ops ih =>
    intro d hp
    have hp' : ∀ o ∈ ops, o.plain := fun o ho => hp o (List.mem_cons_of_mem _ ho)
    rw [runOps_cons]
    rcases hr : op.run d with ⟨r, d1⟩
    cases r with
    | ok u =>
      simp only [goodOps, hr, runOps_cons, List.filter, isOk]
      rw [ih d1 hp']
    | error e =>
      have := Op.run_error_exact (hp op (List.mem_cons_self ..)) hr
      subst this
      simp only [goodOps, hr, List.filter, isOk]
      exact ih _ hp'

end Nima.EditFail
