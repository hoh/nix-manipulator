import NimaVerif.Lemmas.Layers
/-!
Traces: every run of an attrset-level edit is a list of in-place writes (`Upd`) whose targets lie
in a footprint: a pair `A S` of sets of identities, the Binding objects and the AttributeSet objects
a write may address (`Upd.Allowed`). Generic machinery (this file) and the per-function lemmas
(`Lemmas/TraceEdit.lean`).
-/
namespace Nima
-- name tokens are compared by spelling in this file (see `NameCmp` in Model/Edit.lean)
attribute [local instance] NameCmp.spelled

open Node EditM

/-! ### `applyAll` -/

@[simp] theorem applyAll_nil (d : Doc) : applyAll [] d = d := rfl
@[simp] theorem applyAll_cons (u : Upd) (us : List Upd) (d : Doc) :
    applyAll (u :: us) d = applyAll us (u.apply d) := rfl
theorem applyAll_append (us vs : List Upd) (d : Doc) :
    applyAll (us ++ vs) d = applyAll vs (applyAll us d) := by
  simp [applyAll, List.foldl_append]

@[simp] theorem applyAllNode_nil' : applyAllNode [] = id := by funext n; rfl
@[simp] theorem applyAllLayer_nil' : applyAllLayer [] = id := by funext n; rfl
@[simp] theorem applyAllNode_nil (n : Node) : applyAllNode [] n = n := rfl
@[simp] theorem applyAllNode_cons (u : Upd) (us : List Upd) (n : Node) :
    applyAllNode (u :: us) n = applyAllNode us (u.applyNode n) := rfl
@[simp] theorem applyAllLayer_nil (l : Layer) : applyAllLayer [] l = l := rfl
@[simp] theorem applyAllLayer_cons (u : Upd) (us : List Upd) (l : Layer) :
    applyAllLayer (u :: us) l = applyAllLayer us (u.applyLayer l) := rfl

@[simp] theorem applyNode_bump : Upd.bump.applyNode = id := by funext n; rfl
@[simp] theorem applyNode_assign (b : Nat) (v : Node) :
    (Upd.assign b v).applyNode = updBind b v := by funext n; rfl
@[simp] theorem applyNode_onSet (s : Nat) (f : SetFn) :
    (Upd.onSet s f).applyNode = updSet s f.fn := by funext n; rfl
@[simp] theorem applyLayer_bump : Upd.bump.applyLayer = id := by funext n; rfl
@[simp] theorem applyLayer_assign (b : Nat) (v : Node) :
    (Upd.assign b v).applyLayer = Layer.updBind b v := by funext n; rfl
@[simp] theorem applyLayer_onSet (s : Nat) (f : SetFn) :
    (Upd.onSet s f).applyLayer = Layer.updSet s f.fn := by funext n; rfl

theorem apply_next_le (u : Upd) (d : Doc) : d.next ≤ (u.apply d).next := by
  cases u <;> simp [Upd.apply, Doc.updBind, Doc.updSet]

theorem applyAll_next_le (us : List Upd) (d : Doc) : d.next ≤ (applyAll us d).next := by
  induction us generalizing d with
  | nil => exact Nat.le_refl _
  | cons u us ih => exact Nat.le_trans (apply_next_le u d) (ih _)

/-- what no write touches -/
structure SameFrame (d d' : Doc) : Prop where
  noTarget : d'.noTarget = d.noTarget
  tBefore : d'.tBefore = d.tBefore
  tAfter : d'.tAfter = d.tAfter
  stBodyBefore : d'.stBodyBefore = d.stBodyBefore
  stBodyAfter : d'.stBodyAfter = d.stBodyAfter
  stAfterLet : d'.stAfterLet = d.stAfterLet
  trailing : d'.trailing = d.trailing
  rstripped : d'.rstripped = d.rstripped

theorem apply_frame (u : Upd) (d : Doc) : SameFrame d (u.apply d) := by
  cases u <;> constructor <;> rfl

theorem applyAll_frame (us : List Upd) (d : Doc) : SameFrame d (applyAll us d) := by
  induction us generalizing d with
  | nil => constructor <;> rfl
  | cons u us ih =>
    have h1 := apply_frame u d
    have h2 := ih (u.apply d)
    constructor
    · exact h2.noTarget.trans h1.noTarget
    · exact h2.tBefore.trans h1.tBefore
    · exact h2.tAfter.trans h1.tAfter
    · exact h2.stBodyBefore.trans h1.stBodyBefore
    · exact h2.stBodyAfter.trans h1.stBodyAfter
    · exact h2.stAfterLet.trans h1.stAfterLet
    · exact h2.trailing.trans h1.trailing
    · exact h2.rstripped.trans h1.rstripped

theorem apply_target (u : Upd) (d : Doc) : (u.apply d).target = u.applyNode d.target := by
  cases u <;> rfl
theorem applyAll_target (us : List Upd) (d : Doc) :
    (applyAll us d).target = applyAllNode us d.target := by
  induction us generalizing d with
  | nil => rfl
  | cons u us ih => simp [ih, apply_target]

theorem apply_scratch (u : Upd) (d : Doc) : (u.apply d).scratch = d.scratch.map u.applyNode := by
  cases u <;> simp [Upd.apply, Doc.updBind, Doc.updSet]
theorem applyAll_scratch (us : List Upd) (d : Doc) :
    (applyAll us d).scratch = d.scratch.map (applyAllNode us) := by
  induction us generalizing d with
  | nil => simp
  | cons u us ih =>
    simp only [applyAll_cons, ih, apply_scratch, Option.map_map]
    congr 1

theorem collect_mapNodes (g : Node → Node) (d : Doc) :
    collectScopeLayers (d.mapNodes g) = (collectScopeLayers d).map (Layer.mapNodes g) := by
  simp only [collectScopeLayers, Doc.mapNodes, List.isEmpty_map, List.map_append, List.filter_map]
  congr 1
  · by_cases h : d.scope.isEmpty = true <;> simp [h, Layer.mapNodes]
  · congr 1
    apply List.filter_congr
    intro l _
    simp [Layer.mapNodes]

theorem collect_apply (u : Upd) (d : Doc) :
    collectScopeLayers (u.apply d) = (collectScopeLayers d).map u.applyLayer := by
  cases u with
  | bump => simp [Upd.apply, collectScopeLayers]
  | assign bid v =>
    rw [applyLayer_assign, Layer.updBind_eq_mapNodes, ← collect_mapNodes, ← Doc.updBind_eq_mapNodes]
    rfl
  | onSet sid f =>
    rw [applyLayer_onSet, Layer.updSet_eq_mapNodes, ← collect_mapNodes, ← Doc.updSet_eq_mapNodes]
    rfl

theorem collect_applyAll (us : List Upd) (d : Doc) :
    collectScopeLayers (applyAll us d) = (collectScopeLayers d).map (applyAllLayer us) := by
  induction us generalizing d with
  | nil => simp
  | cons u us ih =>
    simp only [applyAll_cons, ih, collect_apply, List.map_map]
    congr 1

theorem applyAllLayer_frame (us : List Upd) (l : Layer) :
    (applyAllLayer us l).bodyBefore = l.bodyBefore ∧ (applyAllLayer us l).bodyAfter = l.bodyAfter ∧
    (applyAllLayer us l).afterLet = l.afterLet ∧
    (applyAllLayer us l).nonEmpty = l.nonEmpty := by
  induction us generalizing l with
  | nil => simp
  | cons u us ih =>
    obtain ⟨a, b, c, e⟩ := ih (u.applyLayer l)
    simp only [applyAllLayer_cons, a, b, c, e]
    cases u <;> simp [Layer.updBind, Layer.updSet, Layer.nonEmpty]

/-! ### traced computations -/

/-- every run of `m` from a state with `N ≤ next` is a list of allowed writes, and its result
    satisfies `Q` -/
def Traced {α} (grow : Bool) (A S : Nat → Prop) (N : Nat) (m : EditM α) (Q : α → Prop) : Prop :=
  ∀ d : Doc, N ≤ d.next → ∃ us, (m d).2 = applyAll us d ∧ (∀ u ∈ us, u.Allowed grow A S) ∧
    ∀ a, (m d).1 = .ok a → Q a

namespace Traced
variable {α β : Type} {grow : Bool} {A S : Nat → Prop} {N : Nat}

theorem pure {a : α} {Q : α → Prop} (h : Q a) : Traced grow A S N (Pure.pure a : EditM α) Q := by
  intro d _
  exact ⟨[], rfl, by simp, fun a' ha => by cases ha; exact h⟩

theorem throw {e : Err} {Q : α → Prop} : Traced grow A S N (EditM.throw e : EditM α) Q := by
  intro d _
  exact ⟨[], rfl, by simp, fun a' ha => by cases ha⟩

theorem get : Traced grow A S N EditM.get (fun _ => True) := by
  intro d _
  exact ⟨[], rfl, by simp, fun _ _ => trivial⟩

theorem mono {m : EditM α} {Q Q' : α → Prop} (h : Traced grow A S N m Q) (hq : ∀ a, Q a → Q' a) :
    Traced grow A S N m Q' := by
  intro d hd
  obtain ⟨us, h1, h2, h3⟩ := h d hd
  exact ⟨us, h1, h2, fun a ha => hq a (h3 a ha)⟩

theorem bind {m : EditM α} {f : α → EditM β} {Q : α → Prop} {R : β → Prop}
    (hm : Traced grow A S N m Q) (hf : ∀ a, Q a → Traced grow A S N (f a) R) :
    Traced grow A S N (m >>= f) R := by
  intro d hd
  obtain ⟨us, h1, h2, h3⟩ := hm d hd
  simp only [EditM.bind_apply]
  cases hr : m d with
  | mk r d1 =>
    rw [hr] at h1 h3
    simp only at h1 h3
    cases r with
    | error e => exact ⟨us, h1, h2, fun a ha => by cases ha⟩
    | ok a =>
      have hd1 : N ≤ d1.next := by rw [h1]; exact Nat.le_trans hd (applyAll_next_le us d)
      have h3' := h3 a rfl
      obtain ⟨vs, g1, g2, g3⟩ := hf a h3' d1 hd1
      subst h1
      refine ⟨us ++ vs, ?_, ?_, g3⟩
      · simp only [g1, applyAll_append]
      · intro u hu
        rcases List.mem_append.1 hu with hu | hu
        · exact h2 u hu
        · exact g2 u hu

theorem ite {c : Prop} [Decidable c] {t e : EditM α} {Q : α → Prop}
    (ht : Traced grow A S N t Q) (he : Traced grow A S N e Q) :
    Traced grow A S N (if c then t else e) Q := by
  split
  · exact ht
  · exact he

theorem fresh : Traced grow A S N Nima.fresh (fun i => N ≤ i) := by
  intro d hd
  refine ⟨[.bump], rfl, ?_, fun a ha => ?_⟩
  · intro u hu; simp only [List.mem_singleton] at hu; subst hu; trivial
  · simp only [fresh_apply] at ha; injection ha with ha; subst ha; exact hd

theorem assign {bid : Nat} {v : Node} (h : A bid) :
    Traced grow A S N (Nima.assign bid v) (fun _ => True) := by
  intro d _
  refine ⟨[.assign bid v], rfl, ?_, fun _ _ => trivial⟩
  intro u hu; simp only [List.mem_singleton] at hu; subst hu; exact h

/-- a `modify` that mutates the set object `sid` by `g`, where `g` is the set function `f` -/
theorem onSet {sid : Nat} (f : SetFn) {g : Node → Node} (hf : g = f.fn) (h : S sid)
    (hg : grow = true → f.grows = true) :
    Traced grow A S N (EditM.modify fun d => d.updSet sid g) (fun _ => True) := by
  subst hf
  intro d _
  refine ⟨[.onSet sid f], rfl, ?_, fun _ _ => trivial⟩
  intro u hu; simp only [List.mem_singleton] at hu; subst hu; exact ⟨h, hg⟩

end Traced

namespace Traced
variable {grow : Bool} {A S : Nat → Prop} {N : Nat}

theorem appendValue {sid : Nat} {b : Node} (h : S sid) :
    Traced grow A S N (Nima.appendValue sid b) (fun _ => True) := by
  rw [appendValue_eq_modify]; exact onSet (.appendValue b) rfl h (fun _ => rfl)
theorem appendOrder {sid : Nat} {x : Node} (h : S sid) :
    Traced grow A S N (appendOrderIfNonEmpty sid x) (fun _ => True) := by
  rw [appendOrder_eq_modify]; exact onSet (.appendOrder x) rfl h (fun _ => rfl)
theorem removeValueById {sid bid : Nat} (h : S sid) :
    Traced false A S N (Nima.removeValueById sid bid) (fun _ => True) := by
  rw [removeValueById_eq_modify]; exact onSet (.removeValue bid) rfl h (fun hh => by cases hh)
end Traced

end Nima
