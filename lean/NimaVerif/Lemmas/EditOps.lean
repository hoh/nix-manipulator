import NimaVerif.Lemmas.EditTree
/-! The operations of `cli/manipulations.py` (model: `Model/Edit.lean`) read through `denote`: each
mutation of the object found by a walk is a `graft` at the walked path, and each loop of the Python
(`_resolve_npath_parent`, `_set_attrpath_value`, the prune loop of `_remove_attrpath_value`) refines
the recursion of `specSetK` / `specRemoveK` on the attributes below that path. The sections go from
paths and the spec side, through lookups, walks and the primitive mutations, to the loops, the case
equations of `_set_value_in_attrset` / `_remove_value_in_attrset`, pruning, and what the text shows
when `attrpath_order` is not in use. -/
namespace Nima
-- name tokens are compared by spelling in this file (see `NameCmp` in Model/Edit.lean)
attribute [local instance] NameCmp.spelled
open Node

/-! ### paths: what `formatNPath` accepts; the last name of a path -/

private def AtState (st : NPState) : Prop :=
  st.inQuotes = false ∧ st.quotedSeg = false ∧ st.buf.head? = some '@'

/-- a segment that starts with `@` is not empty and not a bare identifier -/
private theorem not_ident_of_at (buf : Text) (h : buf.head? = some '@') :
    buf ≠ [] ∧ reMatchIdent false buf = false := by
  cases buf with
  | nil => cases h
  | cons c cs =>
    simp only [List.head?_cons, Option.some.injEq] at h
    subst h
    have : identStart '@' = false := by decide
    exact ⟨List.cons_ne_nil _ _, by simp [reMatchIdent, isIdent, this]⟩

private theorem npStep_at (st : NPState) (ch : Char) (h : AtState st) :
    (∃ e, npStep false st ch = .error e) ∨ (∃ st', npStep false st ch = .ok st' ∧ AtState st') := by
  obtain ⟨h1, h2, h3⟩ := h
  obtain ⟨hb, hid⟩ := not_ident_of_at st.buf h3
  unfold npStep
  simp only [h1, Bool.false_eq_true, if_false]
  by_cases hd : ch = '.'
  · left
    simp [hd, npFinalize, h2, hb, hid]
  · simp only [hd, if_false, h2, Bool.false_eq_true]
    by_cases hq : ch = '"'
    · left; simp [hq, hb]
    · right
      simp only [hq, if_false]
      refine ⟨_, rfl, ?_, ?_, ?_⟩
      · simp
      · simp
      · cases hbuf : st.buf with
        | nil => exact absurd hbuf hb
        | cons c cs => simpa [hbuf] using h3

private theorem npRun_at (p : Text) : ∀ st, AtState st →
    (∃ e, npRun false st p = .error e) ∨ (∃ st', npRun false st p = .ok st' ∧ AtState st') := by
  induction p with
  | nil => intro st h; exact Or.inr ⟨st, rfl, h⟩
  | cons c cs ih =>
    intro st h
    rcases npStep_at st c h with ⟨e, he⟩ | ⟨st', he, h'⟩
    · left; exact ⟨e, by simp [npRun, he]⟩
    · simp only [npRun, he]; exact ih st' h'

theorem parseNPath_no_at (rest : Text) : ∃ e, parseNPath false ('@' :: rest) = .error e := by
  unfold parseNPath
  simp only [List.isEmpty_cons, Bool.false_eq_true, if_false, npRun]
  have h0 : npStep false {} '@' = .ok { buf := ['@'] } := by decide
  simp only [h0]
  rcases npRun_at rest { buf := ['@'] } ⟨rfl, rfl, rfl⟩ with ⟨e, he⟩ | ⟨st', he, h1, h2, h3⟩
  · exact ⟨e, by simp [he]⟩
  · simp only [he]
    split
    · exact ⟨_, rfl⟩
    · split
      · exact ⟨_, rfl⟩
      · obtain ⟨hb, hid⟩ := not_ident_of_at st'.buf h3
        simp [npFinalize, h2, hb, hid]

theorem formatNPath_unscoped (p : Text) (segs : List Text) (h : formatNPath currentAnchor p = .ok segs) :
    splitScopeNpath p = .ok none := by
  cases p with
  | nil => simp [splitScopeNpath]
  | cons c cs =>
    by_cases hc : c = '@'
    · subst hc
      obtain ⟨e, he⟩ := parseNPath_no_at cs
      simp [formatNPath, currentAnchor, he, Except.map] at h
    · have : (c == '@') = false := by simpa using hc
      simp [splitScopeNpath, List.takeWhile, this]

theorem formatNPath_ne_nil (p : Text) (segs : List Text) (h : formatNPath currentAnchor p = .ok segs) :
    segs ≠ [] := by
  unfold formatNPath parseNPath at h
  split at h
  · cases h
  · split at h
    · cases h
    · split at h
      · cases h
      · split at h
        · cases h
        · split at h
          · rename_i st' hfin
            simp only [Except.map] at h
            injection h with h
            unfold npFinalize at hfin
            split at hfin
            · cases hfin
            · split at hfin
              · cases hfin
              · injection hfin with hfin
                subst hfin; subst h
                simp
          · cases h

/-- a key without `.`, `"` and `$` is never read as a dotted path -/
theorem plainKey_simple (k : Text) (h : ∀ c ∈ k, c ≠ '.' ∧ c ≠ '"' ∧ c ≠ '$') : plainKey k = true := by
  unfold plainKey
  cases e : splitAttrpath k with
  | error _ => rfl
  | ok segs => simpa using splitAttrpath_simple k h segs e

theorem identRest_ne_dollar (c : Char) (h : identRest c = true) : c ≠ '$' := by
  intro hc; subst hc; revert h; decide
theorem identStart_ne_dollar (c : Char) (h : identStart c = true) : c ≠ '$' := by
  intro hc; subst hc; revert h; decide
theorem identStart_ne' (c : Char) (h : identStart c = true) : c ≠ '.' ∧ c ≠ '"' := by
  constructor <;> (intro hc; subst hc; revert h; decide)
theorem identRest_ne' (c : Char) (h : identRest c = true) : c ≠ '.' ∧ c ≠ '"' := by
  constructor <;> (intro hc; subst hc; revert h; decide)

/-- every bare identifier segment is a plain key -/
theorem plainKey_ident (k : Text) (h : isIdent k = true) : plainKey k = true := by
  apply plainKey_simple
  cases k with
  | nil => simp [isIdent] at h
  | cons d ds =>
    simp only [isIdent, Bool.and_eq_true, List.all_eq_true] at h
    intro c hc
    rcases List.mem_cons.mp hc with rfl | hm
    · exact ⟨(identStart_ne' _ h.1).1, (identStart_ne' _ h.1).2, identStart_ne_dollar _ h.1⟩
    · exact ⟨(identRest_ne' _ (h.2 c hm)).1, (identRest_ne' _ (h.2 c hm)).2, identRest_ne_dollar _ (h.2 c hm)⟩

theorem getLast_split (segs : List Text) (hne : segs ≠ []) :
    ∃ final, segs.getLast? = some final ∧ segs.dropLast ++ [final] = segs := by
  exact ⟨segs.getLast hne, List.getLast?_eq_some_getLast hne, List.dropLast_concat_getLast hne⟩

theorem getLast_cons_snoc {α} (a : α) (l : List α) (x : α) : (a :: (l ++ [x])).getLast? = some x := by
  rw [← List.cons_append, List.getLast?_append]; simp

theorem take_dropLast {α} (l : List α) (j : Nat) (h : j < l.length) : l.dropLast.take j = l.take j := by
  rw [List.dropLast_eq_take, List.take_take]; congr 1; omega

/-! ### attribute lists and trees (spec side): `graft`, `specSet`, `specRemove`, pruning -/

@[simp] theorem AttrTree.kids_node (ks : Kids) : (AttrTree.node ks).kids = ks := rfl

theorem Kids.lookup_of_mem_nodup (k : Text) (t : AttrTree) (kids : Kids) (hn : (Kids.keys kids).Nodup)
    (hm : (k, t) ∈ kids) : Kids.lookup k kids = some t := by
  induction kids with
  | nil => simp at hm
  | cons x r ih =>
    obtain ⟨k', t'⟩ := x
    simp only [Kids.keys_cons, List.nodup_cons] at hn
    rcases List.mem_cons.mp hm with e | hm
    · injection e with e1 e2; subst e1 e2; simp
    · have : k' ≠ k := by
        intro e; subst e
        exact hn.1 (List.mem_map.mpr ⟨_, hm, rfl⟩)
      simp only [Kids.lookup_cons, this, if_false]
      exact ih hn.2 hm

theorem Kids.upsert_self (k : Text) (t : AttrTree) (kids : Kids) (h : Kids.lookup k kids = some t) :
    Kids.upsert k t kids = kids := by
  induction kids with
  | nil => simp at h
  | cons x r ih =>
    obtain ⟨k', t'⟩ := x
    simp only [Kids.lookup_cons] at h
    simp only [Kids.upsert_cons]
    split
    · rename_i e; simp only [e, if_true, Option.some.injEq] at h; rw [← e, h]
    · rename_i e; simp only [e, if_false] at h; rw [ih h]

theorem Kids.erase_upsert (k : Text) (t : AttrTree) (kids : Kids) (h : (Kids.lookup k kids).isSome = true) :
    Kids.erase k (Kids.upsert k t kids) = Kids.erase k kids := by
  induction kids with
  | nil => simp at h
  | cons x r ih =>
    obtain ⟨k', t'⟩ := x
    simp only [Kids.lookup_cons] at h
    simp only [Kids.upsert_cons, Kids.erase_cons]
    split
    · simp
    · rename_i e; simp only [e, if_false] at h; simp only [Kids.erase_cons, e, if_false, ih h]

theorem lookup_ne_nil (k : Text) (kids : Kids) (h : (Kids.lookup k kids).isSome = true) : kids ≠ [] := by
  intro e; simp [e] at h

theorem graft_isNode (ks : List Text) (x t : AttrTree) (hx : x.isNode = true) (ht : t.isNode = true) :
    (graft ks x t).isNode = true := by
  cases ks with
  | nil => simpa using hx
  | cons k r => cases t <;> simp_all [graft, AttrTree.isNode]

theorem graft_node (r : List Text) (x : Kids) (sub1 : Kids) :
    ∃ G, graft r (.node x) (.node sub1) = .node G := by
  have := graft_isNode r (.node x) (.node sub1) rfl rfl
  cases hg : graft r (.node x) (.node sub1) with
  | node G => exact ⟨G, rfl⟩
  | leaf v => simp [hg, AttrTree.isNode] at this

theorem isNode_of_treeAt_node (t : AttrTree) (sub : Kids) (ks : List Text) (h : treeAt t ks = some (.node sub)) :
    ∃ kids, t = .node kids := by
  cases t with
  | node kids => exact ⟨kids, rfl⟩
  | leaf v => cases ks <;> simp [treeAt] at h

/-- the first step of a path that ends in a node goes through a node -/
theorem treeAt_node_cons {kids sub : Kids} {k : Text} {r : List Text}
    (h : treeAt (.node kids) (k :: r) = some (.node sub)) :
    ∃ sub1, Kids.lookup k kids = some (.node sub1) ∧ treeAt (.node sub1) r = some (.node sub) := by
  obtain ⟨kids', t, e, hk, h⟩ := treeAt_cons_some h
  cases e
  obtain ⟨sub1, rfl⟩ := isNode_of_treeAt_node t sub r h
  exact ⟨sub1, hk, h⟩

/-- `set` along an existing parent path is: upsert the last key in the set found there. -/
theorem specSet_graft (v : Node) (final : Text) (ks : List Text) : ∀ (kids sub : Kids),
    treeAt (.node kids) ks = some (.node sub) →
    specSet (.node kids) (ks ++ [final]) v =
      some (graft ks (.node (Kids.upsert final (denote v) sub)) (.node kids)) := by
  induction ks with
  | nil =>
    intro kids sub h
    simp only [treeAt_nil, Option.some.injEq, AttrTree.node.injEq] at h; subst h
    simp [specSet, specSetK_single]
  | cons k r ih =>
    intro kids sub h
    obtain ⟨sub1, hk, h⟩ := treeAt_node_cons h
    have := ih sub1 sub h
    simp only [specSet, Option.map_eq_some_iff] at this
    obtain ⟨s', hs', e⟩ := this
    simp only [specSet, List.cons_append, specSetK_node v kids sub1 k (r ++ [final]) (by simp) hk, hs',
      Option.map_some, graft, hk, Option.getD_some, e]

/-- `rm` without pruning is: erase the last key in the set found at the parent path. -/
theorem specRemove_graft (final : Text) (ks : List Text) : ∀ (kids sub : Kids),
    treeAt (.node kids) ks = some (.node sub) → (Kids.lookup final sub).isSome = true →
    specRemove (.node kids) (ks ++ [final]) false =
      some (graft ks (.node (Kids.erase final sub)) (.node kids)) := by
  induction ks with
  | nil =>
    intro kids sub h hl
    simp only [treeAt_nil, Option.some.injEq, AttrTree.node.injEq] at h; subst h
    simp [specRemove, specRemoveK_single, hl]
  | cons k r ih =>
    intro kids sub h hl
    obtain ⟨sub1, hk, h⟩ := treeAt_node_cons h
    have := ih sub1 sub h hl
    simp only [specRemove, Option.map_eq_some_iff] at this
    obtain ⟨s', hs', e⟩ := this
    simp only [specRemove, List.cons_append, specRemoveK_node false kids sub1 k (r ++ [final]) (by simp) hk, hs',
      Option.map_some, Bool.false_and, Bool.false_eq_true, if_false, graft, hk, Option.getD_some, e]

/-- drop the sets along `ks` that are empty, innermost first, stopping at the first non-empty one -/
def pruneK : Kids → List Text → Kids
  | kids, [] => kids
  | kids, k :: ks =>
    match Kids.lookup k kids with
    | some (.node sub) =>
      let sub' := pruneK sub ks
      if sub'.isEmpty then Kids.erase k kids else Kids.upsert k (.node sub') kids
    | _ => kids

/-- `rm` with pruning = `rm` without, then prune along the parent path -/
theorem specRemoveK_prune (final : Text) (ks : List Text) : ∀ (kids sub : Kids),
    treeAt (.node kids) ks = some (.node sub) → (Kids.lookup final sub).isSome = true →
    specRemoveK true kids (ks ++ [final]) =
      some (pruneK (graft ks (.node (Kids.erase final sub)) (.node kids)).kids ks) := by
  induction ks with
  | nil =>
    intro kids sub h hl
    simp only [treeAt_nil, Option.some.injEq, AttrTree.node.injEq] at h; subst h
    simp [specRemoveK_single, hl, pruneK, AttrTree.kids]
  | cons k r ih =>
    intro kids sub h hl
    obtain ⟨sub1, hk, h⟩ := treeAt_node_cons h
    have hih := ih sub1 sub h hl
    obtain ⟨G, hG⟩ := graft_node r (Kids.erase final sub) sub1
    simp only [hG, AttrTree.kids] at hih
    simp only [List.cons_append, specRemoveK_node true kids sub1 k (r ++ [final]) (by simp) hk, hih,
      Option.map_some, Bool.true_and, graft, hk, Option.getD_some, hG, AttrTree.kids, pruneK,
      Kids.lookup_upsert_self]
    split
    · rw [Kids.erase_upsert k _ kids (by simp [hk])]
    · rw [Kids.upsert_upsert]

theorem pruneK_snoc_nonempty (k : Text) (ks : List Text) : ∀ (K sub : Kids),
    treeAt (.node K) (ks ++ [k]) = some (.node sub) → sub ≠ [] → pruneK K (ks ++ [k]) = K := by
  induction ks with
  | nil =>
    intro K sub h hne
    simp only [List.nil_append, treeAt] at h
    cases hk : Kids.lookup k K with
    | none => simp [hk] at h
    | some t =>
      simp only [hk, Option.some.injEq] at h; subst h
      simp only [List.nil_append, pruneK, hk]
      have : sub.isEmpty = false := by cases sub <;> simp_all
      simp only [this, Bool.false_eq_true, if_false]
      exact Kids.upsert_self k _ K hk
  | cons k0 r ih =>
    intro K sub h hne
    obtain ⟨sub0, hk, h⟩ := treeAt_node_cons h
    simp only [List.cons_append, pruneK, hk, ih sub0 sub h hne]
    have : sub0.isEmpty = false := by
      cases sub0 with
      | nil => cases r <;> simp [treeAt] at h
      | cons a b => rfl
    simp only [this, Bool.false_eq_true, if_false]
    exact Kids.upsert_self k0 _ K hk

theorem pruneK_snoc_empty (k : Text) (ks : List Text) : ∀ (K par : Kids),
    treeAt (.node K) ks = some (.node par) → Kids.lookup k par = some (.node []) →
    pruneK K (ks ++ [k]) = pruneK (graft ks (.node (Kids.erase k par)) (.node K)).kids ks := by
  induction ks with
  | nil =>
    intro K par h hl
    simp only [treeAt_nil, Option.some.injEq, AttrTree.node.injEq] at h; subst h
    simp [pruneK, hl, AttrTree.kids]
  | cons k0 r ih =>
    intro K par h hl
    obtain ⟨sub0, hk, h⟩ := treeAt_node_cons h
    obtain ⟨G, hG⟩ := graft_node r (Kids.erase k par) sub0
    have hih := ih sub0 par h hl
    simp only [hG, AttrTree.kids] at hih
    simp only [List.cons_append, pruneK, hk, hih, graft, Option.getD_some, hG, AttrTree.kids,
      Kids.lookup_upsert_self]
    split
    · rw [Kids.erase_upsert k0 _ K (by simp [hk])]
    · rw [Kids.upsert_upsert]

theorem specSetK_nodup (v : Node) (hv : (denote v).nodup = true) (names : List Text) : ∀ (kids kids' : Kids),
    AttrTree.nodupL kids = true → specSetK v kids names = some kids' → AttrTree.nodupL kids' = true := by
  induction names with
  | nil => intro kids kids' _ h; simp [specSetK] at h
  | cons n rest ih =>
    intro kids kids' hn h
    cases rest with
    | nil =>
      rw [specSetK_single] at h
      injection h with h; subst h
      exact AttrTree.nodupL_upsert n _ kids hn hv
    | cons a b =>
      cases hl : Kids.lookup n kids with
      | none =>
        rw [specSetK_none v kids n (a :: b) (by simp) hl] at h
        cases hs : specSetK v [] (a :: b) with
        | none => simp [hs] at h
        | some sub =>
          simp only [hs, Option.map_some, Option.some.injEq] at h; subst h
          exact AttrTree.nodupL_upsert n _ kids hn (by simpa using ih [] sub (by simp [AttrTree.nodupL]) hs)
      | some t =>
        cases t with
        | leaf x => rw [specSetK_leaf v kids n (a :: b) (by simp) x hl] at h; cases h
        | node sub0 =>
          rw [specSetK_node v kids sub0 n (a :: b) (by simp) hl] at h
          cases hs : specSetK v sub0 (a :: b) with
          | none => simp [hs] at h
          | some sub =>
            simp only [hs, Option.map_some, Option.some.injEq] at h; subst h
            have h0 : AttrTree.nodupL sub0 = true := by simpa using AttrTree.nodupL_lookup n _ kids hn hl
            exact AttrTree.nodupL_upsert n _ kids hn (by simpa using ih sub0 sub h0 hs)

theorem specRemoveK_nodup (prune : Bool) (names : List Text) : ∀ (kids kids' : Kids),
    AttrTree.nodupL kids = true → specRemoveK prune kids names = some kids' → AttrTree.nodupL kids' = true := by
  induction names with
  | nil => intro kids kids' _ h; simp [specRemoveK] at h
  | cons n rest ih =>
    intro kids kids' hn h
    cases rest with
    | nil =>
      rw [specRemoveK_single] at h
      split at h
      · injection h with h; subst h; exact AttrTree.nodupL_erase n kids hn
      · cases h
    | cons a b =>
      cases hl : Kids.lookup n kids with
      | none => rw [specRemoveK_other prune kids n (a :: b) (by simp) (by simp [hl])] at h; cases h
      | some t =>
        cases t with
        | leaf x => rw [specRemoveK_other prune kids n (a :: b) (by simp) (by simp [hl])] at h; cases h
        | node sub0 =>
          rw [specRemoveK_node prune kids sub0 n (a :: b) (by simp) hl] at h
          cases hs : specRemoveK prune sub0 (a :: b) with
          | none => simp [hs] at h
          | some sub =>
            simp only [hs, Option.map_some, Option.some.injEq] at h; subst h
            have h0 : AttrTree.nodupL sub0 = true := by simpa using AttrTree.nodupL_lookup n _ kids hn hl
            split
            · exact AttrTree.nodupL_erase n kids hn
            · exact AttrTree.nodupL_upsert n _ kids hn (by simpa using ih sub0 sub h0 hs)

/-! ### lookups by name in a `values` list -/

@[simp] theorem setSid_set (c : Nat) (vs o : List Node) (m r : Bool) : (Node.set c vs o m r).setSid? = some c := rfl

theorem findNamedBinding_some (vs : List Node) (k : Text) (ne : Bool) (b : Node)
    (h : findNamedBinding vs k (some ne) = some b) :
    ∃ i val bf af, b = .bind i k ne val bf af ∧ b ∈ vs := by
  simp only [findNamedBinding_spelled] at h
  have hm := List.mem_of_find?_eq_some h
  have hp := List.find?_some h
  cases b <;> simp [isBind, bindName?, bindNested] at hp
  rename_i i n ne' val bf af
  obtain ⟨rfl, rfl⟩ := hp
  exact ⟨i, val, bf, af, rfl, hm⟩

theorem findAttrpathRoot_some (vs : List Node) (k : Text) (b : Node) (h : findAttrpathRoot vs k = some b) :
    ∃ i val bf af, b = .bind i k true val bf af ∧ b ∈ vs := by
  simp only [findAttrpathRoot_spelled] at h
  have hm := List.mem_of_find?_eq_some h
  have hp := List.find?_some h
  cases b <;> simp [isBind, bindName?, bindNested] at hp
  rename_i i n ne' val bf af
  obtain ⟨rfl, rfl⟩ := hp
  exact ⟨i, val, bf, af, rfl, hm⟩

theorem mem_denoteL_of_mem (vs : List Node) (k : Text) (i : Nat) (ne : Bool) (val : Node) (bf af : Payload)
    (h : .bind i k ne val bf af ∈ vs) : (k, denote val) ∈ denoteL vs := by
  induction vs with
  | nil => simp at h
  | cons y r ih =>
    simp only [denoteL_cons, List.mem_append]
    rcases List.mem_cons.mp h with e | h
    · left; rw [← e]; simp
    · right; exact ih h

/-- with unique names, any binding of the list named `k` is the one `findBinding` returns -/
theorem findBinding_of_mem (vs : List Node) (k : Text) (i : Nat) (ne : Bool) (val : Node) (bf af : Payload)
    (hn : AttrTree.nodupL (denoteL vs) = true) (hm : .bind i k ne val bf af ∈ vs) :
    findBinding vs k = some (.bind i k ne val bf af) := by
  cases hf : findBinding vs k with
  | none =>
    have := findBinding_none vs k hf _ hm
    simp [isNamed, isBind, bindName?] at this
  | some b' =>
    obtain ⟨i', ne', val', bf', af', pre, post, rfl, hvs, hpre⟩ := findBinding_split _ _ _ hf
    subst hvs
    rcases List.mem_append.mp hm with h | h
    · have := hpre _ h; simp [isNamed, isBind, bindName?] at this
    · rcases List.mem_cons.mp h with h | h
      · rw [h]
      · exfalso
        rw [AttrTree.nodupL_iff] at hn
        have hk := hn.1
        simp only [denoteL_append, denoteL_cons, denoteI_bind, Kids.keys_append, List.singleton_append,
          Kids.keys_cons, List.nodup_append, List.nodup_cons] at hk
        apply hk.2.1.1
        have := mem_denoteL_of_mem post k i ne val bf af h
        exact List.mem_map.mpr ⟨_, this, rfl⟩

theorem nodup_of_mem_bind (vs : List Node) (i : Nat) (k : Text) (ne : Bool) (val : Node) (bf af : Payload)
    (hn : AttrTree.nodupL (denoteL vs) = true) (hm : .bind i k ne val bf af ∈ vs) :
    (denote val).nodup = true :=
  ((AttrTree.nodupL_iff _).mp hn).2 _ (mem_denoteL_of_mem vs k i ne val bf af hm)

theorem findNamedBinding_of_findBinding (vs : List Node) (k : Text) (b : Node)
    (h : findBinding vs k = some b) :
    (findNamedBinding vs k (some true)).isSome = true ∨ (findNamedBinding vs k (some false)).isSome = true := by
  obtain ⟨i, ne, val, bf, af, pre, post, rfl, hvs, _⟩ := findBinding_split _ _ _ h
  have hm : Node.bind i k ne val bf af ∈ vs := by rw [hvs]; simp
  cases ne with
  | true =>
    left
    simp only [findNamedBinding_spelled, List.find?_isSome]
    exact ⟨_, hm, by simp [isBind, bindName?, bindNested]⟩
  | false =>
    right
    simp only [findNamedBinding_spelled, List.find?_isSome]
    exact ⟨_, hm, by simp [isBind, bindName?, bindNested]⟩

theorem findBinding_none_of_named (vs : List Node) (k : Text)
    (h1 : findNamedBinding vs k (some true) = none) (h2 : findNamedBinding vs k (some false) = none) :
    findBinding vs k = none := by
  cases hf : findBinding vs k with
  | none => rfl
  | some b =>
    rcases findNamedBinding_of_findBinding vs k b hf with h | h
    · simp [h1] at h
    · simp [h2] at h

theorem findBinding_key_mem (vs : List Node) (k : Text) (b : Node) (h : findBinding vs k = some b) :
    k ∈ Kids.keys (denoteL vs) := by
  obtain ⟨i, ne, val, bf, af, pre, post, rfl, hvs, _⟩ := findBinding_split _ _ _ h
  have := mem_denoteL_of_mem vs k i ne val bf af (by rw [hvs]; simp)
  exact List.mem_map.mpr ⟨_, this, rfl⟩

theorem inheritMentions_mem (vs : List Node) (k : Text) (h : inheritMentions vs k = true) :
    (k, AttrTree.leaf (.ident k)) ∈ denoteL vs := by
  induction vs with
  | nil => simp [inheritMentions] at h
  | cons x r ih =>
    simp only [inheritMentions, List.any_cons, Bool.or_eq_true] at h
    simp only [denoteL_cons, List.mem_append]
    rcases h with h | h
    · left
      cases x <;> simp at h
      rename_i i names
      simp only [denoteI, List.mem_map]
      exact ⟨k, h, rfl⟩
    · right; exact ih h

theorem inheritMentions_allBind (vs : List Node) (k : Text) (h : vs.all isBind = true) :
    inheritMentions vs k = false := by
  induction vs with
  | nil => rfl
  | cons x r ih =>
    simp only [List.all_cons, Bool.and_eq_true] at h
    simp only [inheritMentions, List.any_cons, Bool.or_eq_false_iff]
    refine ⟨?_, ih h.2⟩
    cases x with
    | bind => rfl
    | _ => exact absurd h.1 Bool.false_ne_true

theorem denoteL_ne_nil (vs : List Node) (h : vs.all isBind = true) (hne : vs ≠ []) : denoteL vs ≠ [] := by
  cases vs with
  | nil => exact absurd rfl hne
  | cons x r =>
    simp only [List.all_cons, Bool.and_eq_true] at h
    cases x with
    | bind => exact List.cons_ne_nil _ _
    | _ => exact absurd h.1 Bool.false_ne_true

theorem setGetItem_err (cur : Node) (k : Text) (e : Err) (h : setGetItem cur k = .error e) :
    findBinding cur.setValues k = none ∧ inheritMentions cur.setValues k = false := by
  unfold setGetItem at h
  cases hf : findBinding cur.setValues k with
  | some b =>
    obtain ⟨v, hv⟩ := isBind_bindValue (findBinding_some hf).2.1
    simp [hf, hv] at h
  | none =>
    simp only [hf] at h
    cases hi : inheritMentions cur.setValues k with
    | true => simp [hi] at h
    | false => exact ⟨rfl, rfl⟩

theorem setGetItem_ok (cur : Node) (k : Text) (v : Node) (hk : plainKey k = true)
    (h : setGetItem cur k = .ok v) :
    stepInto cur k = some v ∨
    (findBinding cur.setValues k = none ∧ inheritMentions cur.setValues k = true ∧ v = .ident k) := by
  unfold setGetItem at h
  cases hf : findBinding cur.setValues k with
  | some b =>
    obtain ⟨v', hv⟩ := isBind_bindValue (findBinding_some hf).2.1
    simp only [hf, hv] at h
    injection h with h; subst h
    exact Or.inl (by simp [stepInto, hf, hv])
  | none =>
    simp only [hf] at h
    cases hi : inheritMentions cur.setValues k with
    | true => simp only [hi, if_true] at h; injection h with h; exact Or.inr ⟨rfl, rfl, h.symm⟩
    | false =>
      simp only [hi, Bool.false_eq_true, if_false] at h
      unfold plainKey at hk
      cases hs : splitAttrpath k with
      | error e => simp [hs] at h
      | ok segs =>
        simp only [hs, decide_eq_true_eq] at hk
        simp [hs, hk] at h

/-! ### sets and bindings found by a walk -/

theorem subAt_empty_set (n : Nat) (ml r : Bool) (o : List Node) (q : List Text) (par : Node)
    (h : subAt (.set n [] o ml r) q = some par) : q = [] ∧ par = .set n [] o ml r := by
  cases q with
  | nil => simp at h; exact ⟨rfl, h.symm⟩
  | cons k ks => simp [subAt, stepInto, setValues, findBinding_spelled] at h

theorem bindId_mem_vIds (x : Node) (i : Nat) (h : x.bindId? = some i) : i ∈ vIds x := by
  cases x <;> simp [bindId?] at h
  subst h; simp [vIds]

theorem ids_subAt (p : List Text) : ∀ (T cur : Node), (vIds T).Nodup → subAt T p = some cur →
    (vIds cur).Nodup := by
  induction p with
  | nil => intro T cur h hp; simp at hp; subst hp; exact h
  | cons k ks ih =>
    intro T cur hid h
    obtain ⟨s, o, m, r, i, ne, val, bf, af, pre, post, rfl, _, h⟩ := subAt_cons_some h
    exact ih val cur (ids_split s pre post i k ne val bf af o m r hid).1 h

theorem eraseP_split (pre post : List Node) (b : Node) (q : Node → Bool) (hb : q b = true)
    (hpre : ∀ x ∈ pre, q x = false) : (pre ++ b :: post).eraseP q = pre ++ post := by
  induction pre with
  | nil => simp [hb]
  | cons y r ih =>
    have hy := hpre y (by simp)
    simp only [List.cons_append, List.eraseP_cons, hy, cond_false]
    rw [ih (fun x hx => hpre x (by simp [hx]))]

/-- a binding found in the set at path `p` is what Nix reads at `p ++ [k]` -/
theorem treeAt_of_findBinding (T : Node) (hk : KeysOK T) (p : List Text) (par : Node)
    (hp : subAt T p = some par) (hset : par.isSet = true) (k : Text) (i : Nat) (ne : Bool) (val : Node)
    (bf af : Payload) (hf : findBinding par.setValues k = some (.bind i k ne val bf af)) :
    treeAt (denote T) (p ++ [k]) = some (denote val) := by
  obtain ⟨c, vs, o, m, r, rfl⟩ := (isSet_iff par).mp hset
  obtain ⟨htp, hn⟩ := located T hk p _ _ _ _ _ hp
  rw [treeAt_append p [k] _ _ htp]
  simp only [treeAt, lookup_of_findBinding vs k i ne val bf af hn hf]

/-- what the last step of `set` needs of the set it lands in -/
def FinalOK (par : Node) (final : Text) : Prop :=
  (∀ b, findBinding par.setValues final = some b → ∀ val, b.bindValue? = some val → isIdentNode val = false) ∧
  inheritMentions par.setValues final = false

/-- "the value now at the path is not a reference" (neither an identifier-valued binding nor an
    inherited name), read off `denote`, is what the last step of `set` needs -/
theorem finalOK_of_noref (T par : Node) (q : List Text) (final : Text) (hk : KeysOK T)
    (hq : subAt T q = some par) (hset : par.isSet = true)
    (h : ∀ nm, treeAt (denote T) (q ++ [final]) ≠ some (.leaf (.ident nm))) : FinalOK par final := by
  obtain ⟨c, vs, o, m, r, rfl⟩ := (isSet_iff par).mp hset
  have htp := treeAt_denote q T _ hk hq
  have hn := nodup_treeAt q _ _ htp hk
  rw [treeAt_append q [final] _ _ htp] at h
  simp only [denote_set, treeAt, AttrTree.nodup_node] at h hn
  constructor
  · intro b hb val hval
    obtain ⟨i, ne, val', bf, af, pre, post, rfl, hvs, hpre⟩ := findBinding_split _ _ _ hb
    simp only [bindValue?, Option.some.injEq] at hval; subst hval
    simp only [setValues] at hvs; subst hvs
    obtain ⟨hkk, _⟩ := keys_split final pre post i ne val' bf af hn
    have hl := (lookup_split final (denoteL pre) (denoteL post) (denote val') hkk).1
    cases val' with
    | ident nm =>
      exfalso; apply h nm
      simp only [denoteL_append, denoteL_cons, denoteI_bind, List.singleton_append, hl]; rfl
    | _ => rfl
  · cases hi : inheritMentions (Node.set c vs o m r).setValues final with
    | false => rfl
    | true =>
      exfalso; apply h final
      have hm := inheritMentions_mem vs final hi
      rw [Kids.lookup_of_mem_nodup final _ _ ((AttrTree.nodupL_iff _).mp hn).1 hm]

/-- the binding a path leads to, following first bindings by name through set values -/
def bindAt : Node → List Text → Option Node
  | _, [] => none
  | T, k :: ks =>
    match ks with
    | [] => findBinding T.setValues k
    | _ :: _ => match stepInto T k with
      | some v => bindAt v ks
      | none => none

theorem bindAt_cons (T : Node) (k : Text) (ks : List Text) (hne : ks ≠ []) :
    bindAt T (k :: ks) = (stepInto T k).bind (bindAt · ks) := by
  cases ks with
  | nil => exact absurd rfl hne
  | cons a b => simp only [bindAt]; cases stepInto T k <;> rfl

theorem bindAt_snoc (init : List Text) (final : Text) : ∀ (T par : Node), subAt T init = some par →
    bindAt T (init ++ [final]) = findBinding par.setValues final := by
  induction init with
  | nil => intro T par h; simp at h; subst h; rfl
  | cons k ks ih =>
    intro T par h
    simp only [subAt] at h
    cases hs : stepInto T k with
    | none => simp [hs] at h
    | some v =>
      simp only [hs] at h
      rw [List.cons_append, bindAt_cons _ k _ (by simp), hs]
      exact ih v par h

theorem denote_nonset (v : Node) (h : v.isSet = false) : ∃ lf, denote v = .leaf lf := by
  cases v <;> simp [isSet] at h <;> exact ⟨_, rfl⟩

/-! ### the primitive mutations, read through `denote` -/

/-- invariants the walks maintain: identities unique, names unique, the next `K` identities unused -/
structure Inv (T : Node) (n K : Nat) : Prop where
  ids : IdsOK T
  keys : KeysOK T
  fresh : FreshFor T n K

theorem FreshFor.mono {T : Node} {n K K' : Nat} (h : FreshFor T n K) (hk : K' ≤ K) : FreshFor T n K' := by
  intro i hi; have := h i hi; omega

/-- One creation step of a walk: a fresh binding `k = <fresh empty set>` is appended to the set found at
    path `p`. -/
theorem step_append (T : Node) (n K : Nat) (hinv : Inv T n (K + 2)) (p : List Text) (c : Nat)
    (vs o : List Node) (m r : Bool) (hp : subAt T p = some (.set c vs o m r))
    (k : Text) (hk : k ∉ Kids.keys (denoteL vs)) (hnone : ∀ x ∈ vs, isNamed k x = false)
    (ne ml : Bool) (f : Node → Node)
    (hf : ∀ vs o m r, ∃ o', f (.set c vs o m r) = .set c (vs ++ [.bind (n + 1) k ne (.set n [] [] ml false) [] []]) o' m r) :
    Inv (updSet c f T) (n + 2) K ∧
    subAt (updSet c f T) (p ++ [k]) = some (.set n [] [] ml false) ∧
    denote (updSet c f T) = graft p (.node (denoteL vs ++ [(k, .node [])])) (denote T) := by
  obtain ⟨o', e⟩ := hf vs o m r
  have hden : denote (updSet c f T) = graft p (.node (denoteL vs ++ [(k, .node [])])) (denote T) := by
    rw [denote_updSet_at f p T _ c hinv.ids hinv.keys hp rfl, e]; simp
  have hperm := vIds_updSet_app _ f c hf p T _ hinv.ids hp rfl
  have htp := treeAt_denote p T _ hinv.keys hp
  refine ⟨⟨?_, ?_, ?_⟩, ?_, hden⟩
  · -- identities
    unfold IdsOK
    rw [hperm.nodup_iff, List.nodup_append]
    refine ⟨hinv.ids, by simp [vIds], ?_⟩
    intro a ha b hb
    have := hinv.fresh a ha
    simp [vIds] at hb
    omega
  · -- names
    unfold KeysOK
    rw [hden]
    refine nodup_graft p _ _ _ htp hinv.keys ?_
    have hcur := nodup_treeAt p _ _ htp hinv.keys
    simp only [denote_set, AttrTree.nodup_node] at hcur ⊢
    exact AttrTree.nodupL_append_new k _ _ hcur (by simp [AttrTree.nodupL]) hk
  · intro i hi
    rw [hperm.mem_iff, List.mem_append] at hi
    rcases hi with hi | hi
    · have := hinv.fresh i hi; omega
    · simp [vIds] at hi; omega
  · rw [subAt_append, subAt_updSet f p T _ c hinv.ids hp rfl, e]
    simp only [Option.bind_some, subAt]
    have := (stepInto_of_split c o' m r (n + 1) k ne (.set n [] [] ml false) [] [] vs [] hnone).2
    rw [this]

/-- `del values[i]` for the binding `bid` (and whatever happens to `attrpath_order`) -/
def IsDelOf (bid : Nat) (g : Node → Node) : Prop :=
  ∀ s vs o m r, ∃ o', g (.set s vs o m r) = .set s (vs.eraseP fun n => n.bindId? == some bid) o' m r

/-- removing the binding named `k` from the set found at `p` erases `k` there -/
theorem denote_del_at (T : Node) (hid : IdsOK T) (hk : KeysOK T) (p : List Text) (c : Nat)
    (vs o : List Node) (m r : Bool) (hp : subAt T p = some (.set c vs o m r)) (k : Text) (b : Node)
    (hf : findBinding vs k = some b) (bid : Nat) (hb : b.bindId? = some bid) (g : Node → Node)
    (hg : IsDelOf bid g) :
    denote (updSet c g T) = graft p (.node (Kids.erase k (denoteL vs))) (denote T) := by
  rw [denote_updSet_at g p T _ c hid hk hp rfl]
  obtain ⟨o', e⟩ := hg c vs o m r
  rw [e]
  obtain ⟨i, ne, val, bf, af, pre, post, rfl, hvs, hpre⟩ := findBinding_split _ _ _ hf
  simp only [bindId?, Option.some.injEq] at hb; subst hb
  subst hvs
  obtain ⟨htp, hn⟩ := located T hk p _ _ _ _ _ hp
  obtain ⟨hkk, _⟩ := keys_split k pre post i ne val bf af hn
  have hsub : (vIds (.set c (pre ++ .bind i k ne val bf af :: post) o m r)).Nodup := by
    exact ids_subAt p T _ hid hp
  obtain ⟨_, _, _, hipre, _⟩ := ids_split c pre post i k ne val bf af o m r hsub
  rw [eraseP_split pre post _ _ (by simp [bindId?]) (fun x hx => by
    cases hq : x.bindId? with
    | none => simp
    | some j =>
      simp only [beq_eq_false_iff_ne, ne_eq, Option.some.injEq]
      intro e; subst e
      exact hipre (vIds_mem_vIdsL x pre hx j (bindId_mem_vIds x j hq)))]
  simp only [denote_set, denoteL_append, denoteL_cons, denoteI_bind, List.singleton_append,
    (lookup_split k (denoteL pre) (denoteL post) (denote val) hkk).2.2]

theorem delItemFn_isDel (bid : Nat) : IsDelOf bid (delItemFn bid) := fun _ _ _ _ _ => ⟨_, rfl⟩

/-- `parent.values.remove(binding)`; the same function as `removeValueFn` of Model/LayerSpec.lean -/
def eraseV (bid : Nat) : Node → Node
  | .set s vs o m r => .set s (vs.eraseP fun n => n.bindId? == some bid) o m r
  | n => n

theorem removeValueById_eq (sid bid : Nat) (d : Doc) :
    removeValueById sid bid d = (.ok (), d.updSet sid (eraseV bid)) := rfl

theorem eraseV_isDel (bid : Nat) : IsDelOf bid (eraseV bid) := fun _ _ _ _ _ => ⟨_, rfl⟩
theorem eraseV_shrinks (bid : Nat) : Shrinks (eraseV bid) :=
  fun _ _ o _ _ => ⟨_, _, rfl, List.eraseP_sublist, List.Sublist.refl o⟩

theorem eraseEntryFn_shrinks (lid : Nat) : Shrinks (eraseEntryFn lid) :=
  fun _ vs _ _ _ => ⟨_, _, rfl, List.Sublist.refl vs, List.eraseP_sublist⟩
theorem eraseEntryFn_orderOnly (lid : Nat) : ∀ s vs o m r, ∃ o', eraseEntryFn lid (.set s vs o m r) = .set s vs o' m r :=
  fun _ _ _ _ _ => ⟨_, rfl⟩

mutual
  /-- a mutation that only touches `attrpath_order` is invisible to Nix -/
  theorem denote_updSet_orderOnly (c : Nat) (g : Node → Node)
      (hg : ∀ s vs o m r, ∃ o', g (.set s vs o m r) = .set s vs o' m r) :
      (x : Node) → denote (updSet c g x) = denote x ∧ denoteI (updSet c g x) = denoteI x
    | .atom _ => ⟨rfl, rfl⟩
    | .ident _ => ⟨rfl, rfl⟩
    | .inherit _ _ => ⟨rfl, rfl⟩
    | .entry _ _ _ _ => ⟨rfl, rfl⟩
    | .set s vs o m r => by
      by_cases h : s = c
      · obtain ⟨o', e⟩ := hg s vs o m r
        simp only [updSet, h, if_true]
        rw [← h, e]; exact ⟨rfl, rfl⟩
      · exact ⟨by simp only [updSet, h, if_false, denote_set, denoteL_updSetL_orderOnly c g hg vs],
               by simp only [updSet, h, if_false]; rfl⟩
    | .bind i n ne val b a => by
      constructor
      · simp only [updSet]; rfl
      · simp only [updSet, denoteI_bind, (denote_updSet_orderOnly c g hg val).1]
  theorem denoteL_updSetL_orderOnly (c : Nat) (g : Node → Node)
      (hg : ∀ s vs o m r, ∃ o', g (.set s vs o m r) = .set s vs o' m r) :
      (xs : List Node) → denoteL (updSetL c g xs) = denoteL xs
    | [] => rfl
    | x :: xs => by
      simp only [updSetL, denoteL_cons, (denote_updSet_orderOnly c g hg x).2,
        denoteL_updSetL_orderOnly c g hg xs]
end

theorem appendOrderFn_orderOnly (x : Node) : ∀ s vs o m r, ∃ o', appendOrderFn x (.set s vs o m r) = .set s vs o' m r := by
  intro s vs o m r; simp only [appendOrderFn]; split <;> exact ⟨_, rfl⟩

theorem isNamed_updSet_shrinks (c : Nat) (g : Node → Node) (hg : Shrinks g) (k : Text) (x : Node) :
    isNamed k (updSet c g x) = isNamed k x := by
  cases x with
  | set s vs o m r =>
    obtain ⟨vs', o', e, _, _⟩ := hg s vs o m r
    by_cases h : s = c
    · subst h; simp [updSet, isNamed, isBind, e]
    · simp [updSet, h, isNamed, isBind]
  | bind i n ne val b a => simp [updSet, isNamed, isBind, bindName?]
  | _ => rfl

theorem findBinding_updSetL (c : Nat) (g : Node → Node) (hg : Shrinks g) (k : Text) (vs : List Node) :
    findBinding (updSetL c g vs) k = (findBinding vs k).map (updSet c g) := by
  rw [findBinding_eq, findBinding_eq, updSetL_eq_map, List.find?_map]
  congr 1
  have : (isNamed k ∘ updSet c g) = isNamed k := by
    funext x; exact isNamed_updSet_shrinks c g hg k x
  rw [this]

theorem vIdsL_sublist (xs ys : List Node) (h : xs.Sublist ys) : (vIdsL xs).Sublist (vIdsL ys) := by
  induction h with
  | slnil => exact List.Sublist.refl _
  | cons y _ ih => simp only [vIdsL_cons]; exact ih.trans (List.sublist_append_right _ _)
  | cons_cons y _ ih => simp only [vIdsL_cons]; exact (List.Sublist.refl _).append ih

mutual
  theorem vIds_updSet_shrinks (c : Nat) (g : Node → Node) (hg : Shrinks g) :
      (x : Node) → (vIds (updSet c g x)).Sublist (vIds x)
    | .atom _ => List.Sublist.refl _
    | .ident _ => List.Sublist.refl _
    | .inherit _ _ => List.Sublist.refl _
    | .entry _ _ _ _ => List.Sublist.refl _
    | .bind i n ne val b a => by
      simp only [updSet, vIds]; exact (vIds_updSet_shrinks c g hg val).cons_cons i
    | .set s vs o m r => by
      by_cases h : s = c
      · obtain ⟨vs', o', e, h1, _⟩ := hg s vs o m r
        simp only [updSet, h, if_true]
        rw [← h, e]
        simp only [vIds]
        exact (vIdsL_sublist vs' vs h1).cons_cons s
      · simp only [updSet, h, if_false, vIds]
        exact (vIdsL_updSetL_shrinks c g hg vs).cons_cons s
  theorem vIdsL_updSetL_shrinks (c : Nat) (g : Node → Node) (hg : Shrinks g) :
      (xs : List Node) → (vIdsL (updSetL c g xs)).Sublist (vIdsL xs)
    | [] => List.Sublist.refl _
    | x :: xs => by
      simp only [updSetL, vIdsL_cons]
      exact (vIds_updSet_shrinks c g hg x).append (vIdsL_updSetL_shrinks c g hg xs)
end

theorem isBind_updSet (c : Nat) (g : Node → Node) (x : Node) (h : x.isBind = true) :
    (updSet c g x).isBind = true := by
  cases x with
  | bind => rfl
  | _ => exact absurd h Bool.false_ne_true

theorem all_isBind_updSet (c : Nat) (g : Node → Node) (hg : Shrinks g) (val : Node)
    (h : val.setValues.all isBind = true) : (updSet c g val).setValues.all isBind = true := by
  cases val with
  | set s vs o m r =>
    simp only [setValues] at h
    by_cases hs : s = c
    · obtain ⟨vs', o', e, h1, _⟩ := hg s vs o m r
      subst hs
      simp only [updSet, if_true, e, setValues]
      rw [List.all_eq_true] at h ⊢
      exact fun x hx => h x (h1.subset hx)
    · simp only [updSet, hs, if_false, setValues, updSetL_eq_map, List.all_map]
      rw [List.all_eq_true] at h ⊢
      exact fun x hx => isBind_updSet c g x (h x hx)
  | _ => simp [updSet, setValues]

theorem setSid_updSet_shrinks (c : Nat) (g : Node → Node) (hg : Shrinks g) (val : Node) :
    (updSet c g val).setSid? = val.setSid? := by
  cases val with
  | set s vs o m r =>
    by_cases hs : s = c
    · obtain ⟨vs', o', e, _, _⟩ := hg s vs o m r
      subst hs; simp [updSet, e, setSid?]
    · simp [updSet, hs, setSid?]
  | _ => simp [updSet, setSid?]

theorem isSet_updSet_shrinks (c : Nat) (g : Node → Node) (hg : Shrinks g) (T : Node) (h : T.isSet = true) :
    (updSet c g T).isSet = true := by
  obtain ⟨s, vs, o, m, r, rfl⟩ := (isSet_iff T).mp h
  by_cases hs : s = c
  · obtain ⟨vs', o', e, _, _⟩ := hg s vs o m r
    subst hs; simp [updSet, e, isSet]
  · simp [updSet, hs, isSet]

/-- `values.append` anywhere keeps the identity and the length of `attrpath_order` of a set -/
theorem shape_updSet_appendValueFn (c : Nat) (nb : Node) (T : Node) :
    (updSet c (appendValueFn nb) T).setSid? = T.setSid? ∧
    (updSet c (appendValueFn nb) T).setOrder.length = T.setOrder.length := by
  cases T with
  | set s vs o m r =>
    by_cases h : s = c
    · simp [updSet, h, appendValueFn, setSid?, setOrder]
    · simp [updSet, h, setSid?, setOrder, updSetL_eq_map]
  | _ => simp [updSet, setSid?, setOrder]

/-- `if attrpath_order: attrpath_order.append(x)` on the set itself -/
theorem setOrder_updSet_appendOrderFn (c : Nat) (x : Node) (T : Node) (h : T.setSid? = some c) :
    (updSet c (appendOrderFn x) T).setOrder = if T.setOrder.isEmpty then [] else T.setOrder ++ [x] := by
  obtain ⟨vs, o, m, r, rfl⟩ := setSid_some _ _ h
  simp only [updSet, if_true, appendOrderFn, setOrder]
  cases o <;> rfl

theorem Doc.findSet_target (d : Doc) (c : Nat) (r : Node) (hs : d.scratch = none)
    (h : Node.findSet c d.target = some r) : d.findSet c = some r := by
  simp [Doc.findSet, hs, h]

/-! ### `_resolve_npath_parent` and the last step of `set` through explicit sets -/

theorem resolveParentWalk_nil (cm : Bool) (cur : Node) (d : Doc) :
    resolveParentWalk cm cur [] d = (.ok cur, d) := rfl

/-- `_resolve_npath_parent(create_missing=False)` only reads -/
theorem resolveParentWalk_false (ks : List Text) : ∀ (cur : Node) (d : Doc) (res : Except Err Node) (d1 : Doc),
    (∀ k ∈ ks, plainKey k = true) → resolveParentWalk false cur ks d = (res, d1) →
    d1 = d ∧ ∀ parent, res = .ok parent → subAt cur ks = some parent ∧ (cur.isSet = true → parent.isSet = true) := by
  induction ks with
  | nil =>
    intro cur d res d1 _ h
    rw [resolveParentWalk_nil] at h
    injection h with h1 h2
    subst h1 h2
    exact ⟨rfl, fun parent e => by injection e with e; subst e; exact ⟨rfl, id⟩⟩
  | cons k ks ih =>
    intro cur d res d1 hplain h
    simp only [resolveParentWalk] at h
    cases hg : setGetItem cur k with
    | ok val =>
      simp only [hg] at h
      cases val with
      | set s2 vs2 o2 m2 r2 =>
        simp only at h
        obtain ⟨e1, e2⟩ := ih _ d res d1 (fun k' hk' => hplain k' (by simp [hk'])) h
        refine ⟨e1, fun parent hp => ?_⟩
        obtain ⟨h3, h4⟩ := e2 parent hp
        rcases setGetItem_ok _ k _ (hplain k (by simp)) hg with hst | ⟨_, _, hbad⟩
        · exact ⟨by simp [subAt, hst, h3], fun _ => h4 rfl⟩
        · cases hbad
      | _ =>
        simp only [EditM.throw_apply] at h
        injection h with h1 h2
        exact ⟨h2.symm, fun parent e => by rw [← h1] at e; cases e⟩
    | error e =>
      simp only [hg, Bool.not_false, if_true, EditM.throw_apply] at h
      injection h with h1 h2
      exact ⟨h2.symm, fun parent e => by rw [← h1] at e; cases e⟩

theorem assignThrough_ok (ts : Node) (wl : Bool) (name : Text) (v : Node) (d : Doc) :
    ∃ b d', assignThrough ts wl name v d = (.ok b, d') := by
  simp only [assignThrough, EditM.bind_apply, EditM.get_apply]
  by_cases h : (scopeChain d ts wl).isEmpty = true
  · simp only [h, if_true]; exact ⟨_, _, rfl⟩
  · simp only [h]
    cases resolveIdent (List.foldl (fun n s => n + s.length) 1 (scopeChain d ts wl))
      (scopeChain d ts wl).reverse name [] with
    | none => exact ⟨_, _, rfl⟩
    | some bid => exact ⟨_, _, rfl⟩

theorem assignExisting_ok (ts parent : Node) (wl : Bool) (b v : Node) (d : Doc) :
    ∃ d', assignExisting ts parent wl b v d = (.ok (), d') := by
  cases b with
  | bind i n ne val bf af =>
    cases val with
    | ident targetName =>
      simp only [assignExisting, bindId?, bindValue?, EditM.bind_apply]
      obtain ⟨r, d1, e⟩ := assignThrough_ok ts wl targetName v d
      simp only [e]
      cases r with
      | true => exact ⟨_, rfl⟩
      | false =>
        simp only [Bool.false_eq_true, if_false, EditM.bind_apply, EditM.get_apply]
        generalize List.find? _ _ = r1
        cases r1 with
        | some outer => cases outer <;> exact ⟨_, rfl⟩
        | none =>
          simp only
          generalize findBinding parent.setValues targetName = r2
          cases r2 with
          | some sib => cases sib <;> exact ⟨_, rfl⟩
          | none => exact ⟨_, rfl⟩
    | _ => exact ⟨_, rfl⟩
  | _ => exact ⟨_, rfl⟩

theorem setSetItem_ok (s : Node) (k : Text) (v : Node) (d : Doc) (hs : s.isSet = true) :
    ∃ d', setSetItem s k v d = (.ok (), d') := by
  obtain ⟨c, vs, o, m, r, rfl⟩ := (isSet_iff s).mp hs
  cases hf : findBinding (Node.set c vs o m r).setValues k with
  | none =>
    obtain ⟨d', e, _⟩ := setSetItem_fresh _ k v c d hf rfl
    exact ⟨d', e⟩
  | some b =>
    obtain ⟨i, ne, val, bf, af, _, _, rfl, _, _⟩ := findBinding_split _ _ _ hf
    exact ⟨_, by simp only [setSetItem, hf, bindId?]; rfl⟩

theorem finalSet_ok (ts par : Node) (wl : Bool) (k : Text) (v : Node) (d : Doc) (hs : par.isSet = true) :
    ∃ d', finalSet ts par wl k v d = (.ok (), d') := by
  unfold finalSet
  cases findBinding par.setValues k with
  | some b => exact assignExisting_ok ts par wl b v d
  | none => exact setSetItem_ok par k v d hs

/-- below a freshly created empty set, `_resolve_npath_parent(create_missing=True)` cannot fail -/
theorem resolveParentWalk_empty_ok (ks : List Text) : ∀ (n : Nat) (ml : Bool) (d : Doc),
    ∃ parent d1, resolveParentWalk true (.set n [] [] ml false) ks d = (.ok parent, d1) ∧ parent.isSet = true := by
  induction ks with
  | nil => intro n ml d; exact ⟨_, _, rfl, rfl⟩
  | cons k ks ih =>
    intro n ml d
    rw [rpw_empty_cons]
    exact ih _ _ _

/-- why `_resolve_npath_parent` fails: a value on the way is not a set, or (without `create_missing`) a
    name on the way is not bound -/
theorem resolveParentWalk_fail (cm : Bool) (ks : List Text) : ∀ (cur : Node) (d d1 : Doc) (e : Err),
    (∀ k ∈ ks, plainKey k = true) → cur.isSet = true → (denote cur).nodup = true →
    resolveParentWalk cm cur ks d = (.error e, d1) →
    (e = .value ∧ ∃ j, j < ks.length ∧ ∃ lf, treeAt (denote cur) (ks.take (j + 1)) = some (.leaf lf)) ∨
    (cm = false ∧ e = .key ∧ ∀ final, bindAt cur (ks ++ [final]) = none) := by
  induction ks with
  | nil => intro cur d d1 e _ _ _ h; rw [resolveParentWalk_nil] at h; cases h
  | cons k ks ih =>
    intro cur d d1 e hplain hset hn h
    obtain ⟨c, vs, o, m, r, rfl⟩ := (isSet_iff cur).mp hset
    simp only [resolveParentWalk] at h
    cases hg : setGetItem (.set c vs o m r) k with
    | ok val =>
      simp only [hg] at h
      rcases setGetItem_ok _ k _ (hplain k (by simp)) hg with hst | ⟨hnone, hinh, hval⟩
      · obtain ⟨kids, hk1, hk2⟩ := lookup_of_stepInto _ k val hn hst
        cases hvs : val.isSet with
        | true =>
          obtain ⟨s2, vs2, o2, m2, r2, rfl⟩ := (isSet_iff val).mp hvs
          simp only at h
          have hn2 : (denote (.set s2 vs2 o2 m2 r2)).nodup = true := by
            rw [hk1] at hn
            exact AttrTree.nodupL_lookup k _ kids (by simpa using hn) hk2
          rcases ih _ d d1 e (fun k' hk' => hplain k' (by simp [hk'])) rfl hn2 h with ⟨he, j, hj, lf, ht⟩ | ⟨hc, he, hb⟩
          · left
            refine ⟨he, j + 1, by simp only [List.length_cons]; omega, lf, ?_⟩
            rw [hk1]; simp only [List.take_succ_cons, treeAt, hk2]; exact ht
          · right
            refine ⟨hc, he, fun final => ?_⟩
            rw [List.cons_append, bindAt_cons _ k _ (by simp), hst]; exact hb final
        | false =>
          have he : e = .value := by
            cases val <;> simp [isSet] at hvs <;> simp only [EditM.throw_apply] at h <;> (injection h with h1 _; injection h1 with h1; exact h1.symm)
          obtain ⟨lf, hlf⟩ := denote_nonset val hvs
          left
          refine ⟨he, 0, by simp, lf, ?_⟩
          rw [hk1]; simp only [List.take_succ_cons, List.take_zero, treeAt, hk2, hlf]
      · subst hval
        simp only [EditM.throw_apply] at h
        injection h with h1 _; injection h1 with h1
        left
        refine ⟨h1.symm, 0, by simp, .ident k, ?_⟩
        simp only [denote_set, AttrTree.nodup_node] at hn
        have hm := inheritMentions_mem vs k hinh
        simp only [denote_set, List.take_succ_cons, List.take_zero, treeAt,
          Kids.lookup_of_mem_nodup k _ _ ((AttrTree.nodupL_iff _).mp hn).1 hm]
    | error e0 =>
      obtain ⟨hnone, hinh⟩ := setGetItem_err _ k e0 hg
      simp only [hg] at h
      cases cm with
      | false =>
        simp only [Bool.not_false, if_true, EditM.throw_apply] at h
        injection h with h1 _; injection h1 with h1
        right
        refine ⟨rfl, h1.symm, fun final => ?_⟩
        rw [List.cons_append, bindAt_cons _ k _ (by simp)]
        simp [stepInto, hnone]
      | true =>
        exfalso
        simp only [Bool.not_true, Bool.false_eq_true, if_false, setSid_set, EditM.bind_apply, fresh_apply,
          setMultiline] at h
        obtain ⟨d2, e2, _⟩ := setSetItem_fresh (.set c vs o m r) k (.set d.next [] [] m false) c
          { d with next := d.next + 1 } hnone rfl
        simp only [e2] at h
        obtain ⟨parent, d3, e3, _⟩ := resolveParentWalk_empty_ok ks d.next m d2
        rw [e3] at h; cases h

theorem resolveParentWalk_dropLast_fail (cm : Bool) (segs : List Text) (cur : Node) (d d1 : Doc) (e : Err)
    (hplain : ∀ k ∈ segs.dropLast, plainKey k = true) (hset : cur.isSet = true) (hn : (denote cur).nodup = true)
    (h : resolveParentWalk cm cur segs.dropLast d = (.error e, d1)) :
    (e = .value ∧ ∃ j lf, 0 < j ∧ j < segs.length ∧ treeAt (denote cur) (segs.take j) = some (.leaf lf)) ∨
    (cm = false ∧ e = .key ∧ ∀ final, bindAt cur (segs.dropLast ++ [final]) = none) := by
  rcases resolveParentWalk_fail cm _ cur d d1 e hplain hset hn h with ⟨he, j, hj, lf, htr⟩ | h
  · rw [List.length_dropLast] at hj
    exact .inl ⟨he, j + 1, lf, by omega, by omega, by rw [← take_dropLast _ (j + 1) (by omega)]; exact htr⟩
  · exact .inr h

theorem resolveParentWalk_isSet (cm : Bool) (ks : List Text) : ∀ (cur : Node) (d d1 : Doc) (parent : Node),
    cur.isSet = true → resolveParentWalk cm cur ks d = (.ok parent, d1) → parent.isSet = true := by
  induction ks with
  | nil =>
    intro cur d d1 parent hs h
    rw [resolveParentWalk_nil] at h
    injection h with h1 _; injection h1 with h1; subst h1; exact hs
  | cons k ks ih =>
    intro cur d d1 parent hs h
    simp only [resolveParentWalk] at h
    cases hg : setGetItem cur k with
    | ok val =>
      simp only [hg] at h
      cases val with
      | set s2 vs2 o2 m2 r2 => exact ih _ d d1 parent rfl h
      | _ => simp only [EditM.throw_apply] at h; cases h
    | error e =>
      simp only [hg] at h
      cases cm with
      | false => simp only [Bool.not_false, if_true, EditM.throw_apply] at h; cases h
      | true =>
        simp only [Bool.not_true, Bool.false_eq_true, if_false] at h
        cases hsid : cur.setSid? with
        | none => simp only [hsid, EditM.throw_apply] at h; cases h
        | some c =>
          simp only [hsid, EditM.bind_apply, fresh_apply] at h
          split at h
          · exact ih _ _ d1 parent rfl h
          · cases h

/-- `_resolve_npath_parent(create_missing=True)` from the set at path `p`, followed by the last
    step, refines `specSetK` below `p`. -/
theorem nested_set_refines (ts : Node) (wl : Bool) (final : Text) (v : Node) (ks : List Text) :
    ∀ (d : Doc) (cur : Node) (p : List Text) (parent : Node) (d1 d' : Doc),
    Inv d.target d.next (2 * ks.length) → subAt d.target p = some cur → cur.isSet = true →
    (∀ k ∈ ks, plainKey k = true) →
    (∀ par, subAt d.target (p ++ ks) = some par → FinalOK par final) →
    resolveParentWalk true cur ks d = (.ok parent, d1) →
    finalSet ts parent wl final v d1 = (.ok (), d') →
    Frame d d' ∧ ∃ Y, specSetK v (denote cur).kids (ks ++ [final]) = some Y ∧
      denote d'.target = graft p (.node Y) (denote d.target) := by
  induction ks with
  | nil =>
    intro d cur p parent d1 d' hinv hp hset _ hfin hw hfs
    rw [resolveParentWalk_nil] at hw
    injection hw with h1 h2; injection h1 with h1; subst h1; subst h2
    have hok := hfin cur (by simpa using hp)
    obtain ⟨d'', e, hfr, _, hd⟩ := finalSet_denote ts cur wl p final v d hinv.ids hinv.keys hp hset hok.1 hok.2
    rw [e] at hfs
    injection hfs with _ hfs
    subst hfs
    exact ⟨hfr, _, by simp [specSetK], hd⟩
  | cons k ks ih =>
    intro d cur p parent d1 d' hinv hp hset hplain hfin hw hfs
    obtain ⟨c, vs, o, m, r, rfl⟩ := (isSet_iff cur).mp hset
    obtain ⟨htp, hcurn⟩ := located d.target hinv.keys p _ _ _ _ _ hp
    simp only [resolveParentWalk] at hw
    cases hg : setGetItem (.set c vs o m r) k with
    | ok val =>
      simp only [hg] at hw
      cases val with
      | set s2 vs2 o2 m2 r2 =>
        simp only at hw
        rcases setGetItem_ok _ k _ (hplain k (by simp)) hg with hst | ⟨_, _, hbad⟩
        · -- descend into an existing set
          obtain ⟨_, e, hl⟩ := lookup_of_stepInto _ k _ (by simpa using hcurn) hst
          cases e
          have hp2 : subAt d.target (p ++ [k]) = some (.set s2 vs2 o2 m2 r2) := by
            rw [subAt_append, hp]; simp [subAt, hst]
          obtain ⟨hfr, Y, hY, hd⟩ := ih d _ (p ++ [k]) parent d1 d'
            ⟨hinv.ids, hinv.keys, hinv.fresh.mono (by simp only [List.length_cons]; omega)⟩ hp2 rfl
            (fun k' hk' => hplain k' (by simp [hk'])) (by simpa using hfin) hw hfs
          exact ⟨hfr, specSetK_descend v (by simp) htp hl hY hd⟩
        · cases hbad
      | _ => simp [EditM.throw] at hw
    | error e =>
      obtain ⟨hnone, hinh⟩ := setGetItem_err _ k e hg
      simp only [hg, Bool.not_true, Bool.false_eq_true, if_false, setSid?, EditM.bind_apply, fresh_apply,
        setMultiline] at hw
      obtain ⟨d2, e2, hfr2, hn2, ht2⟩ := setSetItem_fresh (.set c vs o m r) k (.set d.next [] [] m false) c
        { d with next := d.next + 1 } hnone rfl
      simp only [e2] at hw
      have hkk : k ∉ Kids.keys (denoteL vs) := not_mem_keys_denoteL k vs (findBinding_none _ _ hnone) hinh
      have hinvK : Inv d.target d.next (2 * ks.length + 2) :=
        ⟨hinv.ids, hinv.keys, hinv.fresh.mono (by simp only [List.length_cons]; omega)⟩
      obtain ⟨hinv2, hp2, hden2⟩ := step_append d.target d.next (2 * ks.length) hinvK p c vs o m r hp k hkk
        (findBinding_none _ _ hnone) false m
        (appendOrderFn (.bind (d.next + 1) k false (.set d.next [] [] m false) [] []) ∘
          appendValueFn (.bind (d.next + 1) k false (.set d.next [] [] m false) [] []))
        (fun vs o m r => by simp only [Function.comp, appendValueFn, appendOrderFn]; split <;> exact ⟨_, rfl⟩)
      simp only at ht2 hn2
      rw [← ht2] at hinv2 hp2 hden2
      have hn2' : d2.next = d.next + 2 := by omega
      rw [← hn2'] at hinv2
      have hfin2 : ∀ par, subAt d2.target ((p ++ [k]) ++ ks) = some par → FinalOK par final := by
        intro par hpar
        rw [subAt_append, hp2] at hpar
        obtain ⟨_, rfl⟩ := subAt_empty_set _ _ _ _ _ _ hpar
        exact ⟨fun b hb => by simp [setValues, findBinding_spelled] at hb, by simp [setValues, inheritMentions]⟩
      obtain ⟨hfr, Y, hY, hd⟩ := ih d2 _ (p ++ [k]) parent d1 d' hinv2 hp2 rfl
        (fun k' hk' => hplain k' (by simp [hk'])) hfin2 hw hfs
      exact ⟨((Frame.next d _).trans hfr2).trans hfr,
        specSetK_create v (by simp) htp hkk hY (by rw [hd, hden2]; rfl)⟩

/-! ### `_walk_attrpath_stack` and `_find_attrpath_leaf` -/

/-- the (parent set, binding) stack `_walk_attrpath_stack` builds below the set `P` for the names `ks`:
    every binding but the last is an attrpath parent (`nested = true`, holding a set), the last one has
    `nested = ln` -/
def Chain (ln : Bool) : Node → List Text → List (Node × Node) → Prop
  | _, [], st => st = []
  | P, k :: ks, st =>
    match ks with
    | [] => ∃ i val bf af, st = [(P, .bind i k ln val bf af)] ∧
        findBinding P.setValues k = some (.bind i k ln val bf af)
    | _ :: _ => ∃ i s vs o m r bf af rest, st = (P, .bind i k true (.set s vs o m r) bf af) :: rest ∧
        findBinding P.setValues k = some (.bind i k true (.set s vs o m r) bf af) ∧
        Chain ln (.set s vs o m r) ks rest

theorem go_chain (ln rr : Bool) (ks : List Text) : ∀ (cur : Node) (acc st : List (Node × Node)),
    (denote cur).nodup = true → cur.isSet = true →
    walkAttrpathStack.go ln rr cur acc ks = .ok (some st) →
    ∃ tail, st = acc ++ tail ∧ Chain ln cur ks tail := by
  induction ks with
  | nil =>
    intro cur acc st _ _ h
    rw [walkAttrpathStack.go.eq_1] at h
    injection h with h; injection h with h
    exact ⟨[], by simp [h], rfl⟩
  | cons k ks ih =>
    intro cur acc st hn hset h
    obtain ⟨c, vs, o, m, r, rfl⟩ := (isSet_iff cur).mp hset
    simp only [denote_set, AttrTree.nodup_node] at hn
    cases ks with
    | nil =>
      rw [walkAttrpathStack.go.eq_2] at h
      cases hf : findNamedBinding (Node.set c vs o m r).setValues k (some ln) with
      | none => simp only [hf] at h; split at h <;> cases h
      | some b =>
        simp only [hf] at h
        injection h with h; injection h with h
        obtain ⟨i, val, bf, af, rfl, hm⟩ := findNamedBinding_some _ _ _ _ hf
        refine ⟨[(_, _)], h.symm, i, val, bf, af, rfl, findBinding_of_mem vs k i ln val bf af hn hm⟩
    | cons k2 ks2 =>
      rw [walkAttrpathStack.go.eq_3 _ _ _ _ _ _ (by simp)] at h
      cases hf : findNamedBinding (Node.set c vs o m r).setValues k (some true) with
      | none => simp only [hf] at h; split at h <;> cases h
      | some b =>
        simp only [hf] at h
        obtain ⟨i, val, bf, af, rfl, hm⟩ := findNamedBinding_some _ _ _ _ hf
        cases val with
        | set s2 vs2 o2 m2 r2 =>
          simp only [bindValue?] at h
          obtain ⟨tail, e, hc⟩ := ih (.set s2 vs2 o2 m2 r2) _ st
            (nodup_of_mem_bind vs i k true _ bf af hn hm) rfl h
          refine ⟨(_, _) :: tail, by simp [e], i, s2, vs2, o2, m2, r2, bf, af, tail, rfl,
            findBinding_of_mem vs k i true _ bf af hn hm, hc⟩
        | _ => simp only [bindValue?] at h; split at h <;> cases h

theorem walk_chain (ts : Node) (segs : List Text) (ln rr : Bool) (st : List (Node × Node))
    (hn : (denote ts).nodup = true) (hset : ts.isSet = true)
    (h : walkAttrpathStack ts segs ln rr = .ok (some st)) :
    2 ≤ segs.length ∧ Chain ln ts segs st := by
  obtain ⟨c, vs, o, m, r, rfl⟩ := (isSet_iff ts).mp hset
  simp only [denote_set, AttrTree.nodup_node] at hn
  unfold walkAttrpathStack at h
  cases segs with
  | nil => simp only at h; split at h <;> cases h
  | cons root rest =>
    cases rest with
    | nil => simp only at h; split at h <;> cases h
    | cons k2 ks2 =>
      simp only at h
      cases hf : findAttrpathRoot (Node.set c vs o m r).setValues root with
      | none => simp only [hf] at h; split at h <;> cases h
      | some b =>
        obtain ⟨i, val, bf, af, rfl, hm⟩ := findAttrpathRoot_some _ _ _ hf
        simp only [hf, bindValue?] at h
        cases val with
        | set s2 vs2 o2 m2 r2 =>
          simp only at h
          obtain ⟨tail, e, hc⟩ := go_chain ln rr (k2 :: ks2) (.set s2 vs2 o2 m2 r2) _ st
            (nodup_of_mem_bind vs i root true _ bf af hn hm) rfl h
          refine ⟨by simp, i, s2, vs2, o2, m2, r2, bf, af, tail, by simpa using e,
            findBinding_of_mem vs root i true _ bf af hn hm, hc⟩
        | _ => simp only at h; split at h <;> cases h

/-- the last entry of the stack is the leaf binding, found under the last name in the set at the
    parent path -/
theorem chain_last (ln : Bool) (ks : List Text) : ∀ (P : Node) (st : List (Node × Node)), ks ≠ [] →
    Chain ln P ks st → P.isSet = true →
    ∃ par i final val bf af, st.getLast? = some (par, .bind i final ln val bf af) ∧
      ks = ks.dropLast ++ [final] ∧ subAt P ks.dropLast = some par ∧ par.isSet = true ∧
      findBinding par.setValues final = some (.bind i final ln val bf af) := by
  induction ks with
  | nil => intro P st h; exact absurd rfl h
  | cons k ks ih =>
    intro P st _ hc hP
    cases ks with
    | nil =>
      obtain ⟨i, val, bf, af, rfl, hf⟩ := hc
      exact ⟨P, i, k, val, bf, af, rfl, rfl, rfl, hP, hf⟩
    | cons k2 ks2 =>
      obtain ⟨i, s, vs, o, m, r, bf, af, rest, rfl, hf, hc'⟩ := hc
      obtain ⟨par, i', final, val, bf', af', h1, h2, h3, h4, h5⟩ := ih (.set s vs o m r) rest (by simp) hc' rfl
      refine ⟨par, i', final, val, bf', af', ?_, ?_, ?_, h4, h5⟩
      · cases rest with
        | nil => simp at h1
        | cons x xs => simpa [List.getLast?_cons_cons] using h1
      · rw [List.dropLast_cons_cons, List.cons_append, ← h2]
      · rw [List.dropLast_cons_cons]
        simp only [subAt, stepInto, hf, Option.bind_some, bindValue?]
        exact h3

/-- with `require_root`, `_walk_attrpath_stack` returns the stack it returns without, or raises
    KeyError / ValueError where it returns `None` without -/
theorem go_true_res (ln : Bool) (ks : List Text) : ∀ (cur : Node) (acc : List (Node × Node)),
    (∃ st, walkAttrpathStack.go ln true cur acc ks = .ok (some st) ∧
      walkAttrpathStack.go ln false cur acc ks = .ok (some st)) ∨
    (walkAttrpathStack.go ln true cur acc ks = .error .key ∧ walkAttrpathStack.go ln false cur acc ks = .ok none) ∨
    (walkAttrpathStack.go ln true cur acc ks = .error .value ∧
      walkAttrpathStack.go ln false cur acc ks = .ok none) := by
  induction ks with
  | nil => intro cur acc; left; exact ⟨acc, by rw [walkAttrpathStack.go.eq_1], by rw [walkAttrpathStack.go.eq_1]⟩
  | cons k ks ih =>
    intro cur acc
    cases ks with
    | nil =>
      rw [walkAttrpathStack.go.eq_2, walkAttrpathStack.go.eq_2]
      cases hf : findNamedBinding cur.setValues k (some ln) with
      | none => right; left; simp
      | some b => left; exact ⟨_, rfl, rfl⟩
    | cons k2 ks2 =>
      rw [walkAttrpathStack.go.eq_3 _ _ _ _ _ _ (by simp), walkAttrpathStack.go.eq_3 _ _ _ _ _ _ (by simp)]
      cases hf : findNamedBinding cur.setValues k (some true) with
      | none => right; left; simp
      | some b =>
        simp only
        cases hv : b.bindValue? with
        | none => right; right; simp
        | some v =>
          cases v with
          | set s2 vs2 o2 m2 r2 => exact ih _ _
          | _ => right; right; simp

theorem walk_true_res (ts : Node) (segs : List Text) (ln : Bool) :
    (∃ st, walkAttrpathStack ts segs ln true = .ok (some st) ∧
      walkAttrpathStack ts segs ln false = .ok (some st)) ∨
    (walkAttrpathStack ts segs ln true = .error .key ∧ walkAttrpathStack ts segs ln false = .ok none) ∨
    (walkAttrpathStack ts segs ln true = .error .value ∧ walkAttrpathStack ts segs ln false = .ok none) := by
  unfold walkAttrpathStack
  cases segs with
  | nil => right; left; simp
  | cons root rest =>
    cases rest with
    | nil => right; left; simp
    | cons k2 ks2 =>
      simp only
      cases hf : findAttrpathRoot ts.setValues root with
      | none => right; left; simp
      | some b =>
        simp only
        cases hv : b.bindValue? with
        | none => right; left; simp
        | some v =>
          cases v with
          | set s2 vs2 o2 m2 r2 => exact go_true_res ln _ _ _
          | _ => right; left; simp

/-- `require_root` only changes how a failed walk is reported -/
theorem walk_rr (ts : Node) (segs : List Text) (ln : Bool) (st : List (Node × Node))
    (h : walkAttrpathStack ts segs ln false = .ok (some st)) :
    walkAttrpathStack ts segs ln true = .ok (some st) := by
  rcases walk_true_res ts segs ln with ⟨st', h1, h2⟩ | ⟨_, h2⟩ | ⟨_, h2⟩
  · rw [h1, ← h2, h]
  · rw [h2] at h; cases h
  · rw [h2] at h; cases h

theorem findAttrpathLeaf_no_root (ts : Node) (seg0 : Text) (rest : List Text)
    (h : findAttrpathRoot ts.setValues seg0 = none) : findAttrpathLeaf ts (seg0 :: rest) = none := by
  cases rest with
  | nil => exact findAttrpathLeaf_single ts seg0
  | cons a b => simp [findAttrpathLeaf, walkAttrpathStack, h]

theorem findAttrpathLeaf_some (ts : Node) (segs : List Text) (leaf : Node)
    (h : findAttrpathLeaf ts segs = some leaf) :
    ∃ st par, walkAttrpathStack ts segs false false = .ok (some st) ∧ st.getLast? = some (par, leaf) := by
  unfold findAttrpathLeaf at h
  split at h
  · rename_i st hst
    cases hl : st.getLast? with
    | none => simp [hl] at h
    | some x =>
      obtain ⟨par, lf⟩ := x
      simp only [hl, Option.map_some, Option.some.injEq] at h
      subst h
      exact ⟨st, par, hst, hl⟩
  · cases h

/-- the leaf `_find_attrpath_leaf` finds is what Nix reads at the path -/
theorem findAttrpathLeaf_treeAt (T : Node) (hk : KeysOK T) (hset : T.isSet = true) (segs : List Text)
    (leaf : Node) (h : findAttrpathLeaf T segs = some leaf) : ∃ t, treeAt (denote T) segs = some t := by
  obtain ⟨st, par0, hwalk, hlast⟩ := findAttrpathLeaf_some _ _ _ h
  obtain ⟨hlen, hch⟩ := walk_chain _ _ _ _ _ hk hset hwalk
  have hne : segs ≠ [] := by intro e; simp [e] at hlen
  obtain ⟨par, i, final, val, bf, af, _, h2, h3, h4, h5⟩ := chain_last false segs _ st hne hch hset
  exact ⟨_, by rw [h2]; exact treeAt_of_findBinding T hk _ par h3 h4 final i false val bf af h5⟩

/-! ### attrpath families: `_set_attrpath_value` -/

/-- the family sets: only bindings inside, recursively -/
def FamSet (n : Node) : Prop := n.setValues.all isBind = true ∧ famOK n = true

theorem famOKL_mem (vs : List Node) (x : Node) (h : famOKL vs = true) (hx : x ∈ vs) : famOK x = true := by
  induction vs with
  | nil => simp at hx
  | cons y r ih =>
    simp only [famOKL, Bool.and_eq_true] at h
    rcases List.mem_cons.mp hx with e | hm
    · rw [e]; exact h.1
    · exact ih h.2 hm

theorem famSet_child (s : Nat) (vs o : List Node) (m r : Bool) (i : Nat) (k : Text) (val : Node) (bf af : Payload)
    (h : famOK (.set s vs o m r) = true) (hm : .bind i k true val bf af ∈ vs) :
    ∃ s2 vs2 m2 r2, val = .set s2 vs2 [] m2 r2 ∧ FamSet val := by
  have := famOKL_mem vs _ (by simpa [famOK] using h) hm
  simp only [famOK, Bool.not_true, Bool.false_or, Bool.and_eq_true] at this
  obtain ⟨h1, h2⟩ := this
  cases val with
  | set s2 vs2 o2 m2 r2 =>
    simp only [Bool.and_eq_true, List.isEmpty_iff] at h2
    obtain ⟨rfl, h3⟩ := h2
    exact ⟨s2, vs2, m2, r2, rfl, h3, h1⟩
  | _ => simp at h2

/-- the tail of `_set_attrpath_value` when the leaf is new -/
def attrFresh (tsSid csid : Nat) (segs : List Text) (final : Text) (v : Node) : EditM Unit := do
  let bid ← fresh
  let nb := Node.bind bid final false v [] []
  appendValue csid nb
  appendOrderIfNonEmpty tsSid (.entry segs nb none none)

/-- the last step of `_set_attrpath_value`, in the family set `cur` the loop ended in: a family named
    `final` there is refused, an explicit binding is assigned to, otherwise the leaf is new -/
def finalAttr (tsSid : Nat) (segs : List Text) (cur : Node) (final : Text) (v : Node) : EditM Unit :=
  if (findNamedBinding cur.setValues final (some true)).isSome then EditM.throw .value
  else match findNamedBinding cur.setValues final (some false) with
    | some b => match b.bindId? with
      | some bid => assign bid v
      | none => pure ()
    | none => match cur.setSid? with
      | none => EditM.throw (.internal "not-a-set")
      | some csid => attrFresh tsSid csid segs final v

/-- The three ways the last step of `_set_attrpath_value` can end in a set: refused because `final` names
    a family there; the explicit binding `final` assigned to; a new leaf appended to the set and an
    `_AttrpathEntry` for the whole path to the target's `attrpath_order`. -/
theorem finalAttr_run (tsSid : Nat) (segs : List Text) (c : Nat) (vs o : List Node) (m r : Bool)
    (final : Text) (v : Node) (d1 d' : Doc) (res : Except Err Unit)
    (h : finalAttr tsSid segs (.set c vs o m r) final v d1 = (res, d')) :
    (res = .error .value ∧ d' = d1) ∨
    (∃ i val bf af, .bind i final false val bf af ∈ vs ∧ res = .ok () ∧ d' = d1.updBind i v) ∨
    (findBinding vs final = none ∧ res = .ok () ∧
      d' = (({ d1 with next := d1.next + 1 } : Doc).updSet c (appendValueFn (.bind d1.next final false v [] []))).updSet tsSid
        (appendOrderFn (.entry segs (.bind d1.next final false v [] []) none none))) := by
  unfold finalAttr at h
  cases h1 : findNamedBinding (Node.set c vs o m r).setValues final (some true) with
  | some b =>
    simp only [h1, Option.isSome_some, if_true, EditM.throw_apply] at h
    injection h with h2 h3
    exact .inl ⟨h2.symm, h3.symm⟩
  | none =>
    simp only [h1, Option.isSome_none, Bool.false_eq_true, if_false] at h
    cases hf : findNamedBinding (Node.set c vs o m r).setValues final (some false) with
    | some b =>
      obtain ⟨i, val, bf, af, rfl, hm⟩ := findNamedBinding_some _ _ _ _ hf
      simp only [hf, bindId?, assign_apply] at h
      injection h with h2 h3
      exact .inr (.inl ⟨i, val, bf, af, hm, h2.symm, h3.symm⟩)
    | none =>
      simp only [hf, setSid_set, attrFresh, EditM.bind_apply, fresh_apply, appendValue_eq_modify,
        appendOrder_eq_modify, EditM.modify_apply] at h
      injection h with h2 h3
      exact .inr (.inr ⟨findBinding_none_of_named _ _ h1 hf, h2.symm, h3.symm⟩)

theorem finalAttr_denote (tsSid : Nat) (segs : List Text) (cur : Node) (q : List Text) (final : Text) (v : Node)
    (d1 d' : Doc) (hid : IdsOK d1.target) (hk : KeysOK d1.target) (hq : subAt d1.target q = some cur)
    (hset : cur.isSet = true) (hall : cur.setValues.all isBind = true)
    (hfa : finalAttr tsSid segs cur final v d1 = (.ok (), d')) :
    Frame d1 d' ∧
    denote d'.target = graft q (.node (Kids.upsert final (denote v) (denote cur).kids)) (denote d1.target) := by
  obtain ⟨c, vs, o, m, r, rfl⟩ := (isSet_iff cur).mp hset
  obtain ⟨htp, hn⟩ := located d1.target hk q _ _ _ _ _ hq
  rcases finalAttr_run _ _ _ _ _ _ _ _ _ _ _ _ hfa with ⟨h, _⟩ | ⟨i, val, bf, af, hm, _, rfl⟩ | ⟨hnone, _, rfl⟩
  · cases h
  · refine ⟨Frame.updBind _ _ _, ?_⟩
    simp only [Doc.updBind_target]
    rw [denote_updBind_at v q d1.target _ final _ i hid hk hq (findBinding_of_mem vs final i false val bf af hn hm) rfl,
      graft_append q [final] _ _ _ htp, denote_set, graft_single]
    rfl
  · have hkk : final ∉ Kids.keys (denoteL vs) :=
      not_mem_keys_denoteL final vs (findBinding_none _ _ hnone) (inheritMentions_allBind vs final hall)
    refine ⟨(Frame.next d1 _).trans ((Frame.updSet _ _ _).trans (Frame.updSet _ _ _)), ?_⟩
    simp only [Doc.updSet_target]
    rw [(denote_updSet_orderOnly tsSid _ (appendOrderFn_orderOnly _) _).1,
      denote_updSet_at _ q d1.target _ c hid hk hq rfl]
    simp only [appendValueFn, denote_set, denoteL_append, denoteL_cons, denoteI_bind, denoteL_nil, List.append_nil,
      AttrTree.kids, Kids.upsert_of_not_mem final _ _ hkk]

theorem setAttrpathWalk_nil (cur : Node) (d : Doc) : setAttrpathWalk cur [] d = (.ok cur, d) := rfl

/-- the loop of `_set_attrpath_value` fails only with ValueError; it ends in a set and leaves the
    identity of the target and the length of its `attrpath_order` alone -/
theorem setAttrpathWalk_res (ks : List Text) : ∀ (cur : Node) (d : Doc), cur.isSet = true →
    (∃ current d1, setAttrpathWalk cur ks d = (.ok current, d1) ∧ current.isSet = true ∧
      d1.target.setSid? = d.target.setSid? ∧ d1.target.setOrder.length = d.target.setOrder.length) ∨
    (∃ d1, setAttrpathWalk cur ks d = (.error .value, d1)) := by
  induction ks with
  | nil => intro cur d h; exact Or.inl ⟨cur, d, rfl, h, rfl, rfl⟩
  | cons k ks ih =>
    intro cur d hset
    obtain ⟨c, vs, o, m, r, rfl⟩ := (isSet_iff cur).mp hset
    simp only [setAttrpathWalk]
    cases hg : findNamedBinding (Node.set c vs o m r).setValues k (some true) with
    | some b =>
      simp only
      cases hv : b.bindValue? with
      | none => exact Or.inr ⟨d, rfl⟩
      | some v =>
        cases v with
        | set s2 vs2 o2 m2 r2 => exact ih _ d rfl
        | _ => exact Or.inr ⟨d, rfl⟩
    | none =>
      simp only
      cases hg2 : (findNamedBinding (Node.set c vs o m r).setValues k (some false)).isSome with
      | true => exact Or.inr ⟨d, by simp⟩
      | false =>
        simp only [Bool.false_eq_true, if_false, setSid_set, EditM.bind_apply, fresh_apply,
          appendValue_eq_modify, EditM.modify_apply]
        refine Or.imp ?_ id (ih _ _ rfl)
        rintro ⟨current, d1, e, hc, h1, h2⟩
        exact ⟨current, d1, e, hc, h1.trans (shape_updSet_appendValueFn _ _ _).1, h2.trans (shape_updSet_appendValueFn _ _ _).2⟩

theorem setAttrpathWalk_ok (ks : List Text) (cur : Node) (d d1 : Doc) (current : Node)
    (hs : cur.isSet = true) (h : setAttrpathWalk cur ks d = (.ok current, d1)) :
    current.isSet = true ∧ d1.target.setSid? = d.target.setSid? ∧
      d1.target.setOrder.length = d.target.setOrder.length := by
  rcases setAttrpathWalk_res ks cur d hs with ⟨c', d1', e, hc⟩ | ⟨d1', e⟩
  · rw [e] at h; injection h with h h'; injection h with h; subst h h'; exact hc
  · rw [e] at h; cases h

/-- where the loop of `_set_attrpath_value` ends: in a set it has just created (empty), or — nothing
    created — in the set found along the names -/
theorem setAttrpathWalk_origin (ks : List Text) : ∀ (cur : Node) (d d1 : Doc) (current : Node),
    cur.isSet = true → (denote cur).nodup = true →
    setAttrpathWalk cur ks d = (.ok current, d1) →
    current.setValues = [] ∨ (d1 = d ∧ subAt cur ks = some current) := by
  induction ks with
  | nil =>
    intro cur d d1 current _ _ h
    rw [setAttrpathWalk_nil] at h
    injection h with h1 h2; injection h1 with h1; subst h1 h2; exact Or.inr ⟨rfl, rfl⟩
  | cons k ks ih =>
    intro cur d d1 current hset hn h
    obtain ⟨c, vs, o, m, r, rfl⟩ := (isSet_iff cur).mp hset
    simp only [denote_set, AttrTree.nodup_node] at hn
    simp only [setAttrpathWalk] at h
    cases hg : findNamedBinding (Node.set c vs o m r).setValues k (some true) with
    | some b =>
      obtain ⟨i, val, bf, af, rfl, hm⟩ := findNamedBinding_some _ _ _ _ hg
      simp only [hg, bindValue?] at h
      cases val with
      | set s2 vs2 o2 m2 r2 =>
        simp only at h
        rcases ih _ d d1 current rfl (nodup_of_mem_bind vs i k true _ bf af hn hm) h with h1 | ⟨h1, h2⟩
        · exact Or.inl h1
        · right
          refine ⟨h1, ?_⟩
          have hfb := findBinding_of_mem vs k i true _ bf af hn hm
          simp [subAt, stepInto, setValues, hfb, bindValue?, h2]
      | _ => simp at h
    | none =>
      simp only [hg] at h
      cases hg2 : (findNamedBinding (Node.set c vs o m r).setValues k (some false)).isSome with
      | true => simp [hg2] at h
      | false =>
        simp only [hg2, Bool.false_eq_true, if_false, setSid_set, EditM.bind_apply, fresh_apply,
          appendValue_eq_modify, EditM.modify_apply,
          setMultiline] at h
        left
        rcases ih _ _ d1 current rfl (by simp [AttrTree.nodupL]) h with h1 | ⟨_, h2⟩
        · exact h1
        · obtain ⟨_, rfl⟩ := subAt_empty_set _ _ _ _ _ _ h2; rfl

/-- the loop of `_set_attrpath_value` from the family set at path `p`, followed by its last
    step, refines `specSetK` below `p`. -/
theorem attr_set_refines (tsSid : Nat) (segs : List Text) (final : Text) (v : Node) (ks : List Text) :
    ∀ (d : Doc) (cur : Node) (p : List Text) (current : Node) (d1 d' : Doc),
    Inv d.target d.next (2 * ks.length) → subAt d.target p = some cur → cur.isSet = true → FamSet cur →
    setAttrpathWalk cur ks d = (.ok current, d1) →
    finalAttr tsSid segs current final v d1 = (.ok (), d') →
    Frame d d' ∧ ∃ Y, specSetK v (denote cur).kids (ks ++ [final]) = some Y ∧
      denote d'.target = graft p (.node Y) (denote d.target) := by
  induction ks with
  | nil =>
    intro d cur p current d1 d' hinv hp hset hfam hw hfa
    rw [setAttrpathWalk_nil] at hw
    injection hw with h1 h2; injection h1 with h1; subst h1; subst h2
    obtain ⟨hfr, hd⟩ := finalAttr_denote tsSid segs cur p final v d d' hinv.ids hinv.keys hp hset hfam.1 hfa
    exact ⟨hfr, _, by simp [specSetK], hd⟩
  | cons k ks ih =>
    intro d cur p current d1 d' hinv hp hset hfam hw hfa
    obtain ⟨c, vs, o, m, r, rfl⟩ := (isSet_iff cur).mp hset
    obtain ⟨htp, hcurn⟩ := located d.target hinv.keys p _ _ _ _ _ hp
    simp only [setAttrpathWalk] at hw
    cases hg : findNamedBinding (Node.set c vs o m r).setValues k (some true) with
    | some b =>
      obtain ⟨i, val, bf, af, rfl, hm⟩ := findNamedBinding_some _ _ _ _ hg
      simp only [hg, bindValue?] at hw
      obtain ⟨s2, vs2, m2, r2, rfl, hfam2⟩ := famSet_child c vs o m r i k val bf af hfam.2 hm
      simp only at hw
      have hfb := findBinding_of_mem vs k i true _ bf af hcurn hm
      have hp2 : subAt d.target (p ++ [k]) = some (.set s2 vs2 [] m2 r2) := by
        rw [subAt_append, hp]; simp [subAt, stepInto, setValues, hfb, bindValue?]
      obtain ⟨hfr, Y, hY, hd⟩ := ih d _ (p ++ [k]) current d1 d'
        ⟨hinv.ids, hinv.keys, hinv.fresh.mono (by simp only [List.length_cons]; omega)⟩ hp2 rfl hfam2 hw hfa
      exact ⟨hfr, specSetK_descend v (by simp) htp (lookup_of_findBinding vs k i true _ bf af hcurn hfb) hY hd⟩
    | none =>
      simp only [hg] at hw
      cases hg2 : findNamedBinding (Node.set c vs o m r).setValues k (some false) with
      | some b => simp [hg2] at hw
      | none =>
        have hnone := findBinding_none_of_named _ _ hg hg2
        simp only [hg2, Option.isSome_none, Bool.false_eq_true, if_false, setSid?, EditM.bind_apply, fresh_apply,
          setMultiline, appendValue_eq_modify, EditM.modify_apply] at hw
        have hkk : k ∉ Kids.keys (denoteL vs) :=
          not_mem_keys_denoteL k vs (findBinding_none _ _ hnone) (inheritMentions_allBind vs k hfam.1)
        have hinvK : Inv d.target d.next (2 * ks.length + 2) :=
          ⟨hinv.ids, hinv.keys, hinv.fresh.mono (by simp only [List.length_cons]; omega)⟩
        obtain ⟨hinv2, hp2, hden2⟩ := step_append d.target d.next (2 * ks.length) hinvK p c vs o m r hp k hkk
          (findBinding_none _ _ hnone) true m
          (appendValueFn (.bind (d.next + 1) k true (.set d.next [] [] m false) [] []))
          (fun vs o m r => ⟨_, rfl⟩)
        generalize hd2 : (({ d with next := d.next + 1 + 1 } : Doc).updSet c
          (appendValueFn (.bind (d.next + 1) k true (.set d.next [] [] m false) [] []))) = d2 at hw
        have ht2 : d2.target = updSet c (appendValueFn (.bind (d.next + 1) k true (.set d.next [] [] m false) [] [])) d.target := by
          rw [← hd2]; rfl
        have hn2 : d2.next = d.next + 2 := by rw [← hd2]; rfl
        have hfr2 : Frame d d2 := by rw [← hd2]; exact (Frame.next d _).trans (Frame.updSet _ _ _)
        rw [← ht2, ← hn2] at hinv2
        rw [← ht2] at hp2 hden2
        obtain ⟨hfr, Y, hY, hd⟩ := ih d2 _ (p ++ [k]) current d1 d' hinv2 hp2 rfl
          ⟨by simp [setValues], by simp [famOK, famOKL]⟩ hw hfa
        exact ⟨hfr2.trans hfr, specSetK_create v (by simp) htp hkk hY (by rw [hd, hden2]; rfl)⟩

/-! ### `_set_value_in_attrset` / `_remove_value_in_attrset`, case by case

The path is `segs` (`formatNPath` succeeded), `ts` is a set. The cases: the path names the leaf of an
attrpath family; a single name; several names under an attrpath root; several names through explicit
sets. -/

section
variable {ts : Node} {p : Text}

theorem setValueInAttrset_leaf {segs : List Text} {leaf : Node} {lid : Nat} (wl : Bool) (v : Node)
    (hp : formatNPath currentAnchor p = .ok segs) (hs : ts.isSet = true)
    (hl : findAttrpathLeaf ts segs = some leaf) (hb : leaf.bindId? = some lid) :
    setValueInAttrset ts wl p v = assign lid v := by
  obtain ⟨c, vs, o, m, r, rfl⟩ := (isSet_iff ts).mp hs
  cases segs with
  | nil => cases hl
  | cons s0 sr => simp only [setValueInAttrset, hp, setSid_set, hl, hb]

theorem setValueInAttrset_family {c : Nat} {seg0 seg1 : Text} {rest : List Text} {root : Node} (wl : Bool) (v : Node)
    (hp : formatNPath currentAnchor p = .ok (seg0 :: seg1 :: rest)) (hs : ts.setSid? = some c)
    (hl : findAttrpathLeaf ts (seg0 :: seg1 :: rest) = none)
    (hroot : findAttrpathRoot ts.setValues seg0 = some root) :
    setValueInAttrset ts wl p v = setAttrpathValue c root (seg0 :: seg1 :: rest) v := by
  simp only [setValueInAttrset, hp, hs, hl, hroot, List.isEmpty_cons, Bool.false_eq_true, if_false]

theorem setValueInAttrset_nested {seg0 seg1 final : Text} {rest : List Text} (wl : Bool) (v : Node)
    (hp : formatNPath currentAnchor p = .ok (seg0 :: seg1 :: rest)) (hs : ts.isSet = true)
    (hroot : findAttrpathRoot ts.setValues seg0 = none)
    (hlast : (seg0 :: seg1 :: rest).getLast? = some final) :
    setValueInAttrset ts wl p v =
      resolveParentWalk true ts (seg0 :: seg1 :: rest).dropLast >>= fun parent => finalSet ts parent wl final v := by
  obtain ⟨c, vs, o, m, r, rfl⟩ := (isSet_iff ts).mp hs
  simp only [setValueInAttrset, hp, setSid_set, findAttrpathLeaf_no_root _ seg0 (seg1 :: rest) hroot, hroot, hlast,
    List.isEmpty_cons, Bool.false_eq_true, if_false]
  rfl

/-- `_set_attrpath_value` under a root that holds a set: the loop over the middle names, then the last step -/
theorem setAttrpathValue_set (tsSid : Nat) {root : Node} {s : Nat} {vs o : List Node} {m r : Bool}
    {seg0 final : Text} {tail : List Text} (v : Node) (hv : root.bindValue? = some (.set s vs o m r))
    (hlast : tail.getLast? = some final) :
    setAttrpathValue tsSid root (seg0 :: tail) v =
      setAttrpathWalk (.set s vs o m r) tail.dropLast >>= fun cur => finalAttr tsSid (seg0 :: tail) cur final v := by
  cases tail with
  | nil => cases hlast
  | cons seg1 rest =>
    simp only [setAttrpathValue, hv, List.getLast?_cons_cons, hlast]
    rfl

theorem setAttrpathValue_nonset (tsSid : Nat) {root : Node} (segs : List Text) (v : Node)
    (hv : ¬ ∃ s vs o m r, root.bindValue? = some (.set s vs o m r)) :
    setAttrpathValue tsSid root segs v = EditM.throw .value := by
  unfold setAttrpathValue
  cases h : root.bindValue? with
  | none => rfl
  | some rv =>
    cases rv with
    | set s vs o m r => exact absurd ⟨s, vs, o, m, r, h⟩ hv
    | _ => rfl

theorem removeValueInAttrset_leaf {segs : List Text} (hp : formatNPath currentAnchor p = .ok segs)
    (hl : (findAttrpathLeaf ts segs).isSome = true) :
    removeValueInAttrset ts p = removeAttrpathValue ts segs := by
  cases segs with
  | nil => cases hl
  | cons s0 sr => simp only [removeValueInAttrset, hp, hl, if_true]

theorem removeValueInAttrset_family {seg0 seg1 : Text} {rest : List Text}
    (hp : formatNPath currentAnchor p = .ok (seg0 :: seg1 :: rest))
    (hroot : (findAttrpathRoot ts.setValues seg0).isSome = true) :
    removeValueInAttrset ts p = removeAttrpathValue ts (seg0 :: seg1 :: rest) := by
  simp only [removeValueInAttrset, hp, hroot, List.isEmpty_cons, Bool.false_eq_true, if_false, if_true, ite_self]

theorem removeValueInAttrset_nested {seg0 seg1 final : Text} {rest : List Text}
    (hp : formatNPath currentAnchor p = .ok (seg0 :: seg1 :: rest))
    (hroot : findAttrpathRoot ts.setValues seg0 = none)
    (hlast : (seg0 :: seg1 :: rest).getLast? = some final) :
    removeValueInAttrset ts p =
      resolveParentWalk false ts (seg0 :: seg1 :: rest).dropLast >>= fun parent => setDelItem parent final := by
  simp only [removeValueInAttrset, hp, findAttrpathLeaf_no_root ts seg0 (seg1 :: rest) hroot, hroot, hlast,
    List.isEmpty_cons, Option.isSome_none, Bool.false_eq_true, if_false]

end

/-- A successful `set` of a path that starts at an attrpath root and is not a leaf yet, taken apart: the
    root holds a family set, the loop of `_set_attrpath_value` ran from it over the middle names, and
    the last step ran in the set the loop ended in. -/
theorem setValue_family_ok (d : Doc) (hw : WF d) (p : Text) (seg0 seg1 : Text) (rest : List Text) (v : Node)
    (hp : formatNPath currentAnchor p = .ok (seg0 :: seg1 :: rest))
    (hroot : (findAttrpathRoot d.target.setValues seg0).isSome = true)
    (hleaf : findAttrpathLeaf d.target (seg0 :: seg1 :: rest) = none)
    (d' : Doc) (hrun : setValue p (.one v) d = (.ok (), d')) :
    ∃ c i s2 vs2 m2 r2 bf af final cur d1,
      d.target.setSid? = some c ∧
      findBinding d.target.setValues seg0 = some (.bind i seg0 true (.set s2 vs2 [] m2 r2) bf af) ∧
      FamSet (.set s2 vs2 [] m2 r2) ∧
      (seg1 :: rest).dropLast ++ [final] = seg1 :: rest ∧
      setAttrpathWalk (.set s2 vs2 [] m2 r2) (seg1 :: rest).dropLast d = (.ok cur, d1) ∧
      finalAttr c (seg0 :: seg1 :: rest) cur final v d1 = (.ok (), d') := by
  obtain ⟨c, vs, o, m, r, ht⟩ := (isSet_iff _).mp hw.isSet
  cases hr : findAttrpathRoot d.target.setValues seg0 with
  | none => simp [hr] at hroot
  | some root =>
    obtain ⟨i, val, bf, af, rfl, hm⟩ := findAttrpathRoot_some _ _ _ hr
    have hkeys := hw.keys
    have hfam := hw.fam
    rw [ht] at hm hkeys hfam
    unfold KeysOK at hkeys
    simp only [denote_set, AttrTree.nodup_node] at hkeys
    obtain ⟨s2, vs2, m2, r2, rfl, hfam2⟩ := famSet_child c vs o m r i seg0 val bf af hfam hm
    obtain ⟨final, hlast, hsplit⟩ := getLast_split (seg1 :: rest) (by simp)
    rw [setValue_unscoped p v d hw.editable (formatNPath_unscoped p _ hp),
      setValueInAttrset_family true v hp (by rw [ht]; rfl) hleaf hr,
      setAttrpathValue_set c v rfl hlast] at hrun
    cases hwk : setAttrpathWalk (.set s2 vs2 [] m2 r2) (seg1 :: rest).dropLast d with
    | mk res d1 =>
      cases res with
      | error e => rw [EditM.bind_error _ _ _ _ _ hwk] at hrun; cases hrun
      | ok cur =>
        rw [EditM.bind_ok _ _ _ _ _ hwk] at hrun
        exact ⟨c, i, s2, vs2, m2, r2, bf, af, final, cur, d1, by rw [ht]; rfl,
          by rw [ht]; exact findBinding_of_mem vs seg0 i true _ bf af hkeys hm, hfam2, hsplit, hwk, hrun⟩

/-! ### `_remove_attrpath_value`: the prune loop along the stack -/

/-- the chain of (set identity, binding identity, identity of the binding's value set) found in the
    current tree `T` along the names `ks`, outermost first; the value sets hold only bindings -/
def Loc : Node → List Text → List (Nat × Nat × Nat) → Prop
  | _, [], [] => True
  | T, k :: ks, (c, i, c') :: rest =>
      T.setSid? = some c ∧ ∃ ne val bf af, findBinding T.setValues k = some (.bind i k ne val bf af) ∧
        val.setSid? = some c' ∧ val.setValues.all isBind = true ∧ Loc val ks rest
  | _, _, _ => False

theorem Loc_snoc (k : Text) (x : Nat × Nat × Nat) (ks : List Text) : ∀ (T : Node) (tr : List (Nat × Nat × Nat)),
    ks.length = tr.length → Loc T (ks ++ [k]) (tr ++ [x]) →
    Loc T ks tr ∧ ∃ X ne val bf af, subAt T ks = some X ∧ X.setSid? = some x.1 ∧
      findBinding X.setValues k = some (.bind x.2.1 k ne val bf af) ∧ val.setSid? = some x.2.2 ∧
      val.setValues.all isBind = true ∧ subAt T (ks ++ [k]) = some val := by
  induction ks with
  | nil =>
    intro T tr hl h
    cases tr with
    | cons a b => simp at hl
    | nil =>
      obtain ⟨c, i, c'⟩ := x
      simp only [List.nil_append, Loc] at h
      obtain ⟨h1, ne, val, bf, af, h2, h3, h4, _⟩ := h
      exact ⟨trivial, T, ne, val, bf, af, rfl, h1, h2, h3, h4, by simp [subAt, stepInto, h2, bindValue?]⟩
  | cons k0 r ih =>
    intro T tr hl h
    cases tr with
    | nil => simp at hl
    | cons a b =>
      obtain ⟨c0, i0, c1⟩ := a
      simp only [List.cons_append, Loc] at h
      obtain ⟨h1, ne, val, bf, af, h2, h3, h4, h5⟩ := h
      obtain ⟨hl1, X, ne', val', bf', af', g1, g2, g3, g4, g5, g6⟩ := ih val b (by simpa using hl) h5
      have hst : stepInto T k0 = some val := by simp [stepInto, h2, bindValue?]
      refine ⟨⟨h1, ne, val, bf, af, h2, h3, h4, hl1⟩, X, ne', val', bf', af', ?_, g2, g3, g4, g5, ?_⟩
      · simp [subAt, hst, g1]
      · simp [subAt, hst, g6]

/-- the chain survives a removal made in the set at its end -/
theorem Loc_updSet_end (c : Nat) (g : Node → Node) (hg : Shrinks g) (ks : List Text) :
    ∀ (T X : Node) (tr : List (Nat × Nat × Nat)), (vIds T).Nodup → Loc T ks tr → subAt T ks = some X →
    X.setSid? = some c → Loc (updSet c g T) ks tr := by
  induction ks with
  | nil =>
    intro T X tr _ h _ _
    cases tr with
    | nil => trivial
    | cons a b => simp [Loc] at h
  | cons k r ih =>
    intro T X tr hid h hX hc
    cases tr with
    | nil => simp [Loc] at h
    | cons a b =>
      obtain ⟨c0, i0, c1⟩ := a
      simp only [Loc] at h ⊢
      obtain ⟨h1, ne, val, bf, af, h2, h3, h4, h5⟩ := h
      have hst : stepInto T k = some val := by simp [stepInto, h2, bindValue?]
      simp only [subAt, hst] at hX
      obtain ⟨s, o, m, rr, i, ne', bf', af', pre, post, rfl, hpre⟩ := stepInto_some T k val hst
      obtain ⟨hval, hc', _⟩ := ids_split s pre post i k ne' val bf' af' o m rr hid
      obtain ⟨hcs, _, _, _⟩ := hc' c (subAt_sid_mem r val X c hX hc)
      have hs' : ¬ s = c := fun e => hcs e.symm
      simp only [setValues] at h2
      refine ⟨by simpa [updSet, hs', setSid?] using h1, ne, updSet c g val, bf, af, ?_,
        by rw [setSid_updSet_shrinks c g hg]; exact h3, all_isBind_updSet c g hg val h4,
        ih val X b hval h5 hX hc⟩
      simp only [updSet, hs', if_false, setValues, findBinding_updSetL c g hg, h2, Option.map_some]

theorem Loc_top_congr (T T' : Node) (ks : List Text) (tr : List (Nat × Nat × Nat))
    (h1 : T'.setSid? = T.setSid?) (h2 : T'.setValues = T.setValues) (h : Loc T ks tr) : Loc T' ks tr := by
  cases ks with
  | nil => cases tr with
    | nil => trivial
    | cons a b => simp [Loc] at h
  | cons k r => cases tr with
    | nil => simp [Loc] at h
    | cons a b =>
      obtain ⟨c, i, c'⟩ := a
      simp only [Loc] at h ⊢
      rw [h1, h2]; exact h

/-- the stack entries (stale copies) carry the identities `tr`, innermost first -/
def StackIds : List (Node × Node) → List (Nat × Nat × Nat) → Prop
  | [], [] => True
  | (P, B) :: L, (c, i, c') :: T =>
      P.setSid? = some c ∧ B.bindId? = some i ∧ (∃ vs o m r, B.bindValue? = some (.set c' vs o m r)) ∧
      StackIds L T
  | _, _ => False

theorem StackIds_snoc (A : List (Node × Node)) : ∀ (B : List (Nat × Nat × Nat)) (x : Node × Node) (y : Nat × Nat × Nat),
    StackIds A B → StackIds [x] [y] → StackIds (A ++ [x]) (B ++ [y]) := by
  induction A with
  | nil =>
    intro B x y h hx
    cases B with
    | nil => exact hx
    | cons a b => simp [StackIds] at h
  | cons a r ih =>
    intro B x y h hx
    cases B with
    | nil => obtain ⟨P, Bn⟩ := a; simp [StackIds] at h
    | cons b bs =>
      obtain ⟨P, Bn⟩ := a
      obtain ⟨c, i, c'⟩ := b
      simp only [List.cons_append, StackIds] at h ⊢
      exact ⟨h.1, h.2.1, h.2.2.1, ih bs x y h.2.2.2 hx⟩

/-- identities along an attrpath chain: the stale stack and the tree agree -/
theorem chain_ids (ks : List Text) : ∀ (P : Node) (st : List (Node × Node)), ks ≠ [] →
    Chain false P ks st → P.isSet = true → famOK P = true →
    ∃ tr, tr.length = ks.dropLast.length ∧ Loc P ks.dropLast tr ∧ StackIds st.dropLast.reverse tr.reverse := by
  induction ks with
  | nil => intro P st h; exact absurd rfl h
  | cons k ks ih =>
    intro P st _ hc hP hfam
    cases ks with
    | nil =>
      obtain ⟨i, val, bf, af, rfl, hf⟩ := hc
      exact ⟨[], rfl, trivial, trivial⟩
    | cons k2 ks2 =>
      obtain ⟨i, s, vs, o, m, r, bf, af, rest, rfl, hf, hc'⟩ := hc
      obtain ⟨c, pvs, po, pm, pr, rfl⟩ := (isSet_iff P).mp hP
      have hm : Node.bind i k true (.set s vs o m r) bf af ∈ pvs := by
        obtain ⟨_, _, _, _, _, pre, post, _, hvs, _⟩ := findBinding_split _ _ _ hf
        simp only [setValues] at hvs; rw [hvs]; simp
      obtain ⟨s2, vs2, m2, r2, e, hfam2⟩ := famSet_child c pvs po pm pr i k _ bf af hfam hm
      obtain ⟨tr', hl', hloc', hst'⟩ := ih (.set s vs o m r) rest (by simp) hc' rfl hfam2.2
      have hrest : rest ≠ [] := by
        intro e2; subst e2
        cases ks2 with
        | nil => obtain ⟨_, _, _, _, h, _⟩ := hc'; cases h
        | cons a b => obtain ⟨_, _, _, _, _, _, _, _, _, h, _⟩ := hc'; cases h
      refine ⟨(c, i, s) :: tr', by simp [List.dropLast_cons_cons, hl'], ?_, ?_⟩
      · rw [List.dropLast_cons_cons]
        exact ⟨rfl, true, _, bf, af, hf, rfl, hfam2.1, hloc'⟩
      · have : ((Node.set c pvs po pm pr, Node.bind i k true (.set s vs o m r) bf af) :: rest).dropLast =
            (Node.set c pvs po pm pr, Node.bind i k true (.set s vs o m r) bf af) :: rest.dropLast := by
          cases rest with
          | nil => exact absurd rfl hrest
          | cons a b => rfl
        rw [this, List.reverse_cons, List.reverse_cons]
        exact StackIds_snoc _ _ _ _ hst' ⟨rfl, rfl, ⟨vs, o, m, r, rfl⟩, trivial⟩

/-- the prune loop of `_remove_attrpath_value`, read through `denote`: the sets along the chain that
    are empty go, innermost first, up to the first one that is not empty. The loop holds the stack
    built before the removals (stale copies, of which `StackIds` keeps the identities) and asks whether
    a set is empty now through `findSet`, which may return any copy of the object: `Coh` makes that
    copy the one `Loc` finds at its place in `values`. -/
theorem prune_loop : ∀ (L : List (Node × Node)) (trR : List (Nat × Nat × Nat)) (ks : List Text) (d : Doc),
    StackIds L trR → ks.length = trR.length → IdsOK d.target → KeysOK d.target → Coh d.target →
    d.scratch = none → d.target.isSet = true → Loc d.target ks trR.reverse →
    ∃ d', pruneParents L d = (.ok (), d') ∧ Frame d d' ∧ d'.next = d.next ∧
      denote d'.target = .node (pruneK (denote d.target).kids ks) := by
  intro L
  induction L with
  | nil =>
    intro trR ks d hst hl _ _ _ _ hset _
    cases trR with
    | cons a b => simp [StackIds] at hst
    | nil =>
      have : ks = [] := by simpa using hl
      subst this
      obtain ⟨s, vs, o, m, r, e⟩ := (isSet_iff _).mp hset
      exact ⟨d, rfl, Frame.refl d, rfl, by rw [e]; rfl⟩
  | cons PB rest ih =>
    intro trR ks d hst hl hid hk hcoh hscr hset hloc
    obtain ⟨P, B⟩ := PB
    cases trR with
    | nil => simp [StackIds] at hst
    | cons x trR' =>
      obtain ⟨c, i, c'⟩ := x
      obtain ⟨hP, hB, ⟨bvs, bo, bm, br, hBv⟩, hst'⟩ := hst
      have hks : ks ≠ [] := by intro e; simp [e] at hl
      obtain ⟨k, _, hsplit⟩ := getLast_split ks hks
      generalize ks.dropLast = ks' at hsplit
      subst hsplit
      rw [List.reverse_cons] at hloc
      have hl' : ks'.length = trR'.reverse.length := by simpa using hl
      obtain ⟨hloc', X, ne, val, bf, af, hX, hXc, hfb, hvc, hvall, hval⟩ :=
        Loc_snoc k (c, i, c') ks' d.target trR'.reverse hl' hloc
      simp only at hXc hfb hvc
      have hfs := Doc.findSet_target d c' val hscr (findSet_of_subAt d.target val c' _ hcoh hval hvc)
      have htpv := treeAt_denote _ d.target _ hk hval
      obtain ⟨ts, tvs, to, tm, tr, hT⟩ := (isSet_iff _).mp hset
      obtain ⟨vvs, vo, vm, vr, rfl⟩ := setSid_some _ _ hvc
      simp only [setValues] at hvall
      have hunf : pruneParents ((P, B) :: rest) d =
          if vvs.isEmpty then (removeValueById c i >>= fun _ => pruneParents rest) d else (.ok (), d) := by
        simp only [pruneParents, EditM.bind_apply, EditM.get_apply, hBv, hP, hB]
        rw [EditM.ite_apply]
        rw [hfs]
        simp only [setValues, EditM.bind_apply, EditM.pure_apply]
        rfl
      rw [hunf]
      cases hve : vvs.isEmpty with
      | false =>
        simp only [Bool.false_eq_true, if_false]
        refine ⟨d, rfl, Frame.refl d, rfl, ?_⟩
        have hne : vvs ≠ [] := by intro e; simp [e] at hve
        rw [hT] at htpv ⊢
        simp only [denote_set, AttrTree.kids_node] at htpv ⊢
        rw [pruneK_snoc_nonempty k ks' _ _ htpv (denoteL_ne_nil vvs hvall hne)]
      | true =>
        have hvnil : vvs = [] := by simpa using hve
        subst hvnil
        simp only [if_true, EditM.bind_apply, removeValueById_eq]
        obtain ⟨Xvs, Xo, Xm, Xr, rfl⟩ := setSid_some _ _ hXc
        simp only [setValues] at hfb
        have hden := denote_del_at d.target hid hk ks' c Xvs Xo Xm Xr hX k _ hfb i rfl _ (eraseV_isDel i)
        obtain ⟨htpX, hXn⟩ := located d.target hk _ _ _ _ _ _ hX
        obtain ⟨d', e1, hfr, hnx, hd'⟩ := ih trR' ks' (d.updSet c (eraseV i)) hst' (by simpa using hl')
          ((hid.sublist (vIds_updSet_shrinks c _ (eraseV_shrinks i) d.target)))
          (by unfold KeysOK
              simp only [Doc.updSet_target]
              rw [hden]
              exact nodup_graft ks' _ _ _ htpX hk (by simpa using AttrTree.nodupL_erase k _ hXn))
          (coh_updSet c _ (eraseV_shrinks i) _ hcoh)
          (by simp [Doc.updSet, hscr])
          (isSet_updSet_shrinks c _ (eraseV_shrinks i) _ hset)
          (Loc_updSet_end c _ (eraseV_shrinks i) ks' d.target _ _ hid hloc' hX rfl)
        refine ⟨d', e1, (Frame.updSet d c _).trans hfr, hnx, ?_⟩
        rw [hd']
        simp only [Doc.updSet_target]
        rw [hden, hT]
        simp only [denote_set, AttrTree.kids_node]
        rw [hT] at htpX
        simp only [denote_set] at htpX
        rw [pruneK_snoc_empty k ks' _ _ htpX]
        rw [lookup_of_findBinding Xvs k i ne _ bf af hXn hfb]; rfl

theorem removeAttrpathValue_eq (ts : Node) (segs : List Text) (st : List (Node × Node)) (parent leaf : Node)
    (tsSid psid lid : Nat) (d : Doc)
    (h1 : walkAttrpathStack ts segs false true = .ok (some st)) (h2 : st.getLast? = some (parent, leaf))
    (h3 : ts.setSid? = some tsSid) (h4 : parent.setSid? = some psid) (h5 : leaf.bindId? = some lid) :
    removeAttrpathValue ts segs d =
      pruneParents st.dropLast.reverse ((d.updSet psid (eraseV lid)).updSet tsSid (eraseEntryFn lid)) := by
  simp only [removeAttrpathValue, h1, h2, h3, h4, h5, EditM.bind_apply, removeValueById_eq, EditM.modify_apply]
  rfl

/-! ### what the text shows, where `attrpath_order` is not in use -/

theorem renderedVals_cons (x : Node) (xs : List Node) : renderedVals (x :: xs) = renderedItem x ++ renderedVals xs := by
  simp [renderedVals]
theorem renderedFam_cons (x : Node) (xs : List Node) :
    renderedFam (x :: xs) = (if x.isBind then renderedItem x else []) ++ renderedFam xs := by
  simp [renderedFam]

mutual
  theorem rendered_eq_denote_aux : (n : Node) → valuesMode n = true →
      renderedTree n = denote n ∧ renderedItem n = denoteI n
    | .atom _, _ => ⟨rfl, rfl⟩
    | .ident _, _ => ⟨rfl, rfl⟩
    | .inherit _ _, _ => ⟨rfl, rfl⟩
    | .entry _ _ _ _, _ => ⟨rfl, rfl⟩
    | .set s vs o m r, h => by
      simp only [valuesMode, Bool.and_eq_true] at h
      refine ⟨?_, rfl⟩
      simp only [renderedTree, h.1, if_true, denote_set, (rendered_eq_denoteL_aux vs h.2).1]
    | .bind i n false v b a, h => by
      simp only [valuesMode] at h
      exact ⟨rfl, by simp only [renderedItem, denoteI_bind, (rendered_eq_denote_aux v h).1]⟩
    | .bind i n true (.set s vs o m r) b a, h => by
      simp only [valuesMode, Bool.and_eq_true, Bool.not_eq_true'] at h
      obtain ⟨⟨⟨h1, h2⟩, h3⟩, h4⟩ := h
      refine ⟨rfl, ?_⟩
      have hf := (rendered_eq_denoteL_aux vs h4).2 h3
      have hne : denoteL vs ≠ [] := denoteL_ne_nil vs h3 (by intro e; simp [e] at h2)
      have : (denoteL vs).isEmpty = false := by cases hd : denoteL vs <;> simp_all
      simp only [renderedItem, hf, this, Bool.false_eq_true, if_false, denoteI_bind, denote_set]
    | .bind i n true (.atom _) b a, h => by simp [valuesMode] at h
    | .bind i n true (.ident _) b a, h => by simp [valuesMode] at h
    | .bind i n true (.bind _ _ _ _ _ _) b a, h => by simp [valuesMode] at h
    | .bind i n true (.inherit _ _) b a, h => by simp [valuesMode] at h
    | .bind i n true (.entry _ _ _ _) b a, h => by simp [valuesMode] at h
  theorem rendered_eq_denoteL_aux : (xs : List Node) → valuesModeL xs = true →
      renderedVals xs = denoteL xs ∧ (xs.all isBind = true → renderedFam xs = denoteL xs)
    | [], _ => ⟨rfl, fun _ => rfl⟩
    | x :: xs, h => by
      simp only [valuesModeL, Bool.and_eq_true] at h
      have hx := (rendered_eq_denote_aux x h.1).2
      have hxs := rendered_eq_denoteL_aux xs h.2
      refine ⟨by rw [renderedVals_cons, denoteL_cons, hx, hxs.1], fun hall => ?_⟩
      simp only [List.all_cons, Bool.and_eq_true] at hall
      rw [renderedFam_cons, denoteL_cons, hall.1, if_pos rfl, hx, hxs.2 hall.2]
end

end Nima
