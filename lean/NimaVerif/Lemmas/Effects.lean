import NimaVerif.Model.Effects
/-!
Soundness of the effect checker: `check p c = true → Pure p` (by induction on the execution,
with an invariant that types the region allocated since the start by allocation site).
-/
namespace Nima.Effects

/-- `v` is described by `a`, for a run started with allocator at `n0`. -/
def okVal (n0 : Nat) (h : Nat → Option Obj) : Abs → Val → Prop
  | .shared, _ => True
  | .fresh _, .prim => True
  | .fresh ts, .loc l => n0 ≤ l ∧ ∃ o, h l = some o ∧ o.site ∈ ts

structure Inv (n0 : Nat) (h0 : Nat → Option Obj) (c : Cert) (t : State) : Prop where
  frame : ∀ l, l < n0 → t.heap l = h0 l
  nxt : n0 ≤ t.next
  free : ∀ l, t.next ≤ l → t.heap l = none
  venv : ∀ x v, t.env x v → okVal n0 t.heap (c.var x) v
  hp : ∀ l o, n0 ≤ l → t.heap l = some o → ∀ f v, v ∈ o.flds f → okVal n0 t.heap (c.fld o.site f) v

theorem okVal_shared {n0 h v} : okVal n0 h .shared v := by
  cases v <;> trivial

theorem okVal_prim {n0 h a} : okVal n0 h a .prim := by
  cases a <;> trivial

/-- heaps that keep the sites of the objects they had -/
def SitesKept (h h' : Nat → Option Obj) : Prop :=
  ∀ l o, h l = some o → ∃ o', h' l = some o' ∧ o'.site = o.site

theorem okVal_mono {n0 h h' a v} (hk : SitesKept h h') (hv : okVal n0 h a v) : okVal n0 h' a v := by
  cases a with
  | shared => exact okVal_shared
  | fresh ts =>
    cases v with
    | prim => trivial
    | loc l =>
      obtain ⟨h1, o, ho, hs⟩ := hv
      obtain ⟨o', ho', hs'⟩ := hk l o ho
      exact ⟨h1, o', ho', hs' ▸ hs⟩

theorem le_sound {n0 h a b v} (hle : Abs.le a b = true) (hv : okVal n0 h a v) : okVal n0 h b v := by
  cases b with
  | shared => exact okVal_shared
  | fresh us =>
    cases a with
    | shared => simp [Abs.le] at hle
    | fresh ts =>
      cases v with
      | prim => trivial
      | loc l =>
        obtain ⟨h1, o, ho, hs⟩ := hv
        refine ⟨h1, o, ho, ?_⟩
        simp only [Abs.le, List.all_eq_true] at hle
        have := hle _ hs
        simpa using this

theorem isShared_sound {n0 h b v} (hb : Abs.isShared b = true) : okVal n0 h b v := by
  cases b with
  | shared => exact okVal_shared
  | fresh _ => simp [Abs.isShared] at hb

/-- what is loaded through a described value is described by what `loadLe` promised -/
theorem loadLe_sound {n0 h0 c t a f b l o v} (inv : Inv n0 h0 c t)
    (hl : loadLe c a f b = true) (hy : okVal n0 t.heap a (.loc l)) (ho : t.heap l = some o)
    (hv : v ∈ o.flds f) : okVal n0 t.heap b v := by
  cases a with
  | shared => exact isShared_sound (by simpa [loadLe] using hl)
  | fresh ts =>
    obtain ⟨h1, o', ho', hs⟩ := hy
    rw [ho] at ho'
    cases ho'
    simp only [loadLe, List.all_eq_true] at hl
    exact le_sound (hl _ hs) (inv.hp l o h1 ho f v hv)

theorem lookupFld_mem {fs : List (Fld × Abs)} {f : Fld} (h : lookupFld fs f ≠ .shared) :
    (f, lookupFld fs f) ∈ fs := by
  induction fs with
  | nil => simp [lookupFld] at h
  | cons e rest ih =>
    obtain ⟨g, a⟩ := e
    simp only [lookupFld] at h ⊢
    split
    · rename_i hg; subst hg; simp
    · rename_i hg
      simp only [hg, if_false] at h
      exact List.mem_cons_of_mem _ (ih h)

/-! ### Heap updates keep sites -/

theorem sitesKept_setObj {s : State} {l o o'} (ho : s.heap l = some o) (hs : o'.site = o.site) :
    SitesKept s.heap (s.setObj l o').heap := by
  intro k ok hk
  simp only [State.setObj]
  by_cases hkl : k = l
  · subst hkl
    rw [ho] at hk
    cases hk
    exact ⟨o', by simp, hs⟩
  · exact ⟨ok, by simp [hkl, hk], rfl⟩

theorem sitesKept_alloc {s : State} {o} (hfree : s.heap s.next = none) :
    SitesKept s.heap (s.allocObj o).heap := by
  intro k ok hk
  simp only [State.allocObj]
  by_cases hkl : k = s.next
  · subst hkl
    rw [hfree] at hk
    cases hk
  · exact ⟨ok, by simp [hkl, hk], rfl⟩

/-! ### Binding a variable -/

theorem inv_bind {n0 h0 c t x v} (inv : Inv n0 h0 c t) (hv : okVal n0 t.heap (c.var x) v) :
    Inv n0 h0 c (t.bind x v) where
  frame := inv.frame
  nxt := inv.nxt
  free := inv.free
  venv := by
    intro y w hw
    rcases hw with hw | ⟨rfl, rfl⟩
    · exact inv.venv y w hw
    · exact hv
  hp := inv.hp

/-! ### The heap changes at one cell of the region allocated since the start -/

/-- `t'` is `t` with the cell `l ≥ n0` holding `o'` (environment unchanged, allocator not moved
    back, sites kept): the invariant survives if the fields of `o'` are described. -/
theorem inv_heap_upd {n0 h0 c} {t t' : State} {l : Nat} {o' : Obj} (inv : Inv n0 h0 c t)
    (hheap : ∀ k, t'.heap k = if k = l then some o' else t.heap k) (henv : t'.env = t.env)
    (hl : n0 ≤ l) (hlt : l < t'.next) (hnext : t.next ≤ t'.next)
    (hk : SitesKept t.heap t'.heap)
    (hflds : ∀ f v, v ∈ o'.flds f → okVal n0 t'.heap (c.fld o'.site f) v) : Inv n0 h0 c t' where
  frame := by
    intro k hk0
    rw [hheap, if_neg (by omega), inv.frame k hk0]
  nxt := Nat.le_trans inv.nxt hnext
  free := by
    intro k hk0
    rw [hheap, if_neg (by omega)]
    exact inv.free k (by omega)
  venv := by
    intro y w hy
    rw [henv] at hy
    exact okVal_mono hk (inv.venv y w hy)
  hp := by
    intro k ok hk0 hok g v hv
    rw [hheap] at hok
    by_cases hkl : k = l
    · rw [if_pos hkl] at hok
      cases hok
      exact hflds g v hv
    · rw [if_neg hkl] at hok
      exact okVal_mono hk (inv.hp k ok hk0 hok g v hv)

/-! ### A write through a Fresh receiver -/

theorem inv_write {n0 h0 c t x f ys l o vs} (inv : Inv n0 h0 c t)
    (hw : writeOk c x f ys = true) (hx : t.env x (.loc l)) (ho : t.heap l = some o)
    (hvs : ∀ v ∈ vs, v ∈ o.flds f ∨ ∃ y ∈ ys, t.env y v) :
    Inv n0 h0 c (t.setObj l (o.setFld f vs)) := by
  have hxv := inv.venv x _ hx
  unfold writeOk at hw
  split at hw
  · cases hw
  · rename_i ts hts
    rw [hts] at hxv
    obtain ⟨hl, o', ho', hs⟩ := hxv
    rw [ho] at ho'
    cases ho'
    have hk : SitesKept t.heap (t.setObj l (o.setFld f vs)).heap :=
      sitesKept_setObj ho rfl
    simp only [List.all_eq_true] at hw
    have hlt : l < t.next := by
      apply Nat.lt_of_not_le
      intro hle
      rw [inv.free l hle] at ho
      cases ho
    refine inv_heap_upd inv (fun _ => rfl) rfl hl hlt (Nat.le_refl _) hk ?_
    intro g v hv
    simp only [Obj.setFld] at hv ⊢
    by_cases hg : g = f
    · subst hg
      simp only [if_true] at hv
      rcases hvs v hv with hold | ⟨y, hy, hyv⟩
      · exact okVal_mono hk (inv.hp l o hl ho g v hold)
      · exact okVal_mono hk (le_sound (hw _ hs y hy) (inv.venv y v hyv))
    · simp only [hg, if_false] at hv
      exact okVal_mono hk (inv.hp l o hl ho g v hv)

/-! ### An allocation -/

theorem inv_alloc {n0 h0 c t x} {o : Obj} (inv : Inv n0 h0 c t)
    (hsite : siteIn o.site (c.var x) = true)
    (hflds : ∀ f v, v ∈ o.flds f → okVal n0 t.heap (c.fld o.site f) v) :
    Inv n0 h0 c ((t.allocObj o).bind x (.loc t.next)) := by
  have hfree : t.heap t.next = none := inv.free _ (Nat.le_refl _)
  have hk : SitesKept t.heap (t.allocObj o).heap := sitesKept_alloc hfree
  have base : Inv n0 h0 c (t.allocObj o) :=
    inv_heap_upd inv (fun _ => rfl) rfl inv.nxt (Nat.lt_succ_self _) (Nat.le_succ _) hk
      (fun f v hv => okVal_mono hk (hflds f v hv))
  apply inv_bind base
  cases hcx : c.var x with
  | shared => exact okVal_shared
  | fresh ts =>
    rw [hcx] at hsite
    refine ⟨inv.nxt, o, by simp [State.allocObj], ?_⟩
    simpa [siteIn] using hsite

/-! ### One step -/

theorem step_inv {p : Prog} {c : Cert} {n0 h0 t u} (hc : check p c = true)
    (inv : Inv n0 h0 c t) (st : Step p t u) : Inv n0 h0 c u := by
  have hall : ∀ s ∈ p.stmts, okStmt c s = true := by
    simpa [check, List.all_eq_true] using hc
  cases st with
  | prim hm => exact inv_bind inv okVal_prim
  | unknown v hm =>
    have := hall _ hm
    simp only [okStmt, okRhs] at this
    exact inv_bind inv (isShared_sound this)
  | var hm hy =>
    have := hall _ hm
    simp only [okStmt, okRhs] at this
    exact inv_bind inv (le_sound this (inv.venv _ _ hy))
  | load hm hy ho hv =>
    have := hall _ hm
    simp only [okStmt, okRhs] at this
    exact inv_bind inv (loadLe_sound inv this (inv.venv _ _ hy) ho hv)
  | alloc o hm hs hf =>
    have := hall _ hm
    simp only [okStmt, okRhs, Bool.and_eq_true, List.all_eq_true] at this
    obtain ⟨h1, h2⟩ := this
    subst hs
    refine inv_alloc inv h1 ?_
    intro f v hv
    obtain ⟨y, hy, hyv⟩ := hf f v hv
    exact le_sound (h2 (f, y) hy) (inv.venv y v hyv)
  | copy o hm hy ho0 hs hf =>
    rename_i x site y upd l o0
    have := hall _ hm
    simp only [okStmt, okRhs, Bool.and_eq_true, List.all_eq_true] at this
    obtain ⟨⟨h1, h2⟩, h3⟩ := this
    subst hs
    refine inv_alloc inv h1 ?_
    intro f v hv
    rcases hf f v hv with ⟨y', hy', hyv⟩ | ⟨hnot, hold⟩
    · exact le_sound (h2 (f, y') hy') (inv.venv y' v hyv)
    · by_cases hsh : c.fld o.site f = .shared
      · rw [hsh]; exact okVal_shared
      · have hmem := lookupFld_mem (fs := c.fldsOf o.site) (f := f) hsh
        have h4 := h3 _ hmem
        simp only [Bool.or_eq_true, List.any_eq_true, beq_iff_eq] at h4
        rcases h4 with ⟨fy, hfy, heq⟩ | h4
        · obtain ⟨g, y'⟩ := fy
          simp only at heq
          subst heq
          exact absurd hfy (hnot y')
        · exact loadLe_sound inv h4 (inv.venv _ _ hy) ho0 hold
  | store hm hx ho hy =>
    rename_i lbl x f y l o v
    have := hall _ hm
    simp only [okStmt] at this
    refine inv_write inv this hx ho ?_
    intro w hw
    simp only [List.mem_singleton] at hw
    subst hw
    exact Or.inr ⟨y, by simp, hy⟩
  | mutate vs hm hx ho hvs =>
    have := hall _ hm
    simp only [okStmt] at this
    exact inv_write inv this hx ho hvs

theorem init_inv {c : Cert} {s : State} (hi : Init s) : Inv s.next s.heap c s where
  frame := fun _ _ => rfl
  nxt := Nat.le_refl _
  free := hi.2
  venv := fun x v hv => absurd hv (hi.1 x v)
  hp := by
    intro l o hl ho
    rw [hi.2 l hl] at ho
    cases ho

/-- **Soundness of the checker.**  A program every statement of which is covered by some
    certificate modifies no object that existed at the start of the run. -/
theorem check_sound (p : Prog) (c : Cert) (hc : check p c = true) : Pure p := by
  intro s t hi hex
  have : Inv s.next s.heap c t := by
    induction hex with
    | refl => exact init_inv hi
    | step _ st ih => exact step_inv hc ih st
  exact this.frame

end Nima.Effects
