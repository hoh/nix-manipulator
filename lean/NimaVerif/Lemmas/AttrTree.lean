import NimaVerif.Model.AttrTree
/-! Association lists of attributes (`Kids`: lookup, upsert, erase, key uniqueness), `graft` (replace the
subtree at a path; defined here, it is how the proofs say where an edit lands) with its algebra, and
`specSetK` / `specRemoveK` of Model/AttrTree.lean case by case. Nothing here looks at documents. -/
namespace Nima

namespace Kids

@[simp] theorem lookup_nil (k : Text) : lookup k [] = none := rfl
@[simp] theorem upsert_nil (k : Text) (t : AttrTree) : upsert k t [] = [(k, t)] := rfl
@[simp] theorem erase_nil (k : Text) : erase k [] = [] := rfl
@[simp] theorem keys_nil : keys [] = [] := rfl
@[simp] theorem keys_cons (k : Text) (t : AttrTree) (r : Kids) : keys ((k, t) :: r) = k :: keys r := rfl
@[simp] theorem keys_append (a b : Kids) : keys (a ++ b) = keys a ++ keys b := by simp [keys]

theorem lookup_cons (k k' : Text) (t : AttrTree) (r : Kids) :
    lookup k ((k', t) :: r) = if k' = k then some t else lookup k r := rfl
theorem upsert_cons (k k' : Text) (t t' : AttrTree) (r : Kids) :
    upsert k t ((k', t') :: r) = if k' = k then (k, t) :: r else (k', t') :: upsert k t r := rfl
theorem erase_cons (k k' : Text) (t' : AttrTree) (r : Kids) :
    erase k ((k', t') :: r) = if k' = k then r else (k', t') :: erase k r := rfl

theorem lookup_eq_none_iff (k : Text) (ks : Kids) : lookup k ks = none ↔ k ∉ keys ks := by
  induction ks with
  | nil => simp
  | cons x r ih =>
    obtain ⟨k', t⟩ := x
    simp only [lookup_cons, keys_cons, List.mem_cons, not_or]
    by_cases h : k' = k
    · simp [h]
    · simp only [h, if_false, ih]
      constructor
      · intro h2; exact ⟨fun e => h e.symm, h2⟩
      · intro h2; exact h2.2

theorem lookup_isSome_iff (k : Text) (ks : Kids) : (lookup k ks).isSome ↔ k ∈ keys ks := by
  have := lookup_eq_none_iff k ks
  cases h : lookup k ks with
  | none => simp [h] at this ⊢; exact this
  | some t => simp [h] at this ⊢; exact this

theorem lookup_append_left (k : Text) (a b : Kids) (t : AttrTree) (h : lookup k a = some t) :
    lookup k (a ++ b) = some t := by
  induction a with
  | nil => simp at h
  | cons x r ih =>
    obtain ⟨k', t'⟩ := x
    simp only [List.cons_append, lookup_cons] at h ⊢
    split
    · rename_i e; simpa [e] using h
    · rename_i e; simp only [e, if_false] at h; exact ih h

theorem lookup_append_right (k : Text) (a b : Kids) (h : k ∉ keys a) :
    lookup k (a ++ b) = lookup k b := by
  induction a with
  | nil => rfl
  | cons x r ih =>
    obtain ⟨k', t'⟩ := x
    simp only [keys_cons, List.mem_cons, not_or] at h
    simp only [List.cons_append, lookup_cons]
    rw [if_neg (fun e => h.1 e.symm)]
    exact ih h.2

theorem upsert_append_right (k : Text) (t : AttrTree) (a b : Kids) (h : k ∉ keys a) :
    upsert k t (a ++ b) = a ++ upsert k t b := by
  induction a with
  | nil => rfl
  | cons x r ih =>
    obtain ⟨k', t'⟩ := x
    simp only [keys_cons, List.mem_cons, not_or] at h
    simp only [List.cons_append, upsert_cons]
    rw [if_neg (fun e => h.1 e.symm), ih h.2]

theorem erase_append_right (k : Text) (a b : Kids) (h : k ∉ keys a) :
    erase k (a ++ b) = a ++ erase k b := by
  induction a with
  | nil => rfl
  | cons x r ih =>
    obtain ⟨k', t'⟩ := x
    simp only [keys_cons, List.mem_cons, not_or] at h
    simp only [List.cons_append, erase_cons]
    rw [if_neg (fun e => h.1 e.symm), ih h.2]

theorem upsert_of_not_mem (k : Text) (t : AttrTree) (a : Kids) (h : k ∉ keys a) :
    upsert k t a = a ++ [(k, t)] := by
  have := upsert_append_right k t a [] h
  simpa using this

theorem erase_of_not_mem (k : Text) (a : Kids) (h : k ∉ keys a) : erase k a = a := by
  have := erase_append_right k a [] h
  simpa using this

@[simp] theorem upsert_head (k : Text) (t t' : AttrTree) (r : Kids) :
    upsert k t ((k, t') :: r) = (k, t) :: r := by simp [upsert_cons]
@[simp] theorem erase_head (k : Text) (t' : AttrTree) (r : Kids) :
    erase k ((k, t') :: r) = r := by simp [erase_cons]
@[simp] theorem lookup_head (k : Text) (t' : AttrTree) (r : Kids) :
    lookup k ((k, t') :: r) = some t' := by simp [lookup_cons]

theorem lookup_upsert_self (k : Text) (t : AttrTree) (a : Kids) : lookup k (upsert k t a) = some t := by
  induction a with
  | nil => simp
  | cons x r ih =>
    obtain ⟨k', t'⟩ := x
    simp only [upsert_cons]
    split
    · simp
    · rename_i e; simp only [lookup_cons, e, if_false]; exact ih

theorem lookup_upsert_ne (k k2 : Text) (t : AttrTree) (a : Kids) (h : k2 ≠ k) :
    lookup k2 (upsert k t a) = lookup k2 a := by
  induction a with
  | nil => simp [lookup_cons, Ne.symm h]
  | cons x r ih =>
    obtain ⟨k', t'⟩ := x
    simp only [upsert_cons]
    split
    · rename_i e; subst e; simp [lookup_cons, Ne.symm h]
    · simp only [lookup_cons, ih]

theorem upsert_upsert (k : Text) (t t2 : AttrTree) (a : Kids) :
    upsert k t (upsert k t2 a) = upsert k t a := by
  induction a with
  | nil => simp
  | cons x r ih =>
    obtain ⟨k', t'⟩ := x
    simp only [upsert_cons]
    split
    · simp
    · rename_i e; simp only [upsert_cons, e, if_false, ih]

theorem keys_upsert_of_mem (k : Text) (t : AttrTree) (a : Kids) (h : k ∈ keys a) :
    keys (upsert k t a) = keys a := by
  induction a with
  | nil => simp at h
  | cons x r ih =>
    obtain ⟨k', t'⟩ := x
    simp only [upsert_cons]
    split
    · rename_i e; simp [e]
    · rename_i e
      simp only [keys_cons, List.mem_cons] at h
      rcases h with h | h
      · exact absurd h.symm e
      · simp [ih h]

theorem keys_upsert (k : Text) (t : AttrTree) (a : Kids) :
    keys (upsert k t a) = if k ∈ keys a then keys a else keys a ++ [k] := by
  split
  · rename_i h; exact keys_upsert_of_mem k t a h
  · rename_i h; rw [upsert_of_not_mem k t a h]; simp

theorem keys_erase_sublist (k : Text) (a : Kids) : (keys (erase k a)).Sublist (keys a) := by
  induction a with
  | nil => simp
  | cons x r ih =>
    obtain ⟨k', t'⟩ := x
    simp only [erase_cons]
    split
    · simp
    · simp only [keys_cons]; exact ih.cons_cons _

theorem mem_erase (x : Text × AttrTree) (k : Text) (a : Kids) (h : x ∈ erase k a) : x ∈ a := by
  induction a with
  | nil => simp at h
  | cons y r ih =>
    obtain ⟨k', t'⟩ := y
    simp only [erase_cons] at h
    split at h
    · exact List.mem_cons_of_mem _ h
    · rcases List.mem_cons.mp h with h | h
      · simp [h]
      · exact List.mem_cons_of_mem _ (ih h)

theorem mem_upsert (x : Text × AttrTree) (k : Text) (t : AttrTree) (a : Kids) (h : x ∈ upsert k t a) :
    x = (k, t) ∨ x ∈ a := by
  induction a with
  | nil => simp at h; exact Or.inl h
  | cons y r ih =>
    obtain ⟨k', t'⟩ := y
    simp only [upsert_cons] at h
    split at h
    · rcases List.mem_cons.mp h with h | h
      · exact Or.inl h
      · exact Or.inr (List.mem_cons_of_mem _ h)
    · rcases List.mem_cons.mp h with h | h
      · exact Or.inr (by simp [h])
      · rcases ih h with h | h
        · exact Or.inl h
        · exact Or.inr (List.mem_cons_of_mem _ h)

theorem lookup_mem (k : Text) (t : AttrTree) (a : Kids) (h : lookup k a = some t) : (k, t) ∈ a := by
  induction a with
  | nil => simp at h
  | cons y r ih =>
    obtain ⟨k', t'⟩ := y
    simp only [lookup_cons] at h
    split at h
    · rename_i e; injection h with h; simp [e, h]
    · exact List.mem_cons_of_mem _ (ih h)

theorem lookup_erase_ne (k k2 : Text) (a : Kids) (h : k2 ≠ k) :
    lookup k2 (erase k a) = lookup k2 a := by
  induction a with
  | nil => simp
  | cons x r ih =>
    obtain ⟨k', t'⟩ := x
    simp only [erase_cons]
    split
    · rename_i e; subst e; simp [lookup_cons, Ne.symm h]
    · simp only [lookup_cons, ih]

end Kids

/-! ### key uniqueness -/

namespace AttrTree

theorem nodupL_cons (k : Text) (t : AttrTree) (r : Kids) :
    nodupL ((k, t) :: r) = (t.nodup && !(r.any (·.1 == k)) && nodupL r) := by
  simp [nodupL]

theorem any_key_iff (k : Text) (r : Kids) : (r.any (·.1 == k)) = true ↔ k ∈ Kids.keys r := by
  simp only [List.any_eq_true, beq_iff_eq, Kids.keys, List.mem_map]

/-- `nodupL` spelled out: keys pairwise different, and every value is itself duplicate free. -/
theorem nodupL_iff (ks : Kids) :
    nodupL ks = true ↔ (Kids.keys ks).Nodup ∧ ∀ x ∈ ks, x.2.nodup = true := by
  induction ks with
  | nil => simp [nodupL]
  | cons x r ih =>
    obtain ⟨k, t⟩ := x
    rw [nodupL_cons]
    simp only [Bool.and_eq_true, Bool.not_eq_true', Kids.keys_cons, List.nodup_cons, List.mem_cons,
      forall_eq_or_imp, ih]
    have hk : (r.any (·.1 == k)) = false ↔ k ∉ Kids.keys r := by
      rw [← any_key_iff, Bool.not_eq_true]
    rw [hk]
    constructor
    · rintro ⟨⟨h1, h2⟩, h3, h4⟩; exact ⟨⟨h2, h3⟩, h1, h4⟩
    · rintro ⟨⟨h2, h3⟩, h1, h4⟩; exact ⟨⟨h1, h2⟩, h3, h4⟩

@[simp] theorem nodup_node (ks : Kids) : (node ks).nodup = nodupL ks := by simp [nodup]
@[simp] theorem nodup_leaf (v : Node) : (leaf v).nodup = true := by simp [nodup]

theorem nodupL_upsert (k : Text) (t : AttrTree) (ks : Kids) (h : nodupL ks = true) (ht : t.nodup = true) :
    nodupL (ks.upsert k t) = true := by
  rw [nodupL_iff] at h ⊢
  refine ⟨?_, ?_⟩
  · rw [Kids.keys_upsert]
    split
    · exact h.1
    · rename_i hk
      rw [List.nodup_append]
      refine ⟨h.1, by simp, ?_⟩
      intro a ha b hb
      simp only [List.mem_singleton] at hb
      subst hb
      intro e; subst e; exact hk ha
  · intro x hx
    rcases Kids.mem_upsert x k t ks hx with e | hm
    · subst e; exact ht
    · exact h.2 x hm

theorem nodupL_erase (k : Text) (ks : Kids) (h : nodupL ks = true) : nodupL (ks.erase k) = true := by
  rw [nodupL_iff] at h ⊢
  exact ⟨h.1.sublist (Kids.keys_erase_sublist k ks), fun x hx => h.2 x (Kids.mem_erase x k ks hx)⟩

theorem nodupL_lookup (k : Text) (t : AttrTree) (ks : Kids) (h : nodupL ks = true)
    (hl : ks.lookup k = some t) : t.nodup = true :=
  ((nodupL_iff ks).mp h).2 _ (Kids.lookup_mem k t ks hl)

theorem nodupL_append_new (k : Text) (t : AttrTree) (ks : Kids) (h : nodupL ks = true)
    (ht : t.nodup = true) (hk : k ∉ Kids.keys ks) : nodupL (ks ++ [(k, t)]) = true := by
  rw [← Kids.upsert_of_not_mem k t ks hk]; exact nodupL_upsert k t ks h ht

end AttrTree

/-! ### `graft`: replace the subtree at a path -/

/-- put `new` at path `p` (the path is expected to exist up to its last key) -/
def graft : List Text → AttrTree → AttrTree → AttrTree
  | [], new, _ => new
  | k :: ks, new, .node kids =>
      .node (Kids.upsert k (graft ks new ((Kids.lookup k kids).getD (.node []))) kids)
  | _ :: _, _, .leaf v => .leaf v

@[simp] theorem graft_nil (new t : AttrTree) : graft [] new t = new := by
  cases t <;> rfl
@[simp] theorem treeAt_nil (t : AttrTree) : treeAt t [] = some t := by
  cases t <;> rfl

theorem graft_single (k : Text) (new : AttrTree) (kids : Kids) :
    graft [k] new (.node kids) = .node (Kids.upsert k new kids) := by
  simp [graft]

/-- a path with a first name leaves a tree only through a node that has that name -/
theorem treeAt_cons_some {t sub : AttrTree} {k : Text} {ks : List Text} (h : treeAt t (k :: ks) = some sub) :
    ∃ kids t1, t = .node kids ∧ Kids.lookup k kids = some t1 ∧ treeAt t1 ks = some sub := by
  cases t with
  | leaf v => simp [treeAt] at h
  | node kids =>
    simp only [treeAt] at h
    cases hl : Kids.lookup k kids with
    | none => simp [hl] at h
    | some t1 => exact ⟨kids, t1, rfl, hl, by simpa [hl] using h⟩

/-- `graft` along `p ++ q` is `graft` along `p` of the subtree grafted along `q`. -/
theorem graft_append (p q : List Text) (new t sub : AttrTree) (h : treeAt t p = some sub) :
    graft (p ++ q) new t = graft p (graft q new sub) t := by
  induction p generalizing t with
  | nil => simp at h; subst h; simp
  | cons k ks ih =>
    obtain ⟨kids, t1, rfl, hl, h⟩ := treeAt_cons_some h
    simp only [List.cons_append, graft, hl, Option.getD_some]
    rw [ih t1 h]

theorem treeAt_graft (p : List Text) (new t sub : AttrTree) (h : treeAt t p = some sub) :
    treeAt (graft p new t) p = some new := by
  induction p generalizing t with
  | nil => simp
  | cons k ks ih =>
    obtain ⟨kids, t1, rfl, hl, h⟩ := treeAt_cons_some h
    simp only [graft, hl, Option.getD_some, treeAt, Kids.lookup_upsert_self]
    exact ih t1 h

theorem graft_graft (p : List Text) (a b t sub : AttrTree) (h : treeAt t p = some sub) :
    graft p a (graft p b t) = graft p a t := by
  induction p generalizing t with
  | nil => simp
  | cons k ks ih =>
    obtain ⟨kids, t1, rfl, hl, h⟩ := treeAt_cons_some h
    simp only [graft, hl, Option.getD_some, Kids.lookup_upsert_self, Kids.upsert_upsert]
    rw [ih t1 h]

/-- grafting below an existing path, after grafting at that path -/
theorem graft_append_graft (p q : List Text) (a b t sub : AttrTree) (h : treeAt t p = some sub) :
    graft (p ++ q) a (graft p b t) = graft p (graft q a b) t := by
  rw [graft_append p q a (graft p b t) b (treeAt_graft p b t sub h)]
  exact graft_graft p _ b t sub h

theorem treeAt_append (p q : List Text) (t sub : AttrTree) (h : treeAt t p = some sub) :
    treeAt t (p ++ q) = treeAt sub q := by
  induction p generalizing t with
  | nil => simp at h; subst h; rfl
  | cons k ks ih =>
    obtain ⟨kids, t1, rfl, hl, h⟩ := treeAt_cons_some h
    simp only [List.cons_append, treeAt, hl]
    exact ih t1 h

theorem nodup_treeAt (p : List Text) (t sub : AttrTree) (h : treeAt t p = some sub)
    (hn : t.nodup = true) : sub.nodup = true := by
  induction p generalizing t with
  | nil => simp at h; subst h; exact hn
  | cons k ks ih =>
    obtain ⟨kids, t1, rfl, hl, h⟩ := treeAt_cons_some h
    simp only [AttrTree.nodup_node] at hn
    exact ih t1 h (AttrTree.nodupL_lookup k t1 kids hn hl)

theorem nodup_graft (p : List Text) (new t sub : AttrTree) (h : treeAt t p = some sub)
    (hn : t.nodup = true) (hnew : new.nodup = true) : (graft p new t).nodup = true := by
  induction p generalizing t with
  | nil => simpa using hnew
  | cons k ks ih =>
    obtain ⟨kids, t1, rfl, hl, h⟩ := treeAt_cons_some h
    simp only [AttrTree.nodup_node] at hn
    simp only [graft, hl, Option.getD_some, AttrTree.nodup_node]
    exact AttrTree.nodupL_upsert k _ kids hn (ih t1 h (AttrTree.nodupL_lookup k t1 kids hn hl))

/-! ### `specSetK` / `specRemoveK`, case by case -/

theorem specSetK_single (v : Node) (kids : Kids) (n : Text) :
    specSetK v kids [n] = some (Kids.upsert n (denote v) kids) := rfl

theorem specSetK_node (v : Node) (kids sub : Kids) (n : Text) (rest : List Text) (hr : rest ≠ [])
    (hl : Kids.lookup n kids = some (.node sub)) :
    specSetK v kids (n :: rest) = (specSetK v sub rest).map fun s => Kids.upsert n (.node s) kids := by
  cases rest with
  | nil => exact absurd rfl hr
  | cons a b => rw [specSetK]; simp only [hl]

theorem specSetK_none (v : Node) (kids : Kids) (n : Text) (rest : List Text) (hr : rest ≠ [])
    (hl : Kids.lookup n kids = none) :
    specSetK v kids (n :: rest) = (specSetK v [] rest).map fun s => Kids.upsert n (.node s) kids := by
  cases rest with
  | nil => exact absurd rfl hr
  | cons a b => rw [specSetK]; simp only [hl]

theorem specSetK_leaf (v : Node) (kids : Kids) (n : Text) (rest : List Text) (hr : rest ≠ []) (x : Node)
    (hl : Kids.lookup n kids = some (.leaf x)) : specSetK v kids (n :: rest) = none := by
  cases rest with
  | nil => exact absurd rfl hr
  | cons a b => rw [specSetK]; simp only [hl]

/-- `set` below the set at path `p` goes on in the set found under `k` there -/
theorem specSetK_descend (v : Node) {T D : AttrTree} {p : List Text} {kids sub Y : Kids} {k : Text}
    {rest : List Text} (hr : rest ≠ []) (htp : treeAt T p = some (.node kids))
    (hl : Kids.lookup k kids = some (.node sub)) (hY : specSetK v sub rest = some Y)
    (hd : D = graft (p ++ [k]) (.node Y) T) :
    ∃ Y', specSetK v kids (k :: rest) = some Y' ∧ D = graft p (.node Y') T :=
  ⟨Kids.upsert k (.node Y) kids, by rw [specSetK_node v kids sub k rest hr hl, hY]; rfl,
    by rw [hd, graft_append p [k] _ _ _ htp, graft_single]⟩

/-- … or, when `k` is not defined there, in a new empty set appended under `k` -/
theorem specSetK_create (v : Node) {T D : AttrTree} {p : List Text} {kids Y : Kids} {k : Text}
    {rest : List Text} (hr : rest ≠ []) (htp : treeAt T p = some (.node kids)) (hk : k ∉ Kids.keys kids)
    (hY : specSetK v [] rest = some Y)
    (hd : D = graft (p ++ [k]) (.node Y) (graft p (.node (kids ++ [(k, .node [])])) T)) :
    ∃ Y', specSetK v kids (k :: rest) = some Y' ∧ D = graft p (.node Y') T := by
  refine ⟨Kids.upsert k (.node Y) kids, by rw [specSetK_none v kids k rest hr ((Kids.lookup_eq_none_iff k _).mpr hk), hY]; rfl, ?_⟩
  rw [hd, graft_append_graft p [k] _ _ _ _ htp, graft_single, Kids.upsert_of_not_mem k _ _ hk,
    Kids.upsert_append_right k _ _ _ hk]
  simp

theorem specRemoveK_single (prune : Bool) (kids : Kids) (n : Text) :
    specRemoveK prune kids [n] = if (Kids.lookup n kids).isSome then some (Kids.erase n kids) else none := rfl

theorem specRemoveK_node (prune : Bool) (kids sub : Kids) (n : Text) (rest : List Text) (hr : rest ≠ [])
    (hl : Kids.lookup n kids = some (.node sub)) :
    specRemoveK prune kids (n :: rest) = (specRemoveK prune sub rest).map fun sub' =>
      if prune && sub'.isEmpty then Kids.erase n kids else Kids.upsert n (.node sub') kids := by
  cases rest with
  | nil => exact absurd rfl hr
  | cons a b => rw [specRemoveK]; simp only [hl]; cases specRemoveK prune sub (a :: b) <;> rfl

theorem specRemoveK_other (prune : Bool) (kids : Kids) (n : Text) (rest : List Text) (hr : rest ≠ [])
    (hl : ∀ sub, Kids.lookup n kids ≠ some (.node sub)) : specRemoveK prune kids (n :: rest) = none := by
  cases rest with
  | nil => exact absurd rfl hr
  | cons a b =>
    rw [specRemoveK]
    split
    · rename_i sub h; exact absurd h (hl sub)
    · rfl

end Nima
