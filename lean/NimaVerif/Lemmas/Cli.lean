import NimaVerif.Model.Cli
/-!
Helper lemmas for C16: closed forms of the command-line programs (symbolic execution of `run` on
`testProg`, `setProg`, `rmProg`, and on the `old*` programs from before the repairs, which the
counterexamples of C16 speak of), generic facts about the interpreter that hold for EVERY program
(`Prog` is unbounded: induction over the program tree), and the text lemmas (`ensureNewline`,
`translateNewlines`).
-/
namespace Nima.Cli
open Nima

variable {σ : Type}

/-! ## Closed forms -/

def okRes : Res := ⟨sOK ++ ['\n'], 0, none, false⟩
def failRes : Res := ⟨sFail ++ ['\n'], 1, none, false⟩
def tracebackRes (e : Err) : Res := ⟨[], 1, some e, false⟩

theorem tracebackRes_class {x : Res} {e : Err} (hx : x = tracebackRes e) (he : e = .key ∨ e = .value) :
    x = tracebackRes .key ∨ x = tracebackRes .value := by
  subst hx
  exact he.imp (congrArg tracebackRes) (congrArg tracebackRes)

/-- closed form of the current (guarded) `test`: every failure is the verdict `Fail` -/
def testClosed (lib : Lib σ) (content : Except Err Text) : Res :=
  match content with
  | .error _ => failRes
  | .ok t =>
    match lib.parse t with
    | .error _ => failRes
    | .ok s =>
      if lib.containsError s then failRes
      else match lib.rebuild s with
        | .error _ => failRes
        | .ok r => if r = t then okRes else failRes

theorem run_test_eq (lib : Lib σ) (content : Except Err Text) (chan : Channel) (np v : Text) :
    run lib content chan np v testProg {} = testClosed lib content := by
  unfold testProg testClosed
  cases content with
  | error e => rfl
  | ok t =>
    -- `original = args.file.read()`, `source = parse(original)`
    have hparse : evalRhs lib (.ok t) np v { env := [.text t], consumed := true } (.parse (.var 0)) =
        (lib.parse t).bind fun s => .ok (.src s, true) := rfl
    dsimp only
    rw [run]
    show run lib (.ok t) chan np v _ { env := [.text t], consumed := true } = _
    rw [run, hparse]
    cases lib.parse t with
    | error e => rfl
    | ok s =>
      -- `not source.contains_error and …`
      have hce : evalCond lib chan { env := [.text t, .src s], consumed := true } (.containsError (.var 1)) =
          .ok (lib.containsError s) := rfl
      show run lib (.ok t) chan np v _ { env := [.text t, .src s], consumed := true } =
        if lib.containsError s = true then failRes else _
      rw [run, hce]
      cases lib.containsError s with
      | true => rfl
      | false =>
        -- `source.rebuild() == original`
        have hrb : evalRhs lib (.ok t) np v { env := [.text t, .src s], consumed := true } (.rebuild (.var 1)) =
            (lib.rebuild s).bind fun r => .ok (.text r, true) := rfl
        dsimp only
        rw [if_neg Bool.false_ne_true, run, hrb]
        cases lib.rebuild s with
        | error e => rfl
        | ok r =>
          have heq : evalCond lib chan { env := [.text t, .src s, .text r], consumed := true }
              (.eq (.var 2) (.var 0)) = .ok (r == t) := rfl
          show run lib (.ok t) chan np v _ { env := [.text t, .src s, .text r], consumed := true } =
            if r = t then okRes else failRes
          rw [run, heq]
          by_cases h : r = t
          · rw [beq_iff_eq.mpr h, if_pos h]; rfl
          · rw [beq_eq_false_iff_ne.mpr h, if_neg h]; rfl

theorem cli_test_eq (lib : Lib σ) (inv : Inv) : cli lib .test inv = testClosed lib inv.content :=
  run_test_eq lib _ _ _ _

theorem cliWith_test_eq (fo : FileOpt) (lib : Lib σ) (inv : Inv) :
    cliWith fo lib .test inv = testClosed lib (contentWith fo inv.chan inv.raw) :=
  run_test_eq lib _ _ _ _

/-- the verdict of the guarded `test`: `OK` on a good text, `Fail` on everything else -/
theorem testClosed_spec (lib : Lib σ) (content : Except Err Text) :
    (testClosed lib content = okRes ∧ ∃ t, content = .ok t ∧ Good lib t) ∨
    (testClosed lib content = failRes ∧ ∀ t, content = .ok t → ¬ Good lib t) := by
  unfold testClosed Good
  cases content with
  | error e => exact .inr ⟨rfl, fun _ h => nomatch h⟩
  | ok t =>
    dsimp only
    -- `Good` names the parsed source; whatever it says about it is decided by `lib.parse t`
    cases hp : lib.parse t with
    | error e => exact .inr ⟨rfl, fun _ h ⟨s, hs, _⟩ => by cases h; rw [hp] at hs; cases hs⟩
    | ok s =>
      have bad : ¬ (lib.containsError s = false ∧ lib.rebuild s = .ok t) →
          ∀ t', (Except.ok t : Except Err Text) = .ok t' → ¬ ∃ s', lib.parse t' = .ok s' ∧ lib.containsError s' = false ∧
            lib.rebuild s' = .ok t' := by
        rintro hn t' h ⟨s', hs', hg⟩
        cases h; rw [hp] at hs'; cases hs'; exact hn hg
      dsimp only
      cases he : lib.containsError s with
      | true => exact .inr ⟨rfl, bad fun h => by rw [he] at h; cases h.1⟩
      | false =>
        rw [if_neg Bool.false_ne_true]
        cases hr : lib.rebuild s with
        | error e => exact .inr ⟨rfl, bad fun h => by rw [hr] at h; cases h.2⟩
        | ok r =>
          dsimp only
          by_cases h : r = t
          · subst h
            rw [if_pos rfl]
            exact .inl ⟨rfl, r, rfl, s, hp, he, hr⟩
          · rw [if_neg h]
            exact .inr ⟨rfl, bad fun hg => by rw [hr] at hg; exact h (Except.ok.inj hg.2)⟩

/-! ### `test` before /repo 1526c34 (exceptions escape) -/

def oldTestClosed (lib : Lib σ) (content : Except Err Text) : Res :=
  match content with
  | .error e => tracebackRes e
  | .ok t =>
    match lib.parse t with
    | .error e => tracebackRes e
    | .ok s =>
      if lib.containsError s then failRes
      else match lib.rebuild s with
        | .error e => tracebackRes e
        | .ok r => if t = r then okRes else failRes

/-- `v0 = read(); v1 = parse(v0)` outside any `try`: the first call that raises ends the run. -/
theorem run_read_parse (lib : Lib σ) (content : Except Err Text) (chan : Channel) (np v : Text) (k : Prog) :
    run lib content chan np v (.bind .read <| .bind (.parse (.var 0)) k) {} =
      match content with
      | .error e => tracebackRes e
      | .ok t =>
        match lib.parse t with
        | .error e => tracebackRes e
        | .ok s => run lib content chan np v k { env := [.text t, .src s], consumed := true } := by
  cases content with
  | error e => rfl
  | ok t =>
    dsimp only
    rw [run]
    show run lib (.ok t) chan np v (.bind (.parse (.var 0)) k) { env := [.text t], consumed := true } = _
    rw [run]
    show (match (lib.parse t).bind fun s => .ok (.src s, true) with
      | .ok (x, c) => run lib (.ok t) chan np v k { env := [.text t, x], consumed := c }
      | .error e => tracebackRes e) = _
    cases lib.parse t <;> rfl

theorem run_oldTest_eq (lib : Lib σ) (content : Except Err Text) (chan : Channel) (np v : Text) :
    run lib content chan np v oldTestProg {} = oldTestClosed lib content := by
  unfold oldTestProg oldTestClosed
  rw [run_read_parse]
  cases content with
  | error e => rfl
  | ok t =>
    dsimp only
    cases lib.parse t with
    | error e => rfl
    | ok s =>
      dsimp only
      -- `if source.contains_error:`
      have hce : evalCond lib chan { env := [.text t, .src s], consumed := true } (.containsError (.var 1)) =
          .ok (lib.containsError s) := rfl
      rw [run, hce]
      cases lib.containsError s with
      | true => rfl
      | false =>
        -- `v2 = source.rebuild()`
        have hrb : evalRhs lib (.ok t) np v { env := [.text t, .src s], consumed := true } (.rebuild (.var 1)) =
            (lib.rebuild s).bind fun r => .ok (.text r, true) := rfl
        dsimp only
        rw [if_neg Bool.false_ne_true, run, hrb]
        cases lib.rebuild s with
        | error e => rfl
        | ok r =>
          -- `if original == rebuild:`
          have heq : evalCond lib chan { env := [.text t, .src s, .text r], consumed := true }
              (.eq (.var 0) (.var 2)) = .ok (t == r) := rfl
          show run lib (.ok t) chan np v _ { env := [.text t, .src s, .text r], consumed := true } =
            if t = r then okRes else failRes
          rw [run, heq]
          by_cases h : t = r
          · rw [beq_iff_eq.mpr h, if_pos h]; rfl
          · rw [beq_eq_false_iff_ne.mpr h, if_neg h]; rfl

theorem oldCli_test_eq (lib : Lib σ) (inv : Inv) : oldCli lib .test inv = oldTestClosed lib inv.content :=
  run_oldTest_eq lib _ _ _ _

/-- the unguarded `test` differs from the guarded one only where the library raises: it shows the
    traceback where the guarded one says `Fail` -/
theorem oldTestClosed_cases (lib : Lib σ) (content : Except Err Text) :
    oldTestClosed lib content = testClosed lib content ∨
    ∃ e, oldTestClosed lib content = tracebackRes e ∧ testClosed lib content = failRes := by
  unfold oldTestClosed testClosed
  cases content with
  | error e => exact .inr ⟨e, rfl, rfl⟩
  | ok t =>
    dsimp only
    cases lib.parse t with
    | error e => exact .inr ⟨e, rfl, rfl⟩
    | ok s =>
      dsimp only
      cases lib.containsError s with
      | true => exact .inl rfl
      | false =>
        cases lib.rebuild s with
        | error e => exact .inr ⟨e, rfl, rfl⟩
        | ok r =>
          refine .inl ?_
          dsimp only
          by_cases h : t = r
          · rw [if_neg Bool.false_ne_true, if_neg Bool.false_ne_true, if_pos h, if_pos h.symm]
          · rw [if_neg Bool.false_ne_true, if_neg Bool.false_ne_true, if_neg h, if_neg (Ne.symm h)]

/-! ## Text lemmas -/

theorem endsWith_newline_iff (t : Text) : endsWith t ['\n'] = true ↔ t.getLast? = some '\n' := by
  unfold endsWith
  rw [List.isSuffixOf_iff_suffix, List.getLast?_eq_some_iff]
  constructor
  · rintro ⟨k, hk⟩; exact ⟨k, hk.symm⟩
  · rintro ⟨k, hk⟩; exact ⟨k, hk.symm⟩

theorem ensureNewline_of_endsWith (t : Text) (h : t.getLast? = some '\n') : ensureNewline t = t := by
  simp [ensureNewline, h]

theorem ensureNewline_of_not (t : Text) (h : t.getLast? ≠ some '\n') : ensureNewline t = t ++ ['\n'] := by
  simp [ensureNewline, h]

theorem ensureNewline_endsWith (t : Text) : (ensureNewline t).getLast? = some '\n' := by
  unfold ensureNewline
  split
  · assumption
  · simp

theorem ensureNewline_idem (t : Text) : ensureNewline (ensureNewline t) = ensureNewline t :=
  ensureNewline_of_endsWith _ (ensureNewline_endsWith t)

theorem endsInOneNewline_getLast (t : Text) (h : endsInOneNewline t = true) : t.getLast? = some '\n' := by
  unfold endsInOneNewline at h
  rw [List.getLast?_eq_head?_reverse]
  split at h <;> simp_all

/-- appending a newline to a text that ends in one newline gives a text that ends in two -/
theorem endsInOneNewline_append (t : Text) (h : t.getLast? = some '\n') :
    endsInOneNewline (t ++ ['\n']) = false := by
  obtain ⟨k, rfl⟩ := List.getLast?_eq_some_iff.mp h
  simp [endsInOneNewline]

theorem trNl_of_noCR (t : Text) (h : hasCR t = false) : trNl false t = t := by
  induction t with
  | nil => rfl
  | cons c rest ih =>
    have hc : c ≠ '\r' := by
      intro hc; subst hc; simp [hasCR] at h
    have hr : hasCR rest = false := by
      simp only [hasCR, List.contains_cons, Bool.or_eq_false_iff] at h ⊢
      exact h.2
    simp only [trNl, hc, if_false, ih hr]
    split <;> simp_all

theorem translateNewlines_of_noCR (t : Text) (h : hasCR t = false) : translateNewlines t = t :=
  trNl_of_noCR t h

theorem contentWith_of_noCR (fo : FileOpt) (c : Channel) (t : Text) (h : hasCR t = false) :
    contentWith fo c (.ok t) = .ok t := by
  cases c with
  | stdin => rfl
  | file =>
    simp only [contentWith]
    split
    · simp [Except.map, translateNewlines_of_noCR t h]
    · rfl

/-- the current wiring delivers the bytes' text untouched on both channels -/
theorem contentWith_fileOpt (c : Channel) (raw : Except Err Text) : contentWith fileOpt c raw = raw := by
  cases c <;> rfl

theorem content_eq_raw (inv : Inv) : inv.content = inv.raw := contentWith_fileOpt _ _

theorem contentWith_error (fo : FileOpt) (c : Channel) (e : Err) :
    contentWith fo c (.error e : Except Err Text) = .error e := by
  cases c with
  | stdin => rfl
  | file => simp only [contentWith]; split <;> rfl

/-! ## Facts about every program -/

def Cond.chanFree : Cond → Bool
  | .isStdin => false
  | _ => true

/-- the program never asks which channel delivered the input -/
def Prog.chanFree : Prog → Bool
  | .bind _ k => k.chanFree
  | .print _ k => k.chanFree
  | .write _ k => k.chanFree
  | .helpStderr k => k.chanFree
  | .ite c t e => c.chanFree && t.chanFree && e.chanFree
  | .tryBind _ k h => k.chanFree && h.chanFree
  | .tryIte c t e h => c.chanFree && t.chanFree && e.chanFree && h.chanFree
  | .ret _ => true
  | .done => true

/-! The proofs of this section go by `run.induct`, whose cases follow `run`'s equations: 1/2 `bind` (value,
exception), 3/4 `print`, 5/6 `write`, 7 `helpStderr`, 8/9/10 `ite` (true, false, exception), 11/12
`tryBind` (value, handler), 13/14/15 `tryIte` (true, false, handler), 16 `ret`, 17 `done`. -/

theorem evalCond_chanFree (lib : Lib σ) (c1 c2 : Channel) (st : St σ) (c : Cond) (h : c.chanFree = true) :
    evalCond lib c1 st c = evalCond lib c2 st c := by
  cases c with
  | isStdin => cases h
  | _ => rfl

theorem run_chanFree (lib : Lib σ) (content : Except Err Text) (c1 c2 : Channel) (np v : Text)
    (p : Prog) (h : p.chanFree = true) (st : St σ) :
    run lib content c1 np v p st = run lib content c2 np v p st := by
  revert h
  fun_induction run lib content c1 np v p st
  -- the run on `c2` takes the same step: right-hand sides do not see the channel, and a condition
  -- that does not ask for it evaluates alike
  case case1 heq ih | case3 heq ih | case5 heq ih => intro h; rw [run, heq]; exact ih h
  case case2 heq | case4 heq | case6 heq => intro _; rw [run, heq]
  case case7 ih => intro h; rw [run]; exact ih h
  case case16 | case17 => intro _; rfl
  all_goals
    intro h
    simp only [Prog.chanFree, Bool.and_eq_true] at h
  case case8 c _ _ st heq ih => rw [run, evalCond_chanFree lib c2 c1 st c h.1.1, heq]; exact ih h.1.2
  case case9 c _ _ st heq ih => rw [run, evalCond_chanFree lib c2 c1 st c h.1.1, heq]; exact ih h.2
  case case10 c _ _ st _ heq => rw [run, evalCond_chanFree lib c2 c1 st c h.1.1, heq]
  case case11 heq ih => rw [run, heq]; exact ih h.1
  case case12 heq ih => rw [run, heq]; exact ih h.2
  case case13 c _ _ _ st heq ih => rw [run, evalCond_chanFree lib c2 c1 st c h.1.1.1, heq]; exact ih h.1.1.2
  case case14 c _ _ _ st heq ih => rw [run, evalCond_chanFree lib c2 c1 st c h.1.1.1, heq]; exact ih h.1.2
  case case15 c _ _ _ st _ heq ih => rw [run, evalCond_chanFree lib c2 c1 st c h.1.1.1, heq]; exact ih h.2

/-- an uncaught exception always ends the process with status 1 -/
theorem run_raised_exit (lib : Lib σ) (content : Except Err Text) (c : Channel) (np v : Text)
    (p : Prog) (st : St σ) (e : Err) (h : (run lib content c np v p st).raised = some e) :
    (run lib content c np v p st).exit = 1 := by
  revert h
  fun_induction run lib content c np v p st
  -- a crash has status 1; `return` and the end of `main` raise nothing; any other step is the
  -- rest of the run
  case case2 | case4 | case6 | case10 => intro _; rfl
  case case16 | case17 => intro h; cases h
  all_goals assumption

/-- cannot raise: only constants are emitted -/
def Prog.cannotRaise : Prog → Bool
  | .print (.lit _) k => k.cannotRaise
  | .write (.lit _) k => k.cannotRaise
  | .helpStderr k => k.cannotRaise
  | .ret _ => true
  | .done => true
  | _ => false

/-- everything that can raise happens before the first byte is written -/
def Prog.emitsLast : Prog → Bool
  | .bind _ k => k.emitsLast
  | .print _ k => k.cannotRaise
  | .write _ k => k.cannotRaise
  | .helpStderr k => k.emitsLast
  | .ite _ t e => t.emitsLast && e.emitsLast
  | .tryBind _ k h => k.emitsLast && h.emitsLast
  | .tryIte _ t e h => t.emitsLast && e.emitsLast && h.emitsLast
  | .ret _ => true
  | .done => true

theorem run_cannotRaise (lib : Lib σ) (content : Except Err Text) (c : Channel) (np v : Text)
    (p : Prog) (h : p.cannotRaise = true) (st : St σ) :
    (run lib content c np v p st).raised = none := by
  revert h
  fun_induction run lib content c np v p st
  -- only constants may be emitted: a variable operand is excluded, a constant has a text
  case case3 x _ _ _ _ ih | case5 x _ _ _ _ ih =>
    cases x with
    | var i => intro h; cases h
    | lit s => exact ih
  case case4 x _ _ _ heq | case6 x _ _ _ heq =>
    cases x with
    | var i => intro h; cases h
    | lit s => cases heq
  case case7 ih => exact ih
  case case16 | case17 => intro _; rfl
  all_goals intro h; cases h

/-- "on any error stdout stays empty", for every program in which all emits come last -/
theorem run_emitsLast_silent (lib : Lib σ) (content : Except Err Text) (c : Channel) (np v : Text)
    (p : Prog) (h : p.emitsLast = true) (st : St σ)
    (hr : (run lib content c np v p st).raised ≠ none) :
    (run lib content c np v p st).stdout = st.out := by
  revert h hr
  fun_induction run lib content c np v p st
  -- after the first emit nothing can raise
  case case3 | case5 => intro h hr; exact absurd (run_cannotRaise lib content c np v _ h _) hr
  case case2 | case4 | case6 | case10 => intro _ _; rfl
  case case16 | case17 => intro _ hr; exact absurd rfl hr
  case case8 ih | case11 ih => intro h; exact ih (Bool.and_eq_true_iff.mp h).1
  case case9 ih | case12 ih => intro h; exact ih (Bool.and_eq_true_iff.mp h).2
  case case13 ih => intro h; exact ih (Bool.and_eq_true_iff.mp (Bool.and_eq_true_iff.mp h).1).1
  case case14 ih => intro h; exact ih (Bool.and_eq_true_iff.mp (Bool.and_eq_true_iff.mp h).1).2
  case case15 ih => intro h; exact ih (Bool.and_eq_true_iff.mp h).2
  all_goals assumption

/-- stdout only grows -/
theorem run_stdout_prefix (lib : Lib σ) (content : Except Err Text) (c : Channel) (np v : Text)
    (p : Prog) (st : St σ) : ∃ suf, (run lib content c np v p st).stdout = st.out ++ suf := by
  fun_induction run lib content c np v p st
  -- `print` and `write` append to what the rest of the run appends
  case case3 ih | case5 ih =>
    obtain ⟨suf, hs⟩ := ih
    exact ⟨_, hs.trans (List.append_assoc ..)⟩
  -- a crash, `return` and the end of `main` leave stdout as it is
  case case2 | case4 | case6 | case10 | case16 | case17 => exact ⟨[], (List.append_nil _).symm⟩
  all_goals assumption

/-! ## Closed form of `set` / `rm`, now and before /repo 9670208 (print-based) -/

def editClosed (lib : Lib σ) (cmd : Cmd) (inv : Inv) : Res :=
  match inv.content with
  | .error e => tracebackRes e
  | .ok t =>
    match libEdit lib cmd inv.npath inv.value t with
    | .error e => tracebackRes e
    | .ok text => ⟨ensureNewline text, 0, none, false⟩

def oldEditClosed (lib : Lib σ) (cmd : Cmd) (inv : Inv) : Res :=
  match inv.content with
  | .error e => tracebackRes e
  | .ok t =>
    match libEdit lib cmd inv.npath inv.value t with
    | .error e => tracebackRes e
    | .ok text => ⟨text ++ ['\n'], 0, none, false⟩

/-- A program that reads, parses, binds the text of the edit `rhs` to `v2` and then writes `emit v2`.
    The right-hand side has the shape of `editClosed` / `oldEditClosed` with `libEdit` unfolded. -/
theorem run_edit (lib : Lib σ) (content : Except Err Text) (chan : Channel) (np v : Text)
    (rhs : Rhs) (edit : σ → Except Err Text) (emit : Text → Text) (k : Prog)
    (hrhs : ∀ t s, evalRhs lib content np v { env := [.text t, .src s], consumed := true } rhs =
      (edit s).map fun x => (.text x, true))
    (hk : ∀ t s text, run lib content chan np v k { env := [.text t, .src s, .text text], consumed := true } =
      ⟨emit text, 0, none, false⟩) :
    run lib content chan np v (.bind .read <| .bind (.parse (.var 0)) <| .bind rhs k) {} =
      match (generalizing := false) content with
      | .error e => tracebackRes e
      | .ok t =>
        match (match lib.parse t with
          | .error e => Except.error e
          | .ok s => edit s) with
        | .error e => tracebackRes e
        | .ok text => ⟨emit text, 0, none, false⟩ := by
  rw [run_read_parse]
  cases content with
  | error e => rfl
  | ok t =>
    dsimp only
    cases lib.parse t with
    | error e => rfl
    | ok s =>
      dsimp only
      rw [run, hrhs]
      cases edit s with
      | error e => rfl
      | ok text => exact hk t s text

/-- the tail of the current `set` / `rm`: `v2` is written with a newline added only if it lacks one -/
theorem run_write_terminated (lib : Lib σ) (content : Except Err Text) (chan : Channel) (np v : Text)
    (t : Text) (s : σ) (text : Text) :
    run lib content chan np v
      (.ite (.endsWith (.var 2) ['\n']) (.write (.var 2) (.ret 0))
        (.bind (.concat (.var 2) (.lit ['\n'])) <| .write (.var 3) (.ret 0)))
      { env := [.text t, .src s, .text text], consumed := true } = ⟨ensureNewline text, 0, none, false⟩ := by
  have hc : evalCond lib chan { env := [.text t, .src s, .text text], consumed := true }
      (.endsWith (.var 2) ['\n']) = .ok (endsWith text ['\n']) := rfl
  rw [run, hc]
  by_cases hn : text.getLast? = some '\n'
  · rw [(endsWith_newline_iff text).mpr hn, ensureNewline_of_endsWith text hn]
    rfl
  · have h1 : endsWith text ['\n'] = false := by
      cases h : endsWith text ['\n'] with
      | false => rfl
      | true => exact absurd ((endsWith_newline_iff text).mp h) hn
    rw [h1, ensureNewline_of_not text hn]
    rfl

theorem cli_edit_eq (lib : Lib σ) (cmd : Cmd) (h : cmd ≠ .test) (inv : Inv) :
    cli lib cmd inv = editClosed lib cmd inv := by
  cases cmd with
  | test => exact absurd rfl h
  | set =>
    exact (run_edit lib inv.content inv.chan inv.npath inv.value _ (fun s => lib.setValue s inv.npath inv.value)
      ensureNewline _ (fun _ _ => rfl) (run_write_terminated lib _ _ _ _)).trans rfl
  | rm =>
    exact (run_edit lib inv.content inv.chan inv.npath inv.value _ (fun s => lib.removeValue s inv.npath)
      ensureNewline _ (fun _ _ => rfl) (run_write_terminated lib _ _ _ _)).trans rfl

theorem oldCli_edit_eq (lib : Lib σ) (cmd : Cmd) (h : cmd ≠ .test) (inv : Inv) :
    oldCli lib cmd inv = oldEditClosed lib cmd inv := by
  cases cmd with
  | test => exact absurd rfl h
  | set =>
    exact (run_edit lib inv.content inv.chan inv.npath inv.value _ (fun s => lib.setValue s inv.npath inv.value)
      (· ++ ['\n']) _ (fun _ _ => rfl) fun _ _ _ => rfl).trans rfl
  | rm =>
    exact (run_edit lib inv.content inv.chan inv.npath inv.value _ (fun s => lib.removeValue s inv.npath)
      (· ++ ['\n']) _ (fun _ _ => rfl) fun _ _ _ => rfl).trans rfl

end Nima.Cli
