import NimaVerif.Lemmas.NodeUpd
import NimaVerif.Lemmas.NodeEq
import NimaVerif.Model.LayerSpec
/-! The `let` layers around the target: `@` selectors (`_split_scope_npath`), collecting the layers and
writing them back (collecting after a write drops the layers with an empty scope; writing what was
collected changes nothing), and Python's negative index `layers[-depth]`. -/
namespace Nima

open Node EditM

/-! ### `_split_scope_npath` -/

theorem takeWhile_atSigns (k : Nat) (name : Text) (hh : name.head? ≠ some '@') :
    (atSigns k ++ name).takeWhile (· == '@') = atSigns k := by
  induction k with
  | zero =>
    cases name with
    | nil => rfl
    | cons c cs =>
      have : c ≠ '@' := by simpa using hh
      simp [atSigns, this]
  | succ k ih =>
    simp only [atSigns, List.replicate_succ, List.cons_append, List.takeWhile_cons, beq_self_eq_true,
      if_true] at ih ⊢
    rw [ih]

theorem splitScopeNpath_ats (k : Nat) (name : Text) (hk : 1 ≤ k) (hne : name ≠ [])
    (hh : name.head? ≠ some '@') :
    splitScopeNpath (atSigns k ++ name) = .ok (some (k, name)) := by
  unfold splitScopeNpath
  simp only [takeWhile_atSigns k name hh]
  have hl : (atSigns k).length = k := by simp [atSigns]
  have hd : (atSigns k ++ name).drop k = name := by
    have h := List.drop_left (l₁ := atSigns k) (l₂ := name)
    rwa [hl] at h
  rw [hl, hd]
  have hk0 : k ≠ 0 := by omega
  have hne' : name.isEmpty = false := by cases name <;> simp_all
  simp only [hk0, if_false, hne', Bool.false_eq_true]

/-! ### `_collect_scope_layers` / `_write_scope_layers` -/

theorem collect_write_filter (ls : List Layer) (r : Option Layer) (d : Doc) :
    collectScopeLayers (writeScopeLayers ls r d) = ls.filter Layer.nonEmpty := by
  cases ls with
  | nil =>
    cases r <;> simp [writeScopeLayers, collectScopeLayers]
  | cons outer rest =>
    simp only [writeScopeLayers, collectScopeLayers, List.filter_filter, Bool.and_self,
      List.filter_cons, Layer.nonEmpty]
    have e : (fun x : Layer => !x.scope.isEmpty) = Layer.nonEmpty := rfl
    by_cases h : outer.scope.isEmpty = true
    · simp [h, e]
    · simp [h, e]

theorem filter_nonEmpty_of_all {ls : List Layer} (h : ∀ l ∈ ls, l.nonEmpty = true) :
    ls.filter Layer.nonEmpty = ls := List.filter_eq_self.2 h

theorem collect_nonEmpty (d : Doc) : ∀ l ∈ collectScopeLayers d, l.nonEmpty = true := by
  intro l hl
  simp only [collectScopeLayers, List.mem_append, List.mem_filter] at hl
  rcases hl with hl | hl
  · by_cases h : d.scope.isEmpty = true
    · simp [h] at hl
    · simp only [h, Bool.false_eq_true, if_false, List.mem_singleton] at hl
      subst hl
      simpa [Layer.nonEmpty] using h
  · simpa [Layer.nonEmpty] using hl.2

theorem write_write (ls : List Layer) (d : Doc) :
    writeScopeLayers ls none (writeScopeLayers ls none d) = writeScopeLayers ls none d := by
  cases ls with
  | nil => simp [writeScopeLayers]
  | cons o r => simp [writeScopeLayers]

theorem write_collect_normal (d : Doc) (h : LayersNormal d) :
    writeScopeLayers (collectScopeLayers d) none d = d := by
  obtain ⟨h1, h2⟩ := h
  have hf : d.stack.filter (fun l => !l.scope.isEmpty) = d.stack :=
    List.filter_eq_self.2 (by simpa [Layer.nonEmpty] using h1)
  rw [collectScopeLayers, hf]
  by_cases he : d.scope.isEmpty = true
  · -- nothing is stored, and nothing is written
    obtain ⟨a, b, c, e, f⟩ := h2 (by simpa using he)
    rw [if_pos he, a]
    cases d
    simp only at he a b c e f
    subst a b c e f
    simp only [List.isEmpty_iff] at he
    subst he
    rfl
  · -- the outermost layer is read from the fields it is written to
    rw [if_neg he]
    simp only [List.singleton_append, writeScopeLayers, hf]

theorem write_normal (ls : List Layer) (r : Option Layer) (d : Doc)
    (h : ∀ l ∈ ls, l.nonEmpty = true) : LayersNormal (writeScopeLayers ls r d) := by
  cases ls with
  | nil => cases r <;> simp [writeScopeLayers, LayersNormal]
  | cons outer rest =>
    have ho := h outer (by simp)
    simp only [Layer.nonEmpty, Bool.not_eq_eq_eq_not, Bool.not_true, List.isEmpty_eq_false_iff] at ho
    refine ⟨?_, ?_⟩
    · intro l hl
      simp only [writeScopeLayers, List.mem_filter] at hl
      simpa [Layer.nonEmpty] using hl.2
    · intro hs
      simp only [writeScopeLayers] at hs
      exact absurd hs ho

/-! ### negative indexing -/

theorem pyNeg_eq_getElem {α} (xs : List α) (k : Nat) (hk : 1 ≤ k) (hkn : k ≤ xs.length) :
    pyNeg xs k = xs[xs.length - k]? := by simp [pyNeg, hk, hkn]

theorem pyNeg_eq_reverse {α} (xs : List α) (k : Nat) (hk : 1 ≤ k) (hkn : k ≤ xs.length) :
    pyNeg xs k = xs.reverse[k - 1]? := by
  rw [pyNeg_eq_getElem xs k hk hkn,
    List.getElem?_reverse (Nat.lt_of_lt_of_le (Nat.sub_lt hk Nat.one_pos) hkn),
    Nat.sub_sub, Nat.add_sub_of_le hk]

end Nima
