import NimaVerif.Model.Sched
/-!
Non-interference for the process-wide state of nix_manipulator (L9, C15c): under the
all-per-thread configuration `Cfg.code`, what a thread observes in any valid interleaving is what
it observes running alone.  Proof: a simulation between the interleaved state and the state of the
thread's serial run (`Sim`), with the invariant `Inv` (ids of live objects are distinct; every
registry entry belongs to the live object with that id) that `ValidFrom` maintains.
-/
namespace Nima.Sched

/-! ## One step; the simulation relation and the invariant -/

/-- the side condition `ValidFrom` puts on one step -/
def StepOk (s : State) (t : Tid) : Op → Prop
  | .regAlloc n k => s.live (t, n) = none ∧ ∀ o, s.live o ≠ some k
  | _ => True

theorem validFrom_cons {s : State} {c : Cfg} {t : Tid} {op : Op} {rest : Sched} :
    ValidFrom s c ((t, op) :: rest) ↔ StepOk s t op ∧ ValidFrom (step c s t op).1 c rest := by
  cases op <;> exact Iff.rfl

theorem run_cons {c : Cfg} {s : State} {t : Tid} {op : Op} {rest : Sched} :
    run c s ((t, op) :: rest) =
      ((run c (step c s t op).1 rest).1, (t, (step c s t op).2) :: (run c (step c s t op).1 rest).2) :=
  rfl

/-- `s` is the interleaved state, `s'` the state of thread `i`'s serial run: they agree on thread
    `i`'s slots, tokens, objects, and on the registry at the ids of thread `i`'s live objects;
    the serial state has no objects of other threads -/
structure Sim (i : Tid) (s s' : State) : Prop where
  made : s.made (.thread i) = s'.made (.thread i)
  work : s.work (.thread i) = s'.work (.thread i)
  cell : ∀ v, s.cell v (.thread i) = s'.cell v (.thread i)
  toks : s.toks i = s'.toks i
  live : ∀ n, s.live (i, n) = s'.live (i, n)
  other : ∀ j n, j ≠ i → s'.live (j, n) = none
  reg : ∀ n k, s.live (i, n) = some k → s.reg k = s'.reg k

/-- the invariant of valid runs -/
structure Inv (s : State) : Prop where
  inj : ∀ o o' k, s.live o = some k → s.live o' = some k → o = o'
  regOk : ∀ k o x, s.reg k = some (o, x) → s.live o = some k

theorem inv_init : Inv State.init := ⟨by simp [State.init], by simp [State.init]⟩

theorem sim_init (i : Tid) : Sim i State.init State.init :=
  ⟨rfl, rfl, fun _ => rfl, rfl, fun _ => rfl, fun _ _ _ => rfl, fun _ _ _ => rfl⟩

/-! ## The step function under `Cfg.code` -/

/-- `step Cfg.code`, with the slots computed -/
def stepC (s : State) (t : Tid) : Op → State × Obs
  | .getParser =>
    if s.made (.thread t) then (s, .flag false)
    else ({ s with made := upd s.made (.thread t) true }, .flag true)
  | .parseBegin d =>
    if s.made (.thread t) then ({ s with work := upd s.work (.thread t) (some d) }, .unit)
    else (s, .err)
  | .parseEnd =>
    if s.made (.thread t) then ({ s with work := upd s.work (.thread t) none }, .val (s.work (.thread t)))
    else (s, .err)
  | .ctxSet v x =>
    ({ s with toks := upd s.toks t ((v, s.cell v (.thread t)) :: s.toks t),
              cell := upd s.cell v (upd (s.cell v) (.thread t) (some x)) }, .unit)
  | .ctxGet v => (s, .val (s.cell v (.thread t)))
  | .ctxReset v =>
    match s.toks t with
    | (v', old) :: rest =>
      if v' = v then
        ({ s with toks := upd s.toks t rest,
                  cell := upd s.cell v (upd (s.cell v) (.thread t) old) }, .unit)
      else (s, .err)
    | [] => (s, .err)
  | .regAlloc n k => ({ s with live := upd s.live (t, n) (some k) }, .unit)
  | .regFree n =>
    match s.live (t, n) with
    | some k =>
      let reg' := match s.reg k with
        | some (o', _) => if o' = (t, n) then upd s.reg k none else s.reg
        | none => s.reg
      ({ s with live := upd s.live (t, n) none, reg := reg' }, .unit)
    | none => (s, .err)
  | .regStore n x =>
    match s.live (t, n) with
    | some k => ({ s with reg := upd s.reg k (some ((t, n), x)) }, .unit)
    | none => (s, .err)
  | .regGet n =>
    match s.live (t, n) with
    | some k =>
      match s.reg k with
      | some (o', x) =>
        if o' = (t, n) then (s, .val (some x)) else ({ s with reg := upd s.reg k none }, .val none)
      | none => (s, .val none)
    | none => (s, .err)
  | .regClear n =>
    match s.live (t, n) with
    | some k => ({ s with reg := upd s.reg k none }, .unit)
    | none => (s, .err)

theorem step_code (s : State) (t : Tid) (op : Op) : step Cfg.code s t op = stepC s t op := by
  cases op <;> first | rfl | (rename_i v; cases v <;> rfl) | (rename_i v _; cases v <;> rfl)

theorem upd_apply {α β : Type} [DecidableEq α] (f : α → β) (a : α) (b : β) (x : α) :
    upd f a b x = if x = a then b else f x := rfl

/-- frame: a step of thread `t` leaves other threads' slots, tokens and objects alone, and only
    writes registry keys that are ids of live objects of `t`.  (Here and in `inv_step`, `sim_self_*`
    the case analysis over the operations only reads the result off `stepC`; that another thread's
    registry keys differ from `t`'s is `Inv.inj`, used in `sim_other`.) -/
theorem step_frame (s : State) (t : Tid) (op : Op) :
    (∀ j, j ≠ t → (stepC s t op).1.made (.thread j) = s.made (.thread j)) ∧
    (∀ j, j ≠ t → (stepC s t op).1.work (.thread j) = s.work (.thread j)) ∧
    (∀ v j, j ≠ t → (stepC s t op).1.cell v (.thread j) = s.cell v (.thread j)) ∧
    (∀ j, j ≠ t → (stepC s t op).1.toks j = s.toks j) ∧
    (∀ j n, j ≠ t → (stepC s t op).1.live (j, n) = s.live (j, n)) ∧
    (∀ k, (∀ n, s.live (t, n) ≠ some k) → (stepC s t op).1.reg k = s.reg k) := by
  cases op <;> simp only [stepC] <;>
    refine ⟨?_, ?_, ?_, ?_, ?_, ?_⟩ <;> intros <;> (repeat' split) <;> simp_all [upd_apply]
  all_goals grind [upd_apply]

/-! ## Invariant and simulation, one step -/

theorem inv_step {s : State} {t : Tid} {op : Op} (hi : Inv s) (hok : StepOk s t op) :
    Inv (stepC s t op).1 := by
  obtain ⟨inj, regOk⟩ := hi
  cases op <;> simp only [stepC, StepOk] at hok ⊢ <;> (repeat' split) <;>
    first
    | exact ⟨inj, regOk⟩
    | (constructor <;> simp only [upd_apply] <;> grind)

/-- a step of another thread does not change thread `i`'s view -/
theorem sim_other {i j : Tid} {s s' : State} {op : Op} (hs : Sim i s s') (hi : Inv s)
    (hj : j ≠ i) : Sim i (stepC s j op).1 s' := by
  obtain ⟨fm, fw, fc, ft, fl, fr⟩ := step_frame s j op
  have hij : i ≠ j := fun h => hj h.symm
  refine ⟨?_, ?_, ?_, ?_, ?_, hs.other, ?_⟩
  · rw [fm i hij]; exact hs.made
  · rw [fw i hij]; exact hs.work
  · intro v; rw [fc v i hij]; exact hs.cell v
  · rw [ft i hij]; exact hs.toks
  · intro n; rw [fl i n hij]; exact hs.live n
  · intro n k hl
    rw [fl i n hij] at hl
    rw [← hs.reg n k hl]
    apply fr
    intro m hm
    have := hi.inj _ _ _ hm hl
    simp at this; exact hj this.1

/-- a step of thread `i` that is allowed in the interleaved state is allowed in its serial state -/
theorem stepOk_right {i : Tid} {s s' : State} {op : Op} (hs : Sim i s s') (hok : StepOk s i op) :
    StepOk s' i op := by
  cases op <;> try trivial
  rename_i n k
  refine ⟨hs.live n ▸ hok.1, ?_⟩
  rintro ⟨j, m⟩ h
  by_cases hj : j = i
  · subst hj; rw [← hs.live m] at h; exact hok.2 _ h
  · rw [hs.other j m hj] at h; cases h

theorem upd2_apply {α β γ : Type} [DecidableEq α] [DecidableEq β] (f : α → β → γ) (a : α) (b : β)
    (x : γ) (a' : α) (b' : β) :
    upd f a (upd (f a) b x) a' b' = if a' = a ∧ b' = b then x else f a' b' := by
  by_cases h : a' = a <;> simp [h, upd_apply]

/-- parser and context-variable steps of thread `i` itself -/
theorem sim_self_local {i : Tid} {s s' : State} {op : Op} (hs : Sim i s s')
    (hop : match op with
      | .regAlloc .. | .regFree .. | .regStore .. | .regGet .. | .regClear .. => False
      | _ => True) :
    (stepC s i op).2 = (stepC s' i op).2 ∧ Sim i (stepC s i op).1 (stepC s' i op).1 := by
  obtain ⟨hm, hw, hc, ht, hl, ho, he⟩ := hs
  cases op <;> try cases hop
  all_goals simp only [stepC, hm, hw, hc, ht]
  all_goals (repeat' split)
  all_goals first
    | exact ⟨rfl, ⟨hm, hw, hc, ht, hl, ho, he⟩⟩
    | (refine ⟨by simp, ⟨?_, ?_, ?_, ?_, hl, ho, he⟩⟩ <;> (try simp only [upd2_apply, upd_apply]) <;> grind)

/-- an id that no live object has is not a key of the registry -/
theorem reg_fresh {s : State} (hi : Inv s) {k : Nat} (h : ∀ o, s.live o ≠ some k) :
    s.reg k = none := by
  cases hr : s.reg k with
  | none => rfl
  | some p => exact absurd (hi.regOk k p.1 p.2 hr) (h _)

/-- registry steps of thread `i` itself -/
theorem sim_self_reg {i : Tid} {s s' : State} {op : Op} (hs : Sim i s s') (hi : Inv s) (hi' : Inv s')
    (hok : StepOk s i op) (hok' : StepOk s' i op)
    (hop : match op with
      | .regAlloc .. | .regFree .. | .regStore .. | .regGet .. | .regClear .. => True
      | _ => False) :
    (stepC s i op).2 = (stepC s' i op).2 ∧ Sim i (stepC s i op).1 (stepC s' i op).1 := by
  cases op <;> try cases hop
  · -- regAlloc
    have h1 := reg_fresh hi hok.2
    have h2 := reg_fresh hi' hok'.2
    obtain ⟨hm, hw, hc, ht, hl, ho, hr⟩ := hs
    simp only [stepC, StepOk] at hok hok' ⊢
    refine ⟨trivial, ⟨hm, hw, hc, ht, ?_, ?_, ?_⟩⟩ <;> simp only [upd_apply] <;> grind
  all_goals
    obtain ⟨hm, hw, hc, ht, hl, ho, hr⟩ := hs
    obtain ⟨inj, regOk⟩ := hi
    obtain ⟨inj', regOk'⟩ := hi'
    simp only [stepC, hl]
    split
    · rename_i k hk
      have hrk := hr _ k ((hl _).trans hk)
      simp only [hrk]
      repeat' split
      all_goals first
        | exact ⟨rfl, ⟨hm, hw, hc, ht, hl, ho, hr⟩⟩
        | (refine ⟨by simp, ⟨hm, hw, hc, ht, ?_, ?_, ?_⟩⟩ <;> (try simp only [upd_apply]) <;> grind)
    · exact ⟨rfl, ⟨hm, hw, hc, ht, hl, ho, hr⟩⟩

/-- a step of thread `i` itself: same observation on both sides, and the simulation is kept -/
theorem sim_self {i : Tid} {s s' : State} {op : Op} (hs : Sim i s s') (hi : Inv s) (hi' : Inv s')
    (hok : StepOk s i op) :
    (stepC s i op).2 = (stepC s' i op).2 ∧ Sim i (stepC s i op).1 (stepC s' i op).1 := by
  cases op
  case regAlloc | regFree | regStore | regGet | regClear =>
    exact sim_self_reg hs hi hi' hok (stepOk_right hs hok) trivial
  all_goals exact sim_self_local hs trivial

/-! ## Runs -/

/-- the simulation along a whole valid schedule -/
theorem sim_run (i : Tid) (sc : Sched) : ∀ (s s' : State), Sim i s s' → Inv s → Inv s' →
    ValidFrom s Cfg.code sc →
    obsOf i (run Cfg.code s sc).2 = obsOf i (run Cfg.code s' (proj i sc)).2 ∧
      ValidFrom s' Cfg.code (proj i sc) := by
  induction sc with
  | nil => intro s s' _ _ _ _; exact ⟨rfl, trivial⟩
  | cons e rest ih =>
    obtain ⟨t, op⟩ := e
    intro s s' hs hi hi' hv
    rw [validFrom_cons, step_code] at hv
    obtain ⟨hok, hv⟩ := hv
    by_cases ht : t = i
    · subst ht
      have hp : proj t ((t, op) :: rest) = (t, op) :: proj t rest := by simp [proj]
      obtain ⟨ho, hs2⟩ := sim_self hs hi hi' hok
      have hok' := stepOk_right hs hok
      obtain ⟨h1, h2⟩ := ih _ _ hs2 (inv_step hi hok) (inv_step hi' hok') hv
      rw [hp, run_cons, run_cons, validFrom_cons, step_code, step_code]
      refine ⟨?_, hok', h2⟩
      simp only [obsOf, List.filter_cons, BEq.rfl, if_true, List.map_cons] at h1 ⊢
      rw [ho, h1]
    · have hp : proj i ((t, op) :: rest) = proj i rest := by simp [proj, ht]
      obtain ⟨h1, h2⟩ := ih _ _ (sim_other hs hi ht) (inv_step hi hok) hi' hv
      rw [hp, run_cons, step_code]
      refine ⟨?_, h2⟩
      rw [← h1]
      simp [obsOf, ht]

/-- Non-interference: under the all-per-thread configuration, what thread `i` observes in ANY valid
    interleaving is what it observes when it runs its own steps alone. -/
theorem non_interference (sc : Sched) (i : Tid) (hv : ValidFrom State.init Cfg.code sc) :
    obsOf i (run Cfg.code State.init sc).2 = obsOf i (run Cfg.code State.init (proj i sc)).2 :=
  (sim_run i sc _ _ (sim_init i) inv_init inv_init hv).1

/-- the projected schedule is itself valid (so the serial run is a legal run) -/
theorem proj_valid (sc : Sched) (i : Tid) (hv : ValidFrom State.init Cfg.code sc) :
    ValidFrom State.init Cfg.code (proj i sc) :=
  (sim_run i sc _ _ (sim_init i) inv_init inv_init hv).2

theorem obsOf_all (c : Cfg) (i : Tid) (sc : Sched) : ∀ (s : State), (∀ e ∈ sc, e.1 = i) →
    obsOf i (run c s sc).2 = (run c s sc).2.map (·.2) := by
  induction sc with
  | nil => intro _ _; rfl
  | cons e rest ih =>
    obtain ⟨t, op⟩ := e
    intro s h
    have ht : t = i := h (t, op) (by simp)
    subst ht
    have := ih (step c s t op).1 (fun e he => h e (by simp [he]))
    rw [run_cons]
    simp only [obsOf, List.filter_cons, BEq.rfl, if_true, List.map_cons] at this ⊢
    rw [this]

/-- in the serial run everything in the trace is thread `i`'s -/
theorem obsOf_proj (c : Cfg) (s : State) (sc : Sched) (i : Tid) :
    obsOf i (run c s (proj i sc)).2 = (run c s (proj i sc)).2.map (·.2) :=
  obsOf_all c i (proj i sc) s (by simp [proj])

/-! ## Counterexamples -/

theorem cex_shared_parser : ∃ (sc : Sched) (i : Tid), ValidFrom State.init ⟨false, true, true⟩ sc ∧
    obsOf i (run ⟨false, true, true⟩ State.init sc).2 ≠
      obsOf i (run ⟨false, true, true⟩ State.init (proj i sc)).2 :=
  ⟨[(0, .getParser), (1, .getParser), (0, .parseBegin 7), (1, .parseBegin 9), (0, .parseEnd)], 0,
    by simp [ValidFrom], by decide +kernel⟩

theorem cex_shared_bytes : ∃ (sc : Sched) (i : Tid), ValidFrom State.init ⟨true, false, true⟩ sc ∧
    obsOf i (run ⟨true, false, true⟩ State.init sc).2 ≠
      obsOf i (run ⟨true, false, true⟩ State.init (proj i sc)).2 :=
  ⟨[(0, .ctxSet .bytes 7), (1, .ctxSet .bytes 9), (0, .ctxGet .bytes)], 0,
    by simp [ValidFrom], by decide +kernel⟩

theorem cex_shared_path : ∃ (sc : Sched) (i : Tid), ValidFrom State.init ⟨true, true, false⟩ sc ∧
    obsOf i (run ⟨true, true, false⟩ State.init sc).2 ≠
      obsOf i (run ⟨true, true, false⟩ State.init (proj i sc)).2 :=
  ⟨[(0, .ctxSet .path 7), (1, .ctxSet .path 9), (0, .ctxGet .path)], 0,
    by simp [ValidFrom], by decide +kernel⟩

theorem cex_id_collision : ∃ (sc : Sched) (i : Tid),
    obsOf i (run Cfg.code State.init sc).2 ≠ obsOf i (run Cfg.code State.init (proj i sc)).2 :=
  ⟨[(0, .regAlloc 0 5), (1, .regAlloc 0 5), (0, .regStore 0 7), (1, .regStore 0 9), (0, .regGet 0)],
    0, by decide +kernel⟩

/-! ## History independence on one thread

A well-nested block of context-variable operations (`token = V.set(x); try: … finally:
V.reset(token)`) leaves the context variables and the token stack as it found them, for every
configuration, whatever plain steps (parser, registry, reads) happen inside. -/

theorem run_append (c : Cfg) (a b : Sched) : ∀ (s : State),
    run c s (a ++ b) = ((run c (run c s a).1 b).1, (run c s a).2 ++ (run c (run c s a).1 b).2) := by
  induction a with
  | nil => intro s; rfl
  | cons e rest ih =>
    obtain ⟨t, op⟩ := e
    intro s
    rw [List.cons_append, run_cons, ih, run_cons]
    rfl

theorem solo_cons (t : Tid) (op : Op) (ops : List Op) : solo t (op :: ops) = (t, op) :: solo t ops :=
  rfl

theorem solo_append (t : Tid) (a b : List Op) : solo t (a ++ b) = solo t a ++ solo t b :=
  List.map_append

/-- plain steps do not touch the context variables or the tokens -/
theorem plain_step (c : Cfg) (s : State) (t : Tid) (op : Op) (hp : op.isPlain = true) :
    (step c s t op).1.cell = s.cell ∧ (step c s t op).1.toks = s.toks := by
  cases op <;> try cases hp
  all_goals simp only [step]
  all_goals (repeat' split)
  all_goals first | exact ⟨rfl, rfl⟩ | exact ⟨trivial, trivial⟩

/-- `reset v` in a state that has the cells and tokens `set v x` left gives back the cells and
    tokens from before the `set` -/
theorem reset_after_set (c : Cfg) (t : Tid) (v : CVar) (x : Nat) (s s2 : State)
    (hc : s2.cell = (step c s t (.ctxSet v x)).1.cell)
    (ht : s2.toks = (step c s t (.ctxSet v x)).1.toks) :
    (step c s2 t (.ctxReset v)).1.cell = s.cell ∧ (step c s2 t (.ctxReset v)).1.toks = s.toks := by
  simp only [step] at hc ht
  have h1 : s2.toks t = (v, s.cell v (slot (c.cvarLocal v) t)) :: s.toks t := by
    rw [ht]; simp [upd_apply]
  simp only [step, h1, if_true, hc, ht]
  constructor
  · funext w sl
    simp only [upd_apply]
    by_cases hw : w = v
    · subst hw; by_cases hs : sl = slot (c.cvarLocal w) t <;> simp [hs, upd_apply]
    · simp [hw]
  · funext j
    simp only [upd_apply]
    by_cases hj : j = t <;> simp [hj]

/-- A balanced block restores every context variable cell and the thread's token stack. -/
theorem balanced_restores (c : Cfg) (t : Tid) (ops : List Op) (hb : Balanced ops) (s : State) :
    (run c s (solo t ops)).1.cell = s.cell ∧ (run c s (solo t ops)).1.toks = s.toks := by
  induction hb generalizing s with
  | nil => exact ⟨rfl, rfl⟩
  | plain hp _ ih =>
    rw [solo_cons, run_cons]
    obtain ⟨h1, h2⟩ := plain_step c s t _ hp
    obtain ⟨h3, h4⟩ := ih (step c s t _).1
    exact ⟨h3.trans h1, h4.trans h2⟩
  | @block v x inner rest _ _ ihi ihr =>
    rw [solo_cons, run_cons, solo_append, run_append, solo_cons, run_cons]
    obtain ⟨h1, h2⟩ := ihi (step c s t (.ctxSet v x)).1
    obtain ⟨h3, h4⟩ := reset_after_set c t v x s _ h1 h2
    obtain ⟨h5, h6⟩ := ihr (step c (run c (step c s t (.ctxSet v x)).1 (solo t inner)).1 t (.ctxReset v)).1
    exact ⟨h5.trans h3, h6.trans h4⟩

theorem run_length (c : Cfg) (sc : Sched) : ∀ (s : State), (run c s sc).2.length = sc.length := by
  induction sc with
  | nil => intro s; rfl
  | cons e rest ih => obtain ⟨t, op⟩ := e; intro s; rw [run_cons]; simp [ih]

theorem reset_after_set_obs (c : Cfg) (t : Tid) (v : CVar) (x : Nat) (s s2 : State)
    (ht : s2.toks = (step c s t (.ctxSet v x)).1.toks) :
    (step c s2 t (.ctxReset v)).2 = .unit := by
  simp only [step] at ht
  have h1 : s2.toks t = (v, s.cell v (slot (c.cvarLocal v) t)) :: s.toks t := by
    rw [ht]; simp [upd_apply]
  simp only [step, h1, if_true]

/-- … and no reset inside a balanced block fails: paired with the operations, every observation of
    a `ctxReset` is `.unit` (never `.err`). -/
theorem balanced_no_ctx_err (c : Cfg) (t : Tid) (ops : List Op) (hb : Balanced ops) (s : State) :
    ∀ p ∈ ops.zip (run c s (solo t ops)).2, (∃ v, p.1 = .ctxReset v) → p.2.2 = .unit := by
  induction hb generalizing s with
  | nil => intro p hp; cases hp
  | @plain op rest hpl _ ih =>
    intro p hp ⟨v, hv⟩
    rw [solo_cons, run_cons, List.zip_cons_cons, List.mem_cons] at hp
    rcases hp with rfl | hp
    · simp only at hv; subst hv; cases hpl
    · exact ih _ p hp ⟨v, hv⟩
  | @block v x inner rest hbi _ ihi ihr =>
    intro p hp hv
    have hlen : inner.length = (run c (step c s t (.ctxSet v x)).1 (solo t inner)).2.length := by
      rw [run_length]; simp [solo]
    rw [solo_cons, run_cons, solo_append, run_append, solo_cons, run_cons, List.zip_cons_cons,
      List.zip_append hlen, List.zip_cons_cons, List.mem_cons, List.mem_append, List.mem_cons] at hp
    rcases hp with rfl | hp | rfl | hp
    · obtain ⟨_, hv⟩ := hv; cases hv
    · exact ihi _ p hp hv
    · exact reset_after_set_obs c t v x s _ (balanced_restores c t inner hbi _).2
    · exact ihr _ p hp hv

/-- the nesting of `parse_file` (path block around parser steps and a bytes block) is balanced -/
example : Balanced [.ctxSet .path 1, .getParser, .parseBegin 7, .parseEnd, .ctxSet .bytes 2,
    .ctxGet .bytes, .ctxReset .bytes, .ctxReset .path] :=
  .block (inner := [.getParser, .parseBegin 7, .parseEnd, .ctxSet .bytes 2, .ctxGet .bytes,
      .ctxReset .bytes]) (rest := [])
    (.plain rfl (.plain rfl (.plain rfl
      (.block (inner := [.ctxGet .bytes]) (rest := []) (.plain rfl .nil) .nil))))
    .nil

end Nima.Sched
