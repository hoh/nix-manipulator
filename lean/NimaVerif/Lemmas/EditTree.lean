import NimaVerif.Lemmas.NodeUpd
import NimaVerif.Model.DocWF
import NimaVerif.Lemmas.AttrTree
/-! How the identity-based mutations of the document (`updBind`, `updSet`) act on what Nix reads
(`denote`): an update of the object found by a walk through `values` (`subAt`) is a `graft` at the
walked path. The second half is about the copies of an AttributeSet object that `attrpath_order`
holds besides `values` (`occS`, `Coh`): a removal made on every copy keeps them equal, which is what
lets `findSet` stand for the object at its place in `values`. -/
namespace Nima
-- name tokens are compared by spelling in this file (see `NameCmp` in Model/Edit.lean)
attribute [local instance] NameCmp.spelled
open Node

/-! ### list forms -/

@[simp] theorem vIdsL_nil : vIdsL [] = [] := rfl
@[simp] theorem vIdsL_cons (x : Node) (xs : List Node) : vIdsL (x :: xs) = vIds x ++ vIdsL xs := rfl
@[simp] theorem vIdsL_append (a b : List Node) : vIdsL (a ++ b) = vIdsL a ++ vIdsL b := by
  induction a with
  | nil => rfl
  | cons x r ih => simp [ih]

@[simp] theorem denoteL_nil : denoteL [] = [] := rfl
@[simp] theorem denoteL_cons (x : Node) (xs : List Node) : denoteL (x :: xs) = denoteI x ++ denoteL xs := rfl
@[simp] theorem denoteL_append (a b : List Node) : denoteL (a ++ b) = denoteL a ++ denoteL b := by
  induction a with
  | nil => rfl
  | cons x r ih => simp [ih]

@[simp] theorem denote_set (s : Nat) (vs o : List Node) (m r : Bool) :
    denote (.set s vs o m r) = .node (denoteL vs) := rfl
@[simp] theorem denoteI_bind (i : Nat) (n : Text) (ne : Bool) (v : Node) (b a : Payload) :
    denoteI (.bind i n ne v b a) = [(n, denote v)] := rfl

theorem vIds_mem_vIdsL (x : Node) (xs : List Node) (hx : x ∈ xs) (i : Nat) (hi : i ∈ vIds x) :
    i ∈ vIdsL xs := by
  induction xs with
  | nil => simp at hx
  | cons y r ih =>
    simp only [vIdsL_cons, List.mem_append]
    rcases List.mem_cons.mp hx with e | hm
    · subst e; exact Or.inl hi
    · exact Or.inr (ih hm)

/-! ### an update does not touch what does not hold the identity

"Does not hold the identity" is said through five enumerations in the development, each for its own
purpose. `vIds` (here) lists what is reachable through `values` only, and serves facts about `denote`.
`hasBind` / `hasSet` (Model/Frame.lean; `occursBind` of Model/MappingSpec.lean is `hasBind`) also look
into `attrpath_order` and serve equalities `updBind … n = n` on whole nodes, layers and documents.
`bindIdList` / `setIdList` (Lemmas/Footprint.lean) are the same occurrences as lists, for footprints of
update traces. `occS` (below) lists the set occurrences themselves, copies included, for coherence. -/

mutual
  theorem denote_updBind_notin (id : Nat) (v : Node) :
      (x : Node) → id ∉ vIds x → denote (updBind id v x) = denote x ∧ denoteI (updBind id v x) = denoteI x
    | .atom _, _ => ⟨rfl, rfl⟩
    | .ident _, _ => ⟨rfl, rfl⟩
    | .inherit _ _, _ => ⟨rfl, rfl⟩
    | .entry _ _ _ _, _ => ⟨rfl, rfl⟩
    | .set s vs o m r, h => by
      simp only [vIds, List.mem_cons, not_or] at h
      exact ⟨by simp only [updBind, denote_set, denoteL_updBindL_notin id v vs h.2], rfl⟩
    | .bind i n ne val b a, h => by
      simp only [vIds, List.mem_cons, not_or] at h
      have hi : ¬ i = id := fun e => h.1 e.symm
      constructor
      · simp only [updBind, hi, if_false]; rfl
      · simp only [updBind, hi, if_false, denoteI_bind, (denote_updBind_notin id v val h.2).1]
  theorem denoteL_updBindL_notin (id : Nat) (v : Node) :
      (xs : List Node) → id ∉ vIdsL xs → denoteL (updBindL id v xs) = denoteL xs
    | [], _ => rfl
    | x :: xs, h => by
      simp only [vIdsL_cons, List.mem_append, not_or] at h
      simp only [updBindL, denoteL_cons, (denote_updBind_notin id v x h.1).2,
        denoteL_updBindL_notin id v xs h.2]
end

mutual
  theorem denote_updSet_notin (sid : Nat) (f : Node → Node) :
      (x : Node) → sid ∉ vIds x → denote (updSet sid f x) = denote x ∧ denoteI (updSet sid f x) = denoteI x
    | .atom _, _ => ⟨rfl, rfl⟩
    | .ident _, _ => ⟨rfl, rfl⟩
    | .inherit _ _, _ => ⟨rfl, rfl⟩
    | .entry _ _ _ _, _ => ⟨rfl, rfl⟩
    | .set s vs o m r, h => by
      simp only [vIds, List.mem_cons, not_or] at h
      have hs : ¬ s = sid := fun e => h.1 e.symm
      exact ⟨by simp only [updSet, hs, if_false, denote_set, denoteL_updSetL_notin sid f vs h.2],
             by simp only [updSet, hs, if_false]; rfl⟩
    | .bind i n ne val b a, h => by
      simp only [vIds, List.mem_cons, not_or] at h
      constructor
      · simp only [updSet]; rfl
      · simp only [updSet, denoteI_bind, (denote_updSet_notin sid f val h.2).1]
  theorem denoteL_updSetL_notin (sid : Nat) (f : Node → Node) :
      (xs : List Node) → sid ∉ vIdsL xs → denoteL (updSetL sid f xs) = denoteL xs
    | [], _ => rfl
    | x :: xs, h => by
      simp only [vIdsL_cons, List.mem_append, not_or] at h
      simp only [updSetL, denoteL_cons, (denote_updSet_notin sid f x h.1).2,
        denoteL_updSetL_notin sid f xs h.2]
end

/-! ### finding a binding by name -/

/-- the test of `findBinding` -/
def isNamed (k : Text) (n : Node) : Bool := n.isBind && n.bindName? == some k

theorem isNamed_iff (k : Text) (n : Node) :
    isNamed k n = true ↔ ∃ i ne val bf af, n = .bind i k ne val bf af := by
  cases n <;> simp [isNamed, isBind, bindName?]

theorem findBinding_eq (vs : List Node) (k : Text) : findBinding vs k = vs.find? (isNamed k) := by
  rw [findBinding_spelled]; rfl

/-- `findBinding` spelled out: the first binding named `k`, and where it sits. -/
theorem findBinding_split (vs : List Node) (k : Text) (b : Node) (h : findBinding vs k = some b) :
    ∃ i ne val bf af pre post, b = .bind i k ne val bf af ∧ vs = pre ++ b :: post ∧
      ∀ x ∈ pre, isNamed k x = false := by
  rw [findBinding_eq, List.find?_eq_some_iff_append] at h
  obtain ⟨hb, pre, post, hvs, hpre⟩ := h
  obtain ⟨i, ne, val, bf, af, rfl⟩ := (isNamed_iff k b).mp hb
  exact ⟨i, ne, val, bf, af, pre, post, rfl, hvs, fun x hx => by simpa using hpre x hx⟩

theorem findBinding_none (vs : List Node) (k : Text) (h : findBinding vs k = none) :
    ∀ x ∈ vs, isNamed k x = false := by
  rw [findBinding_eq, List.find?_eq_none] at h
  intro x hx; simpa using h x hx

/-- keys an item defines -/
theorem keys_denoteI_bind (i : Nat) (n : Text) (ne : Bool) (v : Node) (b a : Payload) :
    Kids.keys (denoteI (.bind i n ne v b a)) = [n] := rfl

theorem not_mem_keys_denoteL (k : Text) (vs : List Node) (h1 : ∀ x ∈ vs, isNamed k x = false)
    (h2 : inheritMentions vs k = false) : k ∉ Kids.keys (denoteL vs) := by
  induction vs with
  | nil => simp
  | cons x r ih =>
    have hx := h1 x (by simp)
    have hr := ih (fun y hy => h1 y (by simp [hy])) (by
      simp only [inheritMentions, List.any_cons, Bool.or_eq_false_iff] at h2; exact h2.2)
    simp only [denoteL_cons, Kids.keys_append, List.mem_append, not_or]
    refine ⟨?_, hr⟩
    cases x with
    | bind i n ne v b a =>
      simp only [isNamed, isBind, bindName?, Bool.true_and, beq_eq_false_iff_ne, ne_eq, Option.some.injEq] at hx
      simp; exact fun e => hx e.symm
    | inherit i names =>
      simp only [inheritMentions, List.any_cons, Bool.or_eq_false_iff] at h2
      have := h2.1
      simp only [List.contains_eq_mem, decide_eq_false_iff_not] at this
      simp [denoteI, Kids.keys, this]
    | _ => simp [denoteI]

/-! ### walking down `values` by name -/

/-- the value of the first binding named `k` of a set -/
def stepInto (n : Node) (k : Text) : Option Node := (findBinding n.setValues k).bind (·.bindValue?)

/-- the node reached from `n` along the names `p` -/
def subAt : Node → List Text → Option Node
  | n, [] => some n
  | n, k :: ks => match stepInto n k with
    | some v => subAt v ks
    | none => none

@[simp] theorem subAt_nil (n : Node) : subAt n [] = some n := rfl

theorem stepInto_some (T : Node) (k : Text) (val : Node) (h : stepInto T k = some val) :
    ∃ s o m r i ne bf af pre post, T = .set s (pre ++ .bind i k ne val bf af :: post) o m r ∧
      ∀ x ∈ pre, isNamed k x = false := by
  unfold stepInto at h
  cases hf : findBinding T.setValues k with
  | none => simp [hf] at h
  | some b =>
    simp only [hf, Option.bind_some] at h
    obtain ⟨i, ne, val', bf, af, pre, post, rfl, hvs, hpre⟩ := findBinding_split _ _ _ hf
    simp only [bindValue?, Option.some.injEq] at h
    subst h
    cases T with
    | set s vs o m r =>
      simp only [setValues] at hvs
      exact ⟨s, o, m, r, i, ne, bf, af, pre, post, by rw [hvs], hpre⟩
    | _ => simp [setValues] at hvs

/-- a walk with a first name goes through the first binding of that name -/
theorem subAt_cons_some {T cur : Node} {k : Text} {ks : List Text} (h : subAt T (k :: ks) = some cur) :
    ∃ s o m r i ne val bf af pre post, T = .set s (pre ++ .bind i k ne val bf af :: post) o m r ∧
      (∀ x ∈ pre, isNamed k x = false) ∧ subAt val ks = some cur := by
  simp only [subAt] at h
  cases hs : stepInto T k with
  | none => simp [hs] at h
  | some val =>
    simp only [hs] at h
    obtain ⟨s, o, m, r, i, ne, bf, af, pre, post, rfl, hpre⟩ := stepInto_some T k val hs
    exact ⟨s, o, m, r, i, ne, val, bf, af, pre, post, rfl, hpre, h⟩

theorem stepInto_of_split (s : Nat) (o : List Node) (m r : Bool) (i : Nat) (k : Text) (ne : Bool)
    (val : Node) (bf af : Payload) (pre post : List Node) (hpre : ∀ x ∈ pre, isNamed k x = false) :
    findBinding (pre ++ .bind i k ne val bf af :: post) k = some (.bind i k ne val bf af) ∧
    stepInto (.set s (pre ++ .bind i k ne val bf af :: post) o m r) k = some val := by
  have h1 : findBinding (pre ++ .bind i k ne val bf af :: post) k = some (.bind i k ne val bf af) := by
    rw [findBinding_eq, List.find?_eq_some_iff_append]
    refine ⟨(isNamed_iff _ _).mpr ⟨_, _, _, _, _, rfl⟩, pre, post, rfl, fun x hx => by simp [hpre x hx]⟩
  exact ⟨h1, by simp [stepInto, setValues, h1, bindValue?]⟩

/-- split of the attributes around a found binding -/
theorem keys_split (k : Text) (pre post : List Node) (i : Nat) (ne : Bool) (val : Node) (bf af : Payload)
    (hn : AttrTree.nodupL (denoteL (pre ++ .bind i k ne val bf af :: post)) = true) :
    k ∉ Kids.keys (denoteL pre) ∧ (denote val).nodup = true := by
  rw [AttrTree.nodupL_iff] at hn
  obtain ⟨h1, h2⟩ := hn
  simp only [denoteL_append, denoteL_cons, denoteI_bind, Kids.keys_append,
    List.singleton_append, Kids.keys_cons] at h1
  rw [List.nodup_append] at h1
  refine ⟨fun hk => h1.2.2 k hk k (by simp) rfl, ?_⟩
  exact h2 (k, denote val) (by simp)

theorem lookup_split (k : Text) (a b : Kids) (t : AttrTree) (h : k ∉ Kids.keys a) :
    Kids.lookup k (a ++ (k, t) :: b) = some t ∧
    (∀ y, Kids.upsert k y (a ++ (k, t) :: b) = a ++ (k, y) :: b) ∧
    Kids.erase k (a ++ (k, t) :: b) = a ++ b := by
  refine ⟨?_, ?_, ?_⟩
  · rw [Kids.lookup_append_right k a _ h]; simp
  · intro y; rw [Kids.upsert_append_right k y a _ h]; simp
  · rw [Kids.erase_append_right k a _ h]; simp

theorem lookup_of_findBinding (vs : List Node) (k : Text) (i : Nat) (ne : Bool) (val : Node) (bf af : Payload)
    (hn : AttrTree.nodupL (denoteL vs) = true) (h : findBinding vs k = some (.bind i k ne val bf af)) :
    Kids.lookup k (denoteL vs) = some (denote val) := by
  obtain ⟨i', ne', val', bf', af', pre, post, e, hvs, _⟩ := findBinding_split _ _ _ h
  injection e with e1 _ e2 e3 e4 e5; subst e1 e2 e3 e4 e5
  subst hvs
  obtain ⟨hk, _⟩ := keys_split k pre post i ne val bf af hn
  simpa using (lookup_split k (denoteL pre) (denoteL post) (denote val) hk).1

theorem lookup_of_stepInto (cur : Node) (k : Text) (v : Node) (hn : (denote cur).nodup = true)
    (h : stepInto cur k = some v) : ∃ kids, denote cur = .node kids ∧ Kids.lookup k kids = some (denote v) := by
  obtain ⟨s, o, m, r, i, ne, bf, af, pre, post, rfl, hpre⟩ := stepInto_some cur k v h
  simp only [denote_set, AttrTree.nodup_node] at hn
  exact ⟨_, rfl, lookup_of_findBinding _ k i ne v bf af hn (stepInto_of_split s o m r i k ne v bf af pre post hpre).1⟩

/-- the identities below a node reached by a walk are identities of the tree -/
theorem vIds_subAt (p : List Text) : ∀ (T cur : Node), subAt T p = some cur → ∀ i ∈ vIds cur, i ∈ vIds T := by
  induction p with
  | nil => intro T cur h i hi; simp at h; subst h; exact hi
  | cons k ks ih =>
    intro T cur h i hi
    obtain ⟨s, o, m, r, j, ne, val, bf, af, pre, post, rfl, _, h⟩ := subAt_cons_some h
    have := ih val cur h i hi
    simp [vIds, this]

theorem subAt_sid_mem (p : List Text) (T cur : Node) (c : Nat) (h : subAt T p = some cur)
    (hc : cur.setSid? = some c) : c ∈ vIds T := by
  obtain ⟨vs, o, m, r, rfl⟩ := setSid_some _ _ hc
  exact vIds_subAt p T _ h c (by simp [vIds])

/-- facts a located binding inherits from the uniqueness of identities -/
theorem ids_split (s : Nat) (pre post : List Node) (i : Nat) (k : Text) (ne : Bool) (val : Node)
    (bf af : Payload) (o : List Node) (m r : Bool)
    (h : (vIds (.set s (pre ++ .bind i k ne val bf af :: post) o m r)).Nodup) :
    (vIds val).Nodup ∧ (∀ c ∈ vIds val, c ≠ s ∧ c ≠ i ∧ c ∉ vIdsL pre ∧ c ∉ vIdsL post) ∧
    i ≠ s ∧ i ∉ vIdsL pre ∧ i ∉ vIdsL post ∧ i ∉ vIds val := by
  simp only [vIds, vIdsL_append, vIdsL_cons, List.nodup_cons, List.mem_append, List.mem_cons,
    not_or, List.nodup_append] at h
  obtain ⟨⟨hs1, ⟨hs2, hs3⟩, hs4⟩, hpre, ⟨⟨hi1, hval⟩, hpost, hx⟩, hy⟩ := h
  refine ⟨hval, ?_, fun e => hs2 e.symm, ?_, ?_, hi1⟩
  · intro c hc
    refine ⟨fun e => hs3 (e ▸ hc), fun e => hi1 (e ▸ hc), ?_, ?_⟩
    · intro hp; exact hy c hp c (Or.inl (Or.inr hc)) rfl
    · intro hp; exact hx c (Or.inr hc) c hp rfl
  · intro hp; exact hy i hp i (Or.inl (Or.inl rfl)) rfl
  · intro hp; exact hx i (Or.inl rfl) i hp rfl

/-! ### a mutation of the object found by a walk is a `graft` at the walked path -/

/-- what Nix reads at the end of a walk through `values` -/
theorem treeAt_denote (p : List Text) : ∀ (T cur : Node), (denote T).nodup = true →
    subAt T p = some cur → treeAt (denote T) p = some (denote cur) := by
  induction p with
  | nil => intro T cur _ h; simp at h; subst h; simp
  | cons k ks ih =>
    intro T cur hn h
    obtain ⟨s, o, m, r, i, ne, val, bf, af, pre, post, rfl, _, h⟩ := subAt_cons_some h
    simp only [denote_set, AttrTree.nodup_node] at hn
    obtain ⟨hk, hv⟩ := keys_split k pre post i ne val bf af hn
    simp only [denote_set, denoteL_append, denoteL_cons, denoteI_bind, List.singleton_append, treeAt,
      (lookup_split k (denoteL pre) (denoteL post) (denote val) hk).1]
    exact ih val cur hv h

/-- what Nix reads at a set found by a walk: its attributes, and no name twice among them -/
theorem located (T : Node) (hk : KeysOK T) (p : List Text) (c : Nat) (vs o : List Node) (m r : Bool)
    (hp : subAt T p = some (.set c vs o m r)) :
    treeAt (denote T) p = some (.node (denoteL vs)) ∧ AttrTree.nodupL (denoteL vs) = true := by
  have htp := treeAt_denote p T _ hk hp
  exact ⟨htp, by simpa using nodup_treeAt p _ _ htp hk⟩

/-- mutating the AttributeSet object found at path `p` is a graft at `p`. -/
theorem denote_updSet_at (f : Node → Node) (p : List Text) : ∀ (T cur : Node) (c : Nat),
    (vIds T).Nodup → (denote T).nodup = true → subAt T p = some cur → cur.setSid? = some c →
    denote (updSet c f T) = graft p (denote (f cur)) (denote T) := by
  induction p with
  | nil =>
    intro T cur c _ _ h hc
    simp at h; subst h
    obtain ⟨vs, o, m, r, rfl⟩ := setSid_some _ _ hc
    simp [updSet]
  | cons k ks ih =>
    intro T cur c hid hn h hc
    obtain ⟨s, o, m, r, i, ne, val, bf, af, pre, post, rfl, _, h⟩ := subAt_cons_some h
    obtain ⟨hval, hc', _⟩ := ids_split s pre post i k ne val bf af o m r hid
    obtain ⟨hcs, hci, hcpre, hcpost⟩ := hc' c (subAt_sid_mem ks val cur c h hc)
    simp only [denote_set, AttrTree.nodup_node] at hn
    obtain ⟨hk, hv⟩ := keys_split k pre post i ne val bf af hn
    have hs' : ¬ s = c := fun e => hcs e.symm
    obtain ⟨hl, hu, _⟩ := lookup_split k (denoteL pre) (denoteL post) (denote val) hk
    simp only [updSet, hs', if_false, denote_set, updSetL_append, updSetL, denoteL_append, denoteL_cons,
      denoteI_bind, denoteL_updSetL_notin c f pre hcpre, denoteL_updSetL_notin c f post hcpost,
      List.singleton_append, graft, hl, Option.getD_some, hu]
    rw [ih val cur c hval hv h hc]

theorem subAt_bid_mem (p : List Text) (T par : Node) (k : Text) (b : Node) (bid : Nat)
    (h : subAt T p = some par) (hf : findBinding par.setValues k = some b) (hb : b.bindId? = some bid) :
    bid ∈ vIds T := by
  obtain ⟨i, ne, val, bf, af, pre, post, rfl, hvs, _⟩ := findBinding_split _ _ _ hf
  simp only [bindId?, Option.some.injEq] at hb
  subst hb
  cases par with
  | set s vs o m r =>
    simp only [setValues] at hvs
    subst hvs
    exact vIds_subAt p T _ h i (by simp [vIds])
  | _ => simp [setValues] at hvs

/-- assigning to the Binding object found under `k` at path `p` is a graft at `p ++ [k]`. -/
theorem denote_updBind_at (v : Node) (p : List Text) : ∀ (T par : Node) (k : Text) (b : Node) (bid : Nat),
    (vIds T).Nodup → (denote T).nodup = true → subAt T p = some par →
    findBinding par.setValues k = some b → b.bindId? = some bid →
    denote (updBind bid v T) = graft (p ++ [k]) (denote v) (denote T) := by
  induction p with
  | nil =>
    intro T par k b bid hid hn h hf hb
    simp at h; subst h
    obtain ⟨i, ne, val, bf, af, pre, post, rfl, hvs, hpre⟩ := findBinding_split _ _ _ hf
    simp only [bindId?, Option.some.injEq] at hb
    subst hb
    cases T with
    | set s vs o m r =>
      simp only [setValues] at hvs
      subst hvs
      obtain ⟨_, _, _, hipre, hipost, _⟩ := ids_split s pre post i k ne val bf af o m r hid
      simp only [denote_set, AttrTree.nodup_node] at hn
      obtain ⟨hk, _⟩ := keys_split k pre post i ne val bf af hn
      obtain ⟨_, hu, _⟩ := lookup_split k (denoteL pre) (denoteL post) (denote val) hk
      simp only [updBind, denote_set, updBindL_append, updBindL, denoteL_append, denoteL_cons, if_true,
        denoteI_bind, denoteL_updBindL_notin i v pre hipre, denoteL_updBindL_notin i v post hipost,
        List.singleton_append, List.nil_append, graft, hu]
    | _ => simp [setValues] at hvs
  | cons k0 ks ih =>
    intro T par k b bid hid hn h hf hb
    obtain ⟨s, o, m, r, i, ne, val, bf, af, pre, post, rfl, _, h⟩ := subAt_cons_some h
    obtain ⟨hval, hc', _⟩ := ids_split s pre post i k0 ne val bf af o m r hid
    obtain ⟨_, hci, hcpre, hcpost⟩ := hc' bid (subAt_bid_mem ks val par k b bid h hf hb)
    simp only [denote_set, AttrTree.nodup_node] at hn
    obtain ⟨hk, hv⟩ := keys_split k0 pre post i ne val bf af hn
    have hi' : ¬ i = bid := fun e => hci e.symm
    obtain ⟨hl, hu, _⟩ := lookup_split k0 (denoteL pre) (denoteL post) (denote val) hk
    simp only [updBind, hi', if_false, denote_set, updBindL_append, updBindL, denoteL_append, denoteL_cons,
      denoteI_bind, denoteL_updBindL_notin bid v pre hcpre, denoteL_updBindL_notin bid v post hcpost,
      List.cons_append, List.nil_append, graft, hl, Option.getD_some, hu,
      ih val par k b bid hval hv h hf hb]

/-! ### `__setitem__` on a new name, and the last step of `set` -/

@[simp] theorem appendValue_apply (sid : Nat) (b : Node) (d : Doc) :
    appendValue sid b d = (.ok (), d.updSet sid fun
      | .set s vs o m r => .set s (vs ++ [b]) o m r
      | n => n) := rfl
@[simp] theorem appendOrder_apply (sid : Nat) (x : Node) (d : Doc) :
    appendOrderIfNonEmpty sid x d = (.ok (), d.updSet sid fun
      | .set s vs o m r => if o.isEmpty then .set s vs o m r else .set s vs (o ++ [x]) m r
      | n => n) := rfl


theorem updSetL_updSetL_same (c : Nat) (f g : Node → Node)
    (hf : ∀ vs o m r, (f (.set c vs o m r)).setSid? = some c) :
    (xs : List Node) → updSetL c g (updSetL c f xs) = updSetL c (g ∘ f) xs :=
  updSetL_fuse c f g hf

/-- the fields an attribute-level operation leaves alone -/
def Frame (d d' : Doc) : Prop := d'.noTarget = d.noTarget ∧ (d.scratch = none → d'.scratch = none)

theorem Frame.refl (d : Doc) : Frame d d := ⟨rfl, id⟩
theorem Frame.trans {a b c : Doc} (h1 : Frame a b) (h2 : Frame b c) : Frame a c :=
  ⟨h2.1.trans h1.1, fun h => h2.2 (h1.2 h)⟩
theorem Frame.updSet (d : Doc) (c : Nat) (f : Node → Node) : Frame d (d.updSet c f) :=
  ⟨rfl, fun h => by simp [Doc.updSet, h]⟩
theorem Frame.updBind (d : Doc) (i : Nat) (v : Node) : Frame d (d.updBind i v) :=
  ⟨rfl, fun h => by simp [Doc.updBind, h]⟩
theorem Frame.next (d : Doc) (n : Nat) : Frame d { d with next := n } := ⟨rfl, id⟩

theorem setSetItem_fresh (s : Node) (key : Text) (v : Node) (c : Nat) (d : Doc)
    (h1 : findBinding s.setValues key = none) (h2 : s.setSid? = some c) :
    ∃ d', setSetItem s key v d = (.ok (), d') ∧ Frame d d' ∧ d'.next = d.next + 1 ∧
      d'.target = updSet c (appendOrderFn (.bind d.next key false v [] []) ∘ appendValueFn (.bind d.next key false v [] []))
        d.target := by
  refine ⟨_, setSetItem_new v d h1 h2, ?_, rfl, rfl⟩
  exact (Frame.next d _).trans (Frame.updSet _ _ _)

theorem denote_appendOrderFn_appendValueFn (nb : Node) (s : Nat) (vs o : List Node) (m r : Bool) :
    denote ((appendOrderFn nb ∘ appendValueFn nb) (.set s vs o m r)) = .node (denoteL vs ++ denoteI nb) := by
  simp only [Function.comp, appendValueFn, appendOrderFn]
  split <;> simp

/-- value shapes that make `set` write through a reference (C11's business) -/
def isIdentNode : Node → Bool | .ident _ => true | _ => false

/-- The last step of `set` on the set `par` found at path `p` is an upsert of `k` there. -/
theorem finalSet_denote (ts par : Node) (wl : Bool) (p : List Text) (k : Text) (v : Node) (d : Doc)
    (hid : IdsOK d.target) (hk : KeysOK d.target) (hp : subAt d.target p = some par)
    (hset : par.isSet = true)
    (hni : ∀ b, findBinding par.setValues k = some b → ∀ val, b.bindValue? = some val → isIdentNode val = false)
    (hinh : inheritMentions par.setValues k = false) :
    ∃ d', finalSet ts par wl k v d = (.ok (), d') ∧ Frame d d' ∧ d'.next ≤ d.next + 1 ∧
      denote d'.target = graft p (.node (Kids.upsert k (denote v) (denote par).kids)) (denote d.target) := by
  obtain ⟨c, vs, o, m, r, rfl⟩ := (isSet_iff par).mp hset
  have htp := treeAt_denote p d.target _ hk hp
  unfold finalSet
  cases hf : findBinding (Node.set c vs o m r).setValues k with
  | some b =>
    obtain ⟨i, ne, val, bf, af, pre, post, rfl, hvs, hpre⟩ := findBinding_split _ _ _ hf
    have hval : ∀ k', bindValue? (.bind i k ne val bf af) ≠ some (.ident k') := by
      intro k' h; cases h; exact absurd (hni _ hf _ rfl) (by simp [isIdentNode])
    refine ⟨d.updBind i v, congrFun (assignExisting_plain _ _ _ v rfl hval) d, Frame.updBind _ _ _,
      by simp, ?_⟩
    simp only [Doc.updBind_target]
    rw [denote_updBind_at v p d.target _ k _ i hid hk hp hf rfl,
      graft_append p [k] _ _ _ htp, denote_set, graft_single]
    rfl
  | none =>
    obtain ⟨d', e, hfr, hn, ht⟩ := setSetItem_fresh (Node.set c vs o m r) k v c d hf rfl
    refine ⟨d', e, hfr, by omega, ?_⟩
    rw [ht, denote_updSet_at _ p d.target _ c hid hk hp rfl, denote_appendOrderFn_appendValueFn]
    have : k ∉ Kids.keys (denoteL vs) := not_mem_keys_denoteL k vs (findBinding_none _ _ hf) hinh
    simp only [denote_set, AttrTree.kids, denoteI_bind, Kids.upsert_of_not_mem k _ _ this]

/-! ### identities and walks after a mutation -/

mutual
  theorem vIds_updSet_notin (c : Nat) (f : Node → Node) :
      (x : Node) → c ∉ vIds x → vIds (updSet c f x) = vIds x
    | .atom _, _ => rfl
    | .ident _, _ => rfl
    | .inherit _ _, _ => rfl
    | .entry _ _ _ _, _ => rfl
    | .set s vs o m r, h => by
      simp only [vIds, List.mem_cons, not_or] at h
      have hs : ¬ s = c := fun e => h.1 e.symm
      simp only [updSet, hs, if_false, vIds, vIdsL_updSetL_notin c f vs h.2]
    | .bind i n ne val b a, h => by
      simp only [vIds, List.mem_cons, not_or] at h
      simp only [updSet, vIds, vIds_updSet_notin c f val h.2]
  theorem vIdsL_updSetL_notin (c : Nat) (f : Node → Node) :
      (xs : List Node) → c ∉ vIdsL xs → vIdsL (updSetL c f xs) = vIdsL xs
    | [], _ => rfl
    | x :: xs, h => by
      simp only [vIdsL_cons, List.mem_append, not_or] at h
      simp only [updSetL, vIdsL_cons, vIds_updSet_notin c f x h.1, vIdsL_updSetL_notin c f xs h.2]
end

theorem isNamed_updSet (c : Nat) (f : Node → Node) (k : Text) (x : Node) (h : c ∉ vIds x) :
    isNamed k (updSet c f x) = isNamed k x := by
  cases x with
  | set s vs o m r =>
    simp only [vIds, List.mem_cons, not_or] at h
    have hs : ¬ s = c := fun e => h.1 e.symm
    simp [updSet, hs, isNamed, isBind]
  | bind i n ne val b a => simp [updSet, isNamed, isBind, bindName?]
  | _ => rfl

theorem isNamed_updSetL (c : Nat) (f : Node → Node) (k : Text) (xs : List Node) (h : c ∉ vIdsL xs)
    (hx : ∀ x ∈ xs, isNamed k x = false) : ∀ x ∈ updSetL c f xs, isNamed k x = false := by
  induction xs with
  | nil => simp [updSetL]
  | cons y r ih =>
    simp only [vIdsL_cons, List.mem_append, not_or] at h
    intro x hm
    simp only [updSetL, List.mem_cons] at hm
    rcases hm with e | hm
    · subst e; rw [isNamed_updSet c f k y h.1]; exact hx y (by simp)
    · exact ih h.2 (fun z hz => hx z (by simp [hz])) x hm

/-- walking to the mutated object finds it mutated -/
theorem subAt_updSet (f : Node → Node) (p : List Text) : ∀ (T cur : Node) (c : Nat),
    (vIds T).Nodup → subAt T p = some cur → cur.setSid? = some c →
    subAt (updSet c f T) p = some (f cur) := by
  induction p with
  | nil =>
    intro T cur c _ h hc
    simp at h; subst h
    obtain ⟨vs, o, m, r, rfl⟩ := setSid_some _ _ hc
    simp [updSet]
  | cons k ks ih =>
    intro T cur c hid h hc
    obtain ⟨s, o, m, r, i, ne, val, bf, af, pre, post, rfl, hpre, h⟩ := subAt_cons_some h
    obtain ⟨hval, hc', _⟩ := ids_split s pre post i k ne val bf af o m r hid
    obtain ⟨hcs, hci, hcpre, hcpost⟩ := hc' c (subAt_sid_mem ks val cur c h hc)
    have hs' : ¬ s = c := fun e => hcs e.symm
    simp only [updSet, hs', if_false, updSetL_append, updSetL, subAt]
    rw [(stepInto_of_split s _ m r i k ne _ bf af _ _ (isNamed_updSetL c f k pre hcpre hpre)).2]
    exact ih val cur c hval h hc

theorem subAt_append (p q : List Text) (T : Node) :
    subAt T (p ++ q) = (subAt T p).bind (subAt · q) := by
  induction p generalizing T with
  | nil => simp
  | cons k ks ih =>
    simp only [List.cons_append, subAt]
    cases stepInto T k with
    | none => simp
    | some v => simp [ih]

/-- identities after appending `nb` to the `values` of the object found at path `p` -/
theorem vIds_updSet_app (nb : Node) (f : Node → Node) (c : Nat)
    (hf : ∀ vs o m r, ∃ o', f (.set c vs o m r) = .set c (vs ++ [nb]) o' m r)
    (p : List Text) : ∀ (T cur : Node), (vIds T).Nodup → subAt T p = some cur → cur.setSid? = some c →
    (vIds (updSet c f T)).Perm (vIds T ++ vIds nb) := by
  induction p with
  | nil =>
    intro T cur _ h hc
    simp at h; subst h
    obtain ⟨vs, o, m, r, rfl⟩ := setSid_some _ _ hc
    obtain ⟨o', e⟩ := hf vs o m r
    simp [updSet, e, vIds]
  | cons k ks ih =>
    intro T cur hid h hc
    obtain ⟨s, o, m, r, i, ne, val, bf, af, pre, post, rfl, hpre, h⟩ := subAt_cons_some h
    obtain ⟨hval, hc', _⟩ := ids_split s pre post i k ne val bf af o m r hid
    obtain ⟨hcs, hci, hcpre, hcpost⟩ := hc' c (subAt_sid_mem ks val cur c h hc)
    have hs' : ¬ s = c := fun e => hcs e.symm
    have ihv := ih val cur hval h hc
    simp only [updSet, hs', if_false, updSetL_append, updSetL, vIds, vIdsL_append, vIdsL_cons,
      vIdsL_updSetL_notin c f pre hcpre, vIdsL_updSetL_notin c f post hcpost, List.cons_append]
    refine List.Perm.cons s ?_
    rw [List.append_assoc (vIdsL pre)]
    refine List.Perm.append_left _ ?_
    simp only [List.cons_append]
    refine List.Perm.cons i ?_
    -- V' ++ Q ~ (V ++ Q) ++ N
    have : (vIds (updSet c f val) ++ vIdsL post).Perm ((vIds val ++ vIds nb) ++ vIdsL post) :=
      List.Perm.append_right _ ihv
    refine this.trans ?_
    rw [List.append_assoc, List.append_assoc]
    exact List.Perm.append_left _ List.perm_append_comm

/-! ### coherence of the copies of an AttributeSet object -/

@[simp] theorem occSL_nil : occSL [] = [] := rfl
@[simp] theorem occSL_cons (x : Node) (xs : List Node) : occSL (x :: xs) = occS x ++ occSL xs := rfl
theorem occSL_append (a b : List Node) : occSL (a ++ b) = occSL a ++ occSL b := by
  induction a with
  | nil => rfl
  | cons x r ih => simp [ih]

theorem mem_occSL (a : Node) (xs : List Node) : a ∈ occSL xs ↔ ∃ x ∈ xs, a ∈ occS x := by
  induction xs with
  | nil => simp
  | cons y r ih => simp [ih]

mutual
  def nsize : Node → Nat
    | .set _ vs o _ _ => 1 + nsizeL vs + nsizeL o
    | .bind _ _ _ v _ _ => 1 + nsize v
    | .entry _ l _ _ => 1 + nsize l
    | _ => 1
  def nsizeL : List Node → Nat
    | [] => 0
    | x :: xs => nsize x + nsizeL xs
end

mutual
  theorem nsize_occS : (x a : Node) → a ∈ occS x → nsize a ≤ nsize x
    | .atom _, a, h => by simp [occS] at h
    | .ident _, a, h => by simp [occS] at h
    | .inherit _ _, a, h => by simp [occS] at h
    | .entry _ l _ _, a, h => by
      simp only [occS] at h; have := nsize_occS l a h; simp only [nsize]; omega
    | .bind _ _ _ v _ _, a, h => by
      simp only [occS] at h; have := nsize_occS v a h; simp only [nsize]; omega
    | .set s vs o m r, a, h => by
      simp only [occS, List.mem_cons, List.mem_append] at h
      rcases h with rfl | h | h
      · exact Nat.le_refl _
      · have := nsizeL_occSL vs a h; simp only [nsize]; omega
      · have := nsizeL_occSL o a h; simp only [nsize]; omega
  theorem nsizeL_occSL : (xs : List Node) → (a : Node) → a ∈ occSL xs → nsize a ≤ nsizeL xs
    | [], a, h => by simp at h
    | x :: xs, a, h => by
      simp only [occSL_cons, List.mem_append] at h
      simp only [nsizeL]
      rcases h with h | h
      · have := nsize_occS x a h; omega
      · have := nsizeL_occSL xs a h; omega
end

/-- the occurrences strictly inside a set -/
def strictOcc (P : Node) : List Node := occSL P.setValues ++ occSL P.setOrder

theorem nsize_strictOcc (P a : Node) (h : a ∈ strictOcc P) : nsize a < nsize P := by
  cases P with
  | set s vs o m r =>
    simp only [strictOcc, setValues, setOrder, List.mem_append] at h
    simp only [nsize]
    rcases h with h | h
    · have := nsizeL_occSL vs a h; omega
    · have := nsizeL_occSL o a h; omega
  | _ => simp [strictOcc, setValues, setOrder] at h

theorem strictOcc_sub (P a : Node) (h : a ∈ strictOcc P) : a ∈ occS P := by
  cases P with
  | set s vs o m r => simp only [strictOcc, setValues, setOrder] at h; simp [occS, h]
  | _ => simp [strictOcc, setValues, setOrder] at h

mutual
  theorem occS_isSet : (x a : Node) → a ∈ occS x → a.isSet = true
    | .atom _, a, h => by simp [occS] at h
    | .ident _, a, h => by simp [occS] at h
    | .inherit _ _, a, h => by simp [occS] at h
    | .entry _ l _ _, a, h => occS_isSet l a (by simpa [occS] using h)
    | .bind _ _ _ v _ _, a, h => occS_isSet v a (by simpa [occS] using h)
    | .set s vs o m r, a, h => by
      simp only [occS, List.mem_cons, List.mem_append] at h
      rcases h with rfl | h | h
      · rfl
      · exact occSL_isSet vs a h
      · exact occSL_isSet o a h
  theorem occSL_isSet : (xs : List Node) → (a : Node) → a ∈ occSL xs → a.isSet = true
    | [], a, h => by simp at h
    | x :: xs, a, h => by
      simp only [occSL_cons, List.mem_append] at h
      rcases h with h | h
      · exact occS_isSet x a h
      · exact occSL_isSet xs a h
end


mutual
  theorem findSet_mem (c : Nat) : (x r : Node) → findSet c x = some r → r ∈ occS x ∧ r.setSid? = some c
    | .atom _, r, h => by simp [findSet] at h
    | .ident _, r, h => by simp [findSet] at h
    | .inherit _ _, r, h => by simp [findSet] at h
    | .entry _ l _ _, r, h => by simpa [occS] using findSet_mem c l r (by simpa [findSet] using h)
    | .bind _ _ _ v _ _, r, h => by simpa [occS] using findSet_mem c v r (by simpa [findSet] using h)
    | .set s vs o m rr, r, h => by
      simp only [findSet] at h
      by_cases hs : s = c
      · simp only [hs, if_true, Option.some.injEq] at h
        subst h; simp [occS, setSid?, hs]
      · simp only [hs, if_false] at h
        cases hv : findSetL c vs with
        | some x =>
          simp only [hv, Option.some.injEq] at h; subst h
          have := findSetL_mem c vs x hv
          exact ⟨by simp [occS, this.1], this.2⟩
        | none =>
          simp only [hv] at h
          have := findSetL_mem c o r h
          exact ⟨by simp [occS, this.1], this.2⟩
  theorem findSetL_mem (c : Nat) : (xs : List Node) → (r : Node) → findSetL c xs = some r →
      r ∈ occSL xs ∧ r.setSid? = some c
    | [], r, h => by simp [findSetL] at h
    | x :: xs, r, h => by
      simp only [findSetL] at h
      cases hx : findSet c x with
      | some y =>
        simp only [hx, Option.some.injEq] at h; subst h
        have := findSet_mem c x y hx
        exact ⟨by simp [this.1], this.2⟩
      | none =>
        simp only [hx] at h
        have := findSetL_mem c xs r h
        exact ⟨by simp [this.1], this.2⟩
end

mutual
  theorem findSet_isSome (c : Nat) : (x a : Node) → a ∈ occS x → a.setSid? = some c → (findSet c x).isSome = true
    | .atom _, a, h, _ => by simp [occS] at h
    | .ident _, a, h, _ => by simp [occS] at h
    | .inherit _ _, a, h, _ => by simp [occS] at h
    | .entry _ l _ _, a, h, hc => by simpa [findSet] using findSet_isSome c l a (by simpa [occS] using h) hc
    | .bind _ _ _ v _ _, a, h, hc => by simpa [findSet] using findSet_isSome c v a (by simpa [occS] using h) hc
    | .set s vs o m r, a, h, hc => by
      simp only [findSet]
      by_cases hs : s = c
      · simp [hs]
      · simp only [hs, if_false]
        simp only [occS, List.mem_cons, List.mem_append] at h
        rcases h with rfl | h | h
        · simp [setSid?] at hc; exact absurd hc hs
        · have := findSetL_isSome c vs a h hc
          cases hv : findSetL c vs with
          | some x => rfl
          | none => simp [hv] at this
        · cases hv : findSetL c vs with
          | some x => rfl
          | none => exact findSetL_isSome c o a h hc
  theorem findSetL_isSome (c : Nat) : (xs : List Node) → (a : Node) → a ∈ occSL xs → a.setSid? = some c →
      (findSetL c xs).isSome = true
    | [], a, h, _ => by simp at h
    | x :: xs, a, h, hc => by
      simp only [occSL_cons, List.mem_append] at h
      simp only [findSetL]
      cases hx : findSet c x with
      | some y => rfl
      | none =>
        rcases h with h | h
        · have := findSet_isSome c x a h hc; simp [hx] at this
        · exact findSetL_isSome c xs a h hc
end

theorem subAt_mem_occS (p : List Text) : ∀ (T cur : Node), subAt T p = some cur → cur.isSet = true →
    cur ∈ occS T := by
  induction p with
  | nil =>
    intro T cur h hs
    simp at h; subst h
    obtain ⟨s, vs, o, m, r, rfl⟩ := (isSet_iff T).mp hs
    simp [occS]
  | cons k ks ih =>
    intro T cur h hs
    obtain ⟨s, o, m, r, i, ne, val, bf, af, pre, post, rfl, _, h⟩ := subAt_cons_some h
    have := ih val cur h hs
    simp [occS, occSL_append, this]

/-- with coherent copies, `findSet` returns the object as it is at its place in `values` -/
theorem findSet_of_subAt (T cur : Node) (c : Nat) (p : List Text) (hcoh : Coh T)
    (hp : subAt T p = some cur) (hc : cur.setSid? = some c) : findSet c T = some cur := by
  obtain ⟨vs, o, m, r, rfl⟩ := setSid_some _ _ hc
  have hm := subAt_mem_occS p T _ hp rfl
  have hs := findSet_isSome c T _ hm hc
  cases hf : findSet c T with
  | none => simp [hf] at hs
  | some x =>
    obtain ⟨hx, hxc⟩ := findSet_mem c T x hf
    rw [hcoh x hx _ hm (by rw [hxc, hc])]

/-- a mutation that only removes items from `values` / `attrpath_order` -/
def Shrinks (g : Node → Node) : Prop :=
  ∀ s vs o m r, ∃ vs' o', g (.set s vs o m r) = .set s vs' o' m r ∧ vs'.Sublist vs ∧ o'.Sublist o

theorem occSL_sublist (xs ys : List Node) (h : xs.Sublist ys) (a : Node) (ha : a ∈ occSL xs) : a ∈ occSL ys := by
  induction h with
  | slnil => exact ha
  | cons y _ ih => simp [ih ha]
  | cons_cons y _ ih =>
    simp only [occSL_cons, List.mem_append] at ha ⊢
    rcases ha with h | h
    · exact Or.inl h
    · exact Or.inr (ih h)

theorem occS_shrinks (g : Node → Node) (hg : Shrinks g) (P a : Node) (hP : P.isSet = true)
    (ha : a ∈ occS (g P)) : a = g P ∨ a ∈ strictOcc P := by
  obtain ⟨s, vs, o, m, r, rfl⟩ := (isSet_iff P).mp hP
  obtain ⟨vs', o', e, h1, h2⟩ := hg s vs o m r
  rw [e] at ha ⊢
  simp only [occS, List.mem_cons, List.mem_append] at ha
  rcases ha with h | h | h
  · exact Or.inl h
  · right; simp [strictOcc, setValues, occSL_sublist _ _ h1 a h]
  · right; simp [strictOcc, setOrder, occSL_sublist _ _ h2 a h]

mutual
  theorem updSet_id_of_no_occ (c : Nat) (g : Node → Node) :
      (y : Node) → (∀ q ∈ occS y, q.setSid? ≠ some c) → updSet c g y = y
    | .atom _, _ => rfl
    | .ident _, _ => rfl
    | .inherit _ _, _ => rfl
    | .entry sg l b a, h => by
      simp only [updSet, updSet_id_of_no_occ c g l (fun q hq => h q (by simpa [occS] using hq))]
    | .bind i n ne v b a, h => by
      simp only [updSet, updSet_id_of_no_occ c g v (fun q hq => h q (by simpa [occS] using hq))]
    | .set s vs o m r, h => by
      have hs : ¬ s = c := by
        intro e; exact h (.set s vs o m r) (by simp [occS]) (by simp [setSid?, e])
      simp only [updSet, hs, if_false,
        updSetL_id_of_no_occ c g vs (fun q hq => h q (by simp [occS, hq])),
        updSetL_id_of_no_occ c g o (fun q hq => h q (by simp [occS, hq]))]
  theorem updSetL_id_of_no_occ (c : Nat) (g : Node → Node) :
      (ys : List Node) → (∀ q ∈ occSL ys, q.setSid? ≠ some c) → updSetL c g ys = ys
    | [], _ => rfl
    | y :: ys, h => by
      simp only [updSetL, updSet_id_of_no_occ c g y (fun q hq => h q (by simp [hq])),
        updSetL_id_of_no_occ c g ys (fun q hq => h q (by simp [hq]))]
end

mutual
  theorem occS_updSet (c : Nat) (g : Node → Node) : (x a' : Node) → a' ∈ occS (updSet c g x) →
      (∃ a ∈ occS x, a.setSid? ≠ some c ∧ a' = updSet c g a) ∨
      (∃ P ∈ occS x, P.setSid? = some c ∧ a' ∈ occS (g P))
    | .atom _, a', h => by simp [updSet, occS] at h
    | .ident _, a', h => by simp [updSet, occS] at h
    | .inherit _ _, a', h => by simp [updSet, occS] at h
    | .entry sg l b a, a', h => by
      simpa [occS] using occS_updSet c g l a' (by simpa [updSet, occS] using h)
    | .bind i n ne v b a, a', h => by
      simpa [occS] using occS_updSet c g v a' (by simpa [updSet, occS] using h)
    | .set s vs o m r, a', h => by
      by_cases hs : s = c
      · right
        simp only [updSet, hs, if_true] at h
        exact ⟨.set s vs o m r, by simp [occS], by simp [setSid?, hs], by rw [hs]; exact h⟩
      · simp only [updSet, hs, if_false, occS, List.mem_cons, List.mem_append] at h
        rcases h with h | h | h
        · left
          refine ⟨.set s vs o m r, by simp [occS], by simp [setSid?, hs], ?_⟩
          simp only [updSet, hs, if_false]; exact h
        · rcases occSL_updSetL c g vs a' h with ⟨a, ha, h1, h2⟩ | ⟨P, hP, h1, h2⟩
          · exact Or.inl ⟨a, by simp [occS, ha], h1, h2⟩
          · exact Or.inr ⟨P, by simp [occS, hP], h1, h2⟩
        · rcases occSL_updSetL c g o a' h with ⟨a, ha, h1, h2⟩ | ⟨P, hP, h1, h2⟩
          · exact Or.inl ⟨a, by simp [occS, ha], h1, h2⟩
          · exact Or.inr ⟨P, by simp [occS, hP], h1, h2⟩
  theorem occSL_updSetL (c : Nat) (g : Node → Node) : (xs : List Node) → (a' : Node) →
      a' ∈ occSL (updSetL c g xs) →
      (∃ a ∈ occSL xs, a.setSid? ≠ some c ∧ a' = updSet c g a) ∨
      (∃ P ∈ occSL xs, P.setSid? = some c ∧ a' ∈ occS (g P))
    | [], a', h => by simp [updSetL] at h
    | x :: xs, a', h => by
      simp only [updSetL, occSL_cons, List.mem_append] at h
      rcases h with h | h
      · rcases occS_updSet c g x a' h with ⟨a, ha, h1, h2⟩ | ⟨P, hP, h1, h2⟩
        · exact Or.inl ⟨a, by simp [ha], h1, h2⟩
        · exact Or.inr ⟨P, by simp [hP], h1, h2⟩
      · rcases occSL_updSetL c g xs a' h with ⟨a, ha, h1, h2⟩ | ⟨P, hP, h1, h2⟩
        · exact Or.inl ⟨a, by simp [ha], h1, h2⟩
        · exact Or.inr ⟨P, by simp [hP], h1, h2⟩
end

mutual
  theorem occS_trans : (x a b : Node) → a ∈ occS x → b ∈ occS a → b ∈ occS x
    | .atom _, a, b, ha, _ => by simp [occS] at ha
    | .ident _, a, b, ha, _ => by simp [occS] at ha
    | .inherit _ _, a, b, ha, _ => by simp [occS] at ha
    | .entry sg l bb aa, a, b, ha, hb => by
      simp only [occS] at ha ⊢; exact occS_trans l a b ha hb
    | .bind i n ne v bb aa, a, b, ha, hb => by
      simp only [occS] at ha ⊢; exact occS_trans v a b ha hb
    | .set s vs o m r, a, b, ha, hb => by
      simp only [occS, List.mem_cons, List.mem_append] at ha
      rcases ha with rfl | ha | ha
      · exact hb
      · simp only [occS, List.mem_cons, List.mem_append]
        exact Or.inr (Or.inl (occSL_trans vs a b ha hb))
      · simp only [occS, List.mem_cons, List.mem_append]
        exact Or.inr (Or.inr (occSL_trans o a b ha hb))
  theorem occSL_trans : (xs : List Node) → (a b : Node) → a ∈ occSL xs → b ∈ occS a → b ∈ occSL xs
    | [], a, b, ha, _ => by simp at ha
    | x :: xs, a, b, ha, hb => by
      simp only [occSL_cons, List.mem_append] at ha ⊢
      rcases ha with ha | ha
      · exact Or.inl (occS_trans x a b ha hb)
      · exact Or.inr (occSL_trans xs a b ha hb)
end

theorem shrinks_sid (g : Node → Node) (hg : Shrinks g) (P : Node) (hs : P.isSet = true) :
    (g P).setSid? = P.setSid? := by
  obtain ⟨s, vs, o, m, r, rfl⟩ := (isSet_iff P).mp hs
  obtain ⟨vs', o', e, _, _⟩ := hg s vs o m r
  rw [e]; rfl

/-- nothing strictly inside a copy of the object `c` is a copy of `c` -/
theorem no_occ_inside (x P b : Node) (c : Nat) (hx : Coh x) (hP : P ∈ occS x) (hPc : P.setSid? = some c)
    (hb : b ∈ strictOcc P) : ∀ q ∈ occS b, q.setSid? ≠ some c := by
  intro q hq hqc
  have hbx : b ∈ occS x := occS_trans x P b hP (strictOcc_sub P b hb)
  have hqx : q ∈ occS x := occS_trans x b q hbx hq
  have : q = P := hx q hqx P hP (by rw [hqc, hPc])
  subst this
  have h1 := nsize_occS b q hq
  have h2 := nsize_strictOcc q b hb
  omega

/-- Coherence survives a removal made on every copy of one object. -/
theorem coh_updSet (c : Nat) (g : Node → Node) (hg : Shrinks g) (x : Node) (hx : Coh x) :
    Coh (updSet c g x) := by
  intro a' ha' b' hb' hsid
  -- classify an occurrence of the result
  have classify : ∀ z', z' ∈ occS (updSet c g x) →
      (∃ z ∈ occS x, z.setSid? ≠ some c ∧ z' = updSet c g z ∧ z'.setSid? = z.setSid?) ∨
      (∃ P ∈ occS x, P.setSid? = some c ∧ z' = g P ∧ z'.setSid? = some c) ∨
      (∃ P ∈ occS x, P.setSid? = some c ∧ z' ∈ strictOcc P ∧ z' ∈ occS x) := by
    intro z' hz'
    rcases occS_updSet c g x z' hz' with ⟨z, hz, h1, h2⟩ | ⟨P, hP, h1, h2⟩
    · obtain ⟨s, vs, o, m, r, rfl⟩ := (isSet_iff z).mp (occS_isSet x z hz)
      exact Or.inl ⟨_, hz, h1, h2, by rw [h2]; exact updSet_sid_of_ne rfl fun e => h1 (congrArg some e)⟩
    · rcases occS_shrinks g hg P z' (occS_isSet x P hP) h2 with e | hin
      · exact Or.inr (Or.inl ⟨P, hP, h1, e, by rw [e, shrinks_sid g hg P (occS_isSet x P hP), h1]⟩)
      · exact Or.inr (Or.inr ⟨P, hP, h1, hin, occS_trans x P z' hP (strictOcc_sub P z' hin)⟩)
  rcases classify a' ha' with ⟨a, ha, ha1, ha2, ha3⟩ | ⟨P, hP, hP1, ha2, ha3⟩ | ⟨P, hP, hP1, hin, hax⟩ <;>
  rcases classify b' hb' with ⟨b, hb, hb1, hb2, hb3⟩ | ⟨Q, hQ, hQ1, hb2, hb3⟩ | ⟨Q, hQ, hQ1, hjn, hbx⟩
  · have : a = b := hx a ha b hb (by rw [← ha3, ← hb3, hsid])
    rw [ha2, hb2, this]
  · exfalso; apply ha1; rw [← ha3, hsid, hb3]
  · have : a = b' := hx a ha b' hbx (by rw [← ha3, hsid])
    rw [ha2, this]
    exact updSet_id_of_no_occ c g b' (no_occ_inside x Q b' c hx hQ hQ1 hjn)
  · exfalso; apply hb1; rw [← hb3, ← hsid, ha3]
  · have : P = Q := hx P hP Q hQ (by rw [hP1, hQ1])
    rw [ha2, hb2, this]
  · exfalso
    have : b' = Q := hx b' hbx Q hQ (by rw [← hsid, ha3, hQ1])
    rw [this] at hjn
    have := nsize_strictOcc Q Q hjn
    omega
  · have : b = a' := hx b hb a' hax (by rw [← hb3, ← hsid])
    rw [hb2, this]
    exact (updSet_id_of_no_occ c g a' (no_occ_inside x P a' c hx hP hP1 hin)).symm
  · exfalso
    have : a' = P := hx a' hax P hP (by rw [hsid, hb3, hP1])
    rw [this] at hin
    have := nsize_strictOcc P P hin
    omega
  · exact hx a' hax b' hbx hsid

end Nima
