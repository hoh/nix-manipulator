import NimaVerif.Model.ScopeFragment
/-!
Lemmas for C10 (`Props/C10.lean`): inside the fragment of `InFragment` the code's traversal and
resolution (`implResolve`) and Nix's scoping (`specResolve`) agree, and the code's recursion is bounded.

* Lemma A (`scan_findLex`): the scan of `_resolve_identifier` over the chain is the spec's search
  for the innermost lexical binder.
* Lemma B (`lookup_agree`): lookup + chain following agree (induction on the code's fuel, the spec's
  two fuels are independent, so no monotonicity of fuel is needed).
* Lemma T (`resolveId_terminates`): every recursive call visits a new item of the chain (measure
  `remE`); Lemma TS (`specFollow_terminates`): the same measure bounds the spec's fuel.
* `final_ref`, `final_nonref`, `final_inherit`: the three ways a path can end.
* `key_cases`: the five outcomes of one key step; `nav_agree` (the two traversals agree along a
  path, keeping the store and the spec's environment related: `NavRel`) and `nav_settled` (the spec
  settles along it) walk them.
* `resolve_partial_settled`, `spec_settles`, `resolve_partial_fuel`: from the document root.
* `sameName_of_bare`, `findBindKey_eq_findBind`, `getitemSet_bare`: `AttributeSet.__getitem__` compares
  what key and name token denote (`sameName`); on the bare keys and bare names of the fragment that
  is the comparison by spelling, so the traversal lemmas work with `getitemSetSpelled`.
-/
namespace Nima.Scope
open Nima

/-! ### names -/

theorem dropWhile_quote_of_bare (n : Text) (h : bareName n = true) :
    n.dropWhile (· == '"') = n := by
  cases n with
  | nil => rfl
  | cons c cs =>
    simp only [bareName, List.all_cons, Bool.and_eq_true, bne_iff_ne, ne_eq] at h
    have hc : (c == '"') = false := by simp [h.1]
    simp only [List.dropWhile, hc]

theorem stripQuotes_of_bare (n : Text) (h : bareName n = true) : stripQuotes n = n := by
  unfold stripQuotes
  rw [dropWhile_quote_of_bare n h]
  have h2 : bareName n.reverse = true := by
    unfold bareName at h ⊢
    rw [List.all_reverse]; exact h
  rw [dropWhile_quote_of_bare _ h2, List.reverse_reverse]

theorem specName_of_bare (n : Text) (h : bareName n = true) : specName n = n := by
  cases n with
  | nil => rfl
  | cons c cs =>
    simp only [bareName, List.all_cons, Bool.and_eq_true, bne_iff_ne, ne_eq] at h
    unfold specName
    split
    · rename_i rest heq
      injection heq with h1 _
      exact absurd h1 h.1
    · rfl

/-- a token without `"` is read by `_decode_attr_name` as itself when it is an identifier, and has
    no static name otherwise -/
theorem decodeAttrName_of_bare (n : Text) (h : bareName n = true) :
    decodeAttrName n = if nameIdent n then some n else none := by
  cases n with
  | nil => rfl
  | cons c cs =>
    simp only [bareName, List.all_cons, Bool.and_eq_true, bne_iff_ne, ne_eq] at h
    unfold decodeAttrName
    split
    · rename_i rest heq
      injection heq with h1 _
      exact absurd h1 h.1
    · rfl

/-- on tokens written without quotes `_same_attr_name` is the comparison by spelling -/
theorem sameName_of_bare (a b : Text) (ha : bareName a = true) (hb : bareName b = true) :
    sameName a b = (a == b) := by
  unfold sameName
  simp only [decodeAttrName_of_bare a ha, decodeAttrName_of_bare b hb]
  by_cases h : a = b
  · subst h; simp
  · have hab : (a == b) = false := by simpa using h
    rw [hab, Bool.false_or]
    by_cases h1 : nameIdent a = true <;> by_cases h2 : nameIdent b = true <;>
      simp [h1, h2, Ne.symm h]

/-! ### item lookup in the scopes of the fragment -/

/-- `set[key]` with a bare key on the bindings of a fragment set: the lookup by what the name tokens
    denote (`findBindKey`, the code) is the lookup by spelling (`findBind`) -/
theorem findBindKey_eq_findBind (key : Text) (s : List Item) (hk : bareName key = true)
    (h : fragItems s = true) : findBindKey key s = findBind key s := by
  induction s with
  | nil => rfl
  | cons it rest ih =>
    cases it with
    | bind id n v =>
      simp only [fragItems, Bool.and_eq_true] at h
      simp only [findBindKey, findBind, sameName_of_bare n key h.1.1 hk, beq_iff_eq, ih h.2]
    | inh id ns =>
      simp only [fragItems] at h
      simp only [findBindKey, findBind, ih h]
    | inhFrom id ns src => simp [fragItems] at h

theorem findQuoted_eq_findBind (name : Text) (s : List Item) (h : fragItems s = true) :
    findQuoted name s = findBind name s := by
  induction s with
  | nil => rfl
  | cons it rest ih =>
    cases it with
    | bind id n v =>
      simp only [fragItems, Bool.and_eq_true] at h
      simp only [findQuoted, findBind, stripQuotes_of_bare n h.1.1, ih h.2]
    | inh id ns =>
      simp only [fragItems] at h
      simp only [findQuoted, findBind, ih h]
    | inhFrom id ns src => simp [fragItems] at h

/-- the spec's and the code's search for a binding coincide on bare names -/
theorem findBindS_findBind (name : Text) (s : List Item) (h : fragItems s = true) :
    (findBind name s = none ∧ findBindS name s = none) ∨
    (∃ id n v, findBind name s = some (id, v) ∧ findBindS name s = some (.bind id n v) ∧
      fragE v = true) := by
  induction s with
  | nil => left; exact ⟨rfl, rfl⟩
  | cons it rest ih =>
    cases it with
    | bind id n v =>
      simp only [fragItems, Bool.and_eq_true] at h
      simp only [findBind, findBindS, specName_of_bare n h.1.1]
      by_cases hn : n = name
      · right; exact ⟨id, n, v, by simp [hn], by simp [hn], h.1.2⟩
      · simp only [hn, if_false]; exact ih h.2
    | inh id ns =>
      simp only [fragItems] at h
      simp only [findBind, findBindS]; exact ih h
    | inhFrom id ns src => simp [fragItems] at h

theorem findInherit_frag (name : Text) (s : List Item) (h : fragItems s = true) (it : Item)
    (hf : findInherit name s = some it) : ∃ id ns, it = .inh id ns := by
  induction s with
  | nil => cases hf
  | cons x rest ih =>
    cases x with
    | bind id n v =>
      simp only [fragItems, Bool.and_eq_true] at h
      simp only [findInherit] at hf
      exact ih h.2 hf
    | inh id ns =>
      simp only [fragItems] at h
      simp only [findInherit] at hf
      split at hf
      · injection hf with hf; exact ⟨id, ns, hf.symm⟩
      · exact ih h hf
    | inhFrom id ns src => simp [fragItems] at h


/-! ### chains and environments -/

def frameItems : Frame → List Item
  | .recF items => items
  | _ => []

/-- the scope chain (outermost first) of an environment (innermost first) of `recF` frames -/
def flat (E : Env) : Chain := (E.map frameItems).reverse

/-- environments of the fragment: let layers and rec sets whose items are in the fragment -/
def EnvOK (E : Env) : Prop := ∀ fr ∈ E, ∃ items, fr = .recF items ∧ fragItems items = true

theorem flat_cons (items : List Item) (E : Env) : flat (.recF items :: E) = flat E ++ [items] := by
  simp [flat, frameItems]

theorem flat_pushLets (E : Env) (ls : List (List Item)) : flat (pushLets E ls) = flat E ++ ls := by
  induction ls generalizing E with
  | nil => simp [pushLets]
  | cons l ls ih => simp [pushLets, ih, flat_cons]

theorem flat_eq_nil (E : Env) : flat E = [] ↔ E = [] := by
  simp [flat]

theorem envOK_nil : EnvOK [] := by intro fr h; cases h

theorem envOK_cons (items : List Item) (E : Env) (h1 : fragItems items = true) (h2 : EnvOK E) :
    EnvOK (.recF items :: E) := by
  intro fr hfr
  cases hfr with
  | head => exact ⟨items, rfl, h1⟩
  | tail _ h => exact h2 fr h

theorem envOK_tail (fr : Frame) (E : Env) (h : EnvOK (fr :: E)) : EnvOK E :=
  fun x hx => h x (List.mem_cons_of_mem _ hx)

theorem findWith_envOK (E : Env) (h : EnvOK E) : findWith E = none := by
  induction E with
  | nil => rfl
  | cons fr E ih =>
    obtain ⟨items, hfr, _⟩ := h fr (List.mem_cons_self ..)
    subst hfr
    simp only [findWith]
    exact ih (envOK_tail _ _ h)

/-! ### Lemma A: the scan over the chain finds the innermost lexical binder -/

/-- what the code's scan over the chain does, in terms of the spec's search for the innermost
    lexical binder -/
inductive ScanCase (k : Resolver) (name : Text) (vis ivis : List Nat) (st : St) (E : Env) : Prop where
  | unbound (h1 : findLex name E = none)
      (h2 : scan k name vis ivis st (E.map frameItems) = (.err (.res .unbound), st))
  | bind (id : Nat) (n : Text) (v : Expr) (inner outer : Env)
      (h1 : findLex name E = some (.item (.bind id n v) inner outer))
      (h2 : scan k name vis ivis st (E.map frameItems) = resolveBinding k st id v (flat inner) vis ivis)
      (h3 : EnvOK inner) (h4 : fragE v = true)
      (h5 : ∃ pre items, E = pre ++ (.recF items :: outer) ∧ inner = .recF items :: outer ∧
        Item.bind id n v ∈ items)
  | inh (id : Nat) (ns : List Text) (inner outer : Env)
      (h1 : findLex name E = some (.item (.inh id ns) inner outer))
      (h2 : scan k name vis ivis st (E.map frameItems) =
        resolveInherited k st name (.inh id ns) (flat inner) (flat outer) vis ivis)
      (h3 : EnvOK outer)
      (h5 : ∃ pre items, E = pre ++ (.recF items :: outer) ∧ Item.inh id ns ∈ items)

theorem findBindS_mem (name : Text) (s : List Item) (it : Item) (h : findBindS name s = some it) :
    it ∈ s := by
  induction s with
  | nil => cases h
  | cons x rest ih =>
    cases x with
    | bind id n v =>
      simp only [findBindS] at h
      split at h
      · injection h with h; subst h; exact List.mem_cons_self ..
      · exact List.mem_cons_of_mem _ (ih h)
    | inh id ns => simp only [findBindS] at h; exact List.mem_cons_of_mem _ (ih h)
    | inhFrom id ns src => simp only [findBindS] at h; exact List.mem_cons_of_mem _ (ih h)

theorem findInherit_mem (name : Text) (s : List Item) (it : Item) (h : findInherit name s = some it) :
    it ∈ s := by
  induction s with
  | nil => cases h
  | cons x rest ih =>
    cases x with
    | bind id n v => simp only [findInherit] at h; exact List.mem_cons_of_mem _ (ih h)
    | inh id ns =>
      simp only [findInherit] at h
      split at h
      · injection h with h; subst h; exact List.mem_cons_self ..
      · exact List.mem_cons_of_mem _ (ih h)
    | inhFrom id ns src =>
      simp only [findInherit] at h
      split at h
      · injection h with h; subst h; exact List.mem_cons_self ..
      · exact List.mem_cons_of_mem _ (ih h)

theorem scan_findLex (k : Resolver) (name : Text) (vis ivis : List Nat) (st : St) (E : Env)
    (hE : EnvOK E) : ScanCase k name vis ivis st E := by
  induction E with
  | nil => exact .unbound rfl rfl
  | cons fr E ih =>
    obtain ⟨items, hfr, hit⟩ := hE fr (List.mem_cons_self ..)
    subst hfr
    have hE' := envOK_tail _ _ hE
    have hflat : ((items :: E.map frameItems).reverse) = flat (.recF items :: E) := by
      simp [flat, frameItems]
    have hflat' : (E.map frameItems).reverse = flat E := rfl
    rcases findBindS_findBind name items hit with ⟨hb, hbs⟩ | ⟨id, n, v, hb, hbs, hv⟩
    · -- no binding: an inherit clause, or further out
      cases hi : findInherit name items with
      | none =>
        have hfl : findLex name (.recF items :: E) = findLex name E := by
          simp [findLex, findItem, hbs, hi]
        have hsc : scan k name vis ivis st ((Frame.recF items :: E).map frameItems) =
            scan k name vis ivis st (E.map frameItems) := by
          simp [List.map, frameItems, scan, hb, findQuoted_eq_findBind name items hit, hi]
        rcases ih hE' with ⟨h1, h2⟩ | ⟨id, n, v, inner, outer, h1, h2, h3, h4, h5⟩ |
          ⟨id, ns, inner, outer, h1, h2, h3, h5⟩
        · exact .unbound (hfl ▸ h1) (hsc ▸ h2)
        · obtain ⟨pre, its, e1, e2, e3⟩ := h5
          exact .bind id n v inner outer (hfl ▸ h1) (hsc ▸ h2) h3 h4
            ⟨.recF items :: pre, its, by rw [e1]; rfl, e2, e3⟩
        · obtain ⟨pre, its, e1, e3⟩ := h5
          exact .inh id ns inner outer (hfl ▸ h1) (hsc ▸ h2) h3
            ⟨.recF items :: pre, its, by rw [e1]; rfl, e3⟩
      | some it =>
        obtain ⟨id, ns, hit'⟩ := findInherit_frag name items hit it hi
        subst hit'
        refine .inh id ns (.recF items :: E) E ?_ ?_ hE' ⟨[], items, rfl, findInherit_mem name items _ hi⟩
        · simp [findLex, findItem, hbs, hi]
        · simp only [List.map, frameItems, scan, hb, findQuoted_eq_findBind name items hit, hi, hflat, hflat']
    · refine .bind id n v (.recF items :: E) E ?_ ?_ hE hv
        ⟨[], items, rfl, rfl, findBindS_mem name items _ hbs⟩
      · simp [findLex, findItem, hbs]
      · simp only [List.map, frameItems, scan, hb, hflat]


/-! ### Lemma B: lookup and chain following agree -/

/-- spec side: find the designated binding (`lookupS`), then follow the chain (`resolveCloS`) -/
def followK (fR : Nat) : SR (Clo × List Nat × List Nat) → SR (Clo × List Nat × List Nat)
  | .fail k => .fail k
  | .ok (c2, v2, iv2) => resolveCloS fR c2 v2 iv2

def specFollow (fL fR : Nat) (E : Env) (name : Text) (vis ivis : List Nat) :
    SR (Clo × List Nat × List Nat) :=
  followK fR (lookupS fL E name vis ivis)

/-- the code's result and the spec's result name the same value, or both are failures -/
def RelR : RR → SR (Clo × List Nat × List Nat) → Prop
  | .ok v _, .ok (c, _, _) => c.e = v
  | .err (.res _), .fail _ => True
  | _, _ => False

theorem frag_ref_or_not (v : Expr) (h : fragE v = true) :
    (∃ j n, v = .ref j n) ∨ (isRefCore v = false) := by
  cases v with
  | ref j n => left; exact ⟨j, n, rfl⟩
  | letE items body =>
    right
    simp only [fragE, Bool.and_eq_true, Bool.not_eq_true'] at h
    simp only [isRefCore]; exact h.1.2
  | _ => right; rfl

theorem core_letE (items : List Item) (body : Expr) : (Expr.letE items body).core = body.core := rfl

theorem core_not_ref : (v : Expr) → isRefCore v = false → ∀ j n, v.core ≠ .ref j n
  | .letE items body, h, j, n => by
    simp only [isRefCore] at h
    rw [core_letE]
    exact core_not_ref body h j n
  | .ref .., h, _, _ => by simp [isRefCore] at h
  | .lit _, _, _, _ => by simp [Expr.core, peel]
  | .set .., _, _, _ => by simp [Expr.core, peel]
  | .withE .., _, _, _ => by simp [Expr.core, peel]
  | .paren .., _, _, _ => by simp [Expr.core, peel]
  | .app .., _, _, _ => by simp [Expr.core, peel]
  | .lam1 .., _, _, _ => by simp [Expr.core, peel]
  | .lamP .., _, _, _ => by simp [Expr.core, peel]

theorem resolveId_succ (f : Nat) (st : St) (name : Text) (chain : Chain) (vis ivis : List Nat) :
    resolveId (f + 1) st name chain vis ivis = scan (resolveId f) name vis ivis st chain.reverse := rfl

theorem flat_reverse (E : Env) : (flat E).reverse = E.map frameItems := by simp [flat]

theorem resolveCloS_ref (f : Nat) (j : Nat) (n : Text) (E : Env) (vis ivis : List Nat) :
    resolveCloS (f + 1) ⟨.ref j n, E⟩ vis ivis = specFollow (f + 1) f E n vis ivis := by
  have hc : (Expr.ref j n).core = .ref j n := rfl
  simp only [resolveCloS, hc, specFollow, Clo.inner, Expr.layers, peel, pushLets]
  cases lookupS (f + 1) E n vis ivis with
  | fail k => rfl
  | ok p => obtain ⟨c2, v2, iv2⟩ := p; rfl

/-- with no scope at all every name is unbound (the spec needs two units of fuel to say so) -/
theorem specFollow_nil (fL fR : Nat) (name : Text) (vis ivis : List Nat) :
    specFollow fL fR [] name vis ivis = .fail (match fL with | 0 | 1 => .fuel | _ + 2 => .unbound) := by
  match fL with
  | 0 => rfl
  | 1 => rfl
  | fL + 2 => simp only [specFollow, lookupS, findLex, withPassS, findWith, followK]

theorem lookup_agree (fi : Nat) : ∀ (fL fR : Nat) (st : St) (E : Env) (name : Text) (vis ivis : List Nat),
    EnvOK E → (resolveId fi st name (flat E) vis ivis).1 ≠ .err .fuel →
    specFollow fL fR E name vis ivis ≠ .fail .fuel →
    RelR (resolveId fi st name (flat E) vis ivis).1 (specFollow fL fR E name vis ivis) := by
  induction fi with
  | zero => intro fL fR st E name vis ivis _ h; exact absurd rfl h
  | succ fi ih =>
    intro fL fR st E name vis ivis hE hi hs
    cases fL with
    | zero => exact absurd rfl hs
    | succ fL =>
      rw [resolveId_succ, flat_reverse] at hi ⊢
      rcases scan_findLex (resolveId fi) name vis ivis st E hE with
        ⟨h1, h2⟩ | ⟨id, n, v, inner, outer, h1, h2, h3, h4, _⟩ | ⟨id, ns, inner, outer, h1, h2, h3, _⟩
      · -- unbound
        rw [h2]
        have hsp : specFollow (fL + 1) fR E name vis ivis = followK fR (withPassS fL E name vis ivis) := by
          simp only [specFollow, lookupS, h1]
        rw [hsp] at hs ⊢
        cases fL with
        | zero => exact absurd rfl hs
        | succ fL => simp only [withPassS, findWith_envOK E hE, followK]; trivial
      · -- a binding
        rw [h2] at hi ⊢
        have hsp : specFollow (fL + 1) fR E name vis ivis =
            followK fR (itemValueS fL (.bind id n v) inner outer name vis ivis) := by
          simp only [specFollow, lookupS, h1]
        rw [hsp] at hs ⊢
        cases fL with
        | zero => exact absurd rfl hs
        | succ fL =>
          simp only [itemValueS] at hs ⊢
          unfold resolveBinding at hi ⊢
          by_cases hv : vis.contains id = true
          · simp only [hv, if_true, followK, RelR]
          · simp only [hv, if_false, followK, Bool.false_eq_true] at hi hs ⊢
            rcases frag_ref_or_not v h4 with ⟨j, n2, rfl⟩ | hnr
            · -- the value is an identifier: follow it
              cases fR with
              | zero => exact absurd rfl hs
              | succ fR =>
                have hc : (Expr.ref j n2).core = .ref j n2 := rfl
                rw [resolveCloS_ref] at hs ⊢
                simp only [hc] at hi ⊢
                exact ih _ _ _ inner n2 (id :: vis) ivis h3 hi hs
            · have hcore := core_not_ref v hnr
              cases fR with
              | zero => exact absurd rfl hs
              | succ fR =>
                have hspec : resolveCloS (fR + 1) ⟨v, inner⟩ (id :: vis) ivis =
                    .ok (⟨v, inner⟩, id :: vis, ivis) := by
                  unfold resolveCloS
                  split
                  · rename_i j n2 heq; exact absurd heq (hcore j n2)
                  · rfl
                rw [hspec]
                split
                · rename_i j n2 heq; exact absurd heq (hcore j n2)
                · exact rfl
      · -- an inherit clause: the enclosing scope
        rw [h2] at hi ⊢
        have hsp : specFollow (fL + 1) fR E name vis ivis =
            followK fR (itemValueS fL (.inh id ns) inner outer name vis ivis) := by
          simp only [specFollow, lookupS, h1]
        rw [hsp] at hs ⊢
        cases fL with
        | zero => exact absurd rfl hs
        | succ fL =>
          simp only [itemValueS] at hs ⊢
          unfold resolveInherited at hi ⊢
          by_cases hv : ivis.contains id = true
          · simp only [hv, if_true, followK, RelR]
          · simp only [hv, if_false, Bool.false_eq_true] at hi hs ⊢
            have hsf : followK fR (lookupS fL outer name vis (id :: ivis)) =
                specFollow fL fR outer name vis (id :: ivis) := rfl
            rw [hsf] at hs ⊢
            by_cases ho : (flat outer).isEmpty = true
            · simp only [ho, if_true]
              have : outer = [] := by
                rw [List.isEmpty_iff] at ho
                exact (flat_eq_nil outer).1 ho
              subst this
              rw [specFollow_nil] at hs ⊢
              match fL, hs with
              | fL + 2, _ => trivial
            · simp only [ho, if_false, Bool.false_eq_true] at hi ⊢
              exact ih _ _ _ outer name vis (id :: ivis) h3 hi hs


/-! ### Lemma T: in the fragment the code's recursion is bounded

Every recursive call of `_resolve_identifier` adds a binding to `visited` or an inherit clause to
`inherit_visited` that was not there and that belongs to the chain; the number of items of the
chain not yet visited decreases. -/

def cntB (vis : List Nat) : List Item → Nat
  | [] => 0
  | .bind id _ _ :: r => (if vis.contains id then 0 else 1) + cntB vis r
  | _ :: r => cntB vis r

def cntI (ivis : List Nat) : List Item → Nat
  | [] => 0
  | .inh id _ :: r => (if ivis.contains id then 0 else 1) + cntI ivis r
  | _ :: r => cntI ivis r

/-- items of the environment not yet visited -/
def remE (vis ivis : List Nat) : Env → Nat
  | [] => 0
  | fr :: E => cntB vis (frameItems fr) + cntI ivis (frameItems fr) + remE vis ivis E

/-- one more visited id can only turn the summand of an item from 1 to 0 … -/
theorem unseen_cons_le (id i : Nat) (vis : List Nat) :
    (if (id :: vis).contains i then 0 else 1) ≤ (if vis.contains i then 0 else 1) := by
  rw [List.contains_cons]
  cases vis.contains i <;> cases i == id <;> decide

/-- … and does so for the new id itself -/
theorem unseen_cons_self (id : Nat) (vis : List Nat) (hv : ¬ vis.contains id = true) :
    (if (id :: vis).contains id then 0 else 1) + 1 = (if vis.contains id then 0 else 1) := by
  simp only [List.contains_cons, beq_self_eq_true, Bool.true_or, if_true, hv, if_false,
    Bool.false_eq_true]

theorem cntB_mono (id : Nat) (vis : List Nat) (s : List Item) : cntB (id :: vis) s ≤ cntB vis s := by
  induction s with
  | nil => exact Nat.le_refl _
  | cons x r ih =>
    cases x with
    | bind i n v => have := unseen_cons_le id i vis; simp only [cntB]; omega
    | inh i ns => exact ih
    | inhFrom i ns src => exact ih

theorem cntB_strict (id : Nat) (n : Text) (v : Expr) (vis : List Nat) (s : List Item)
    (hm : Item.bind id n v ∈ s) (hv : ¬ vis.contains id = true) : cntB (id :: vis) s < cntB vis s := by
  induction s with
  | nil => cases hm
  | cons x r ih =>
    cases hm with
    | head =>
      have := unseen_cons_self id vis hv
      have := cntB_mono id vis r
      simp only [cntB]; omega
    | tail _ hm =>
      have := ih hm
      cases x with
      | bind i n' v' => have := unseen_cons_le id i vis; simp only [cntB]; omega
      | inh i ns => exact this
      | inhFrom i ns src => exact this

theorem cntI_mono (id : Nat) (ivis : List Nat) (s : List Item) : cntI (id :: ivis) s ≤ cntI ivis s := by
  induction s with
  | nil => exact Nat.le_refl _
  | cons x r ih =>
    cases x with
    | inh i ns => have := unseen_cons_le id i ivis; simp only [cntI]; omega
    | bind i n v => exact ih
    | inhFrom i ns src => exact ih

theorem cntI_strict (id : Nat) (ns : List Text) (ivis : List Nat) (s : List Item)
    (hm : Item.inh id ns ∈ s) (hv : ¬ ivis.contains id = true) : cntI (id :: ivis) s < cntI ivis s := by
  induction s with
  | nil => cases hm
  | cons x r ih =>
    cases hm with
    | head =>
      have := unseen_cons_self id ivis hv
      have := cntI_mono id ivis r
      simp only [cntI]; omega
    | tail _ hm =>
      have := ih hm
      cases x with
      | inh i ns' => have := unseen_cons_le id i ivis; simp only [cntI]; omega
      | bind i n v => exact this
      | inhFrom i ns' src => exact this

theorem remE_mono_vis (id : Nat) (vis ivis : List Nat) (E : Env) : remE (id :: vis) ivis E ≤ remE vis ivis E := by
  induction E with
  | nil => exact Nat.le_refl _
  | cons fr E ih =>
    have := cntB_mono id vis (frameItems fr)
    simp only [remE]; omega

theorem remE_mono_ivis (id : Nat) (vis ivis : List Nat) (E : Env) : remE vis (id :: ivis) E ≤ remE vis ivis E := by
  induction E with
  | nil => exact Nat.le_refl _
  | cons fr E ih =>
    have := cntI_mono id ivis (frameItems fr)
    simp only [remE]; omega

theorem remE_suffix (vis ivis : List Nat) (pre E : Env) : remE vis ivis E ≤ remE vis ivis (pre ++ E) := by
  induction pre with
  | nil => exact Nat.le_refl _
  | cons fr pre ih => simp only [List.cons_append, remE]; omega

/-- the measure of Lemma T drops when the scan (`ScanCase.bind`) follows an unvisited binding into
    the environment of its value … -/
theorem remE_bind_lt {id : Nat} {n : Text} {v : Expr} {vis ivis : List Nat} {E inner outer : Env}
    (h5 : ∃ pre items, E = pre ++ (.recF items :: outer) ∧ inner = .recF items :: outer ∧
      Item.bind id n v ∈ items)
    (hv : ¬ vis.contains id = true) : remE (id :: vis) ivis inner < remE vis ivis E := by
  obtain ⟨pre, items, rfl, rfl, e3⟩ := h5
  have a1 := cntB_strict id n v vis items e3 hv
  have a2 := remE_mono_vis id vis ivis outer
  have a3 := remE_suffix vis ivis pre (.recF items :: outer)
  simp only [remE, frameItems] at a3 ⊢
  omega

/-- … and when it (`ScanCase.inh`) leaves an unvisited `inherit` clause for the enclosing scopes -/
theorem remE_inh_lt {id : Nat} {ns : List Text} {vis ivis : List Nat} {E outer : Env}
    (h5 : ∃ pre items, E = pre ++ (.recF items :: outer) ∧ Item.inh id ns ∈ items)
    (hv : ¬ ivis.contains id = true) : remE vis (id :: ivis) outer < remE vis ivis E := by
  obtain ⟨pre, items, rfl, e3⟩ := h5
  have a1 := cntI_strict id ns ivis items e3 hv
  have a2 := remE_mono_ivis id vis ivis outer
  have a3 := remE_suffix vis ivis pre (.recF items :: outer)
  simp only [remE, frameItems] at a3
  omega

theorem resolveId_terminates (f : Nat) : ∀ (st : St) (E : Env) (name : Text) (vis ivis : List Nat),
    EnvOK E → remE vis ivis E < f → (resolveId f st name (flat E) vis ivis).1 ≠ .err .fuel := by
  induction f with
  | zero => intro _ _ _ _ _ _ h; omega
  | succ f ih =>
    intro st E name vis ivis hE hr
    rw [resolveId_succ, flat_reverse]
    rcases scan_findLex (resolveId f) name vis ivis st E hE with
      ⟨h1, h2⟩ | ⟨id, n, v, inner, outer, h1, h2, h3, h4, h5⟩ | ⟨id, ns, inner, outer, h1, h2, h3, h5⟩
    · rw [h2]; intro h; cases h
    · rw [h2]
      unfold resolveBinding
      by_cases hv : vis.contains id = true
      · simp only [hv, if_true]; intro h; cases h
      · simp only [hv, if_false, Bool.false_eq_true]
        have hlt : remE (id :: vis) ivis inner < f := by
          have := remE_bind_lt (ivis := ivis) h5 hv
          omega
        split
        · exact ih _ inner _ _ _ h3 hlt
        · intro h; cases h
    · rw [h2]
      unfold resolveInherited
      by_cases hv : ivis.contains id = true
      · simp only [hv, if_true]; intro h; cases h
      · simp only [hv, if_false, Bool.false_eq_true]
        split
        · intro h; cases h
        · have hlt : remE vis (id :: ivis) outer < f := by
            have := remE_inh_lt (vis := vis) h5 hv
            omega
          exact ih _ outer _ _ _ h3 hlt


/-! ### the shape of fragment expressions -/

theorem layers_letE (items : List Item) (body : Expr) : (Expr.letE items body).layers = items :: body.layers := rfl
theorem nodeId_letE (items : List Item) (body : Expr) : nodeId (.letE items body) = nodeId body := rfl

/-- let layers of a fragment expression: non-empty, in the fragment; its core is in the fragment -/
theorem frag_layers : (e : Expr) → fragE e = true →
    (∀ l ∈ e.layers, fragItems l = true ∧ l.isEmpty = false) ∧ fragE e.core = true ∧
    nodeId e.core = nodeId e ∧ e.core.layers = []
  | .letE items body, h => by
    simp only [fragE, Bool.and_eq_true, Bool.not_eq_true'] at h
    obtain ⟨⟨⟨h1, h2⟩, _⟩, h4⟩ := h
    obtain ⟨a, b, c, d⟩ := frag_layers body h4
    refine ⟨?_, ?_, ?_, ?_⟩
    · intro l hl
      rw [layers_letE] at hl
      cases hl with
      | head => exact ⟨h2, h1⟩
      | tail _ hl => exact a l hl
    · rw [core_letE]; exact b
    · rw [core_letE, nodeId_letE]; exact c
    · rw [core_letE]; exact d
  | .lit _, h => ⟨(fun l hl => nomatch hl), h, rfl, rfl⟩
  | .ref .., h => ⟨(fun l hl => nomatch hl), h, rfl, rfl⟩
  | .set .., h => ⟨(fun l hl => nomatch hl), h, rfl, rfl⟩
  | .withE .., h => by simp [fragE] at h
  | .paren .., h => by simp [fragE] at h
  | .app .., h => by simp [fragE] at h
  | .lam1 .., h => by simp [fragE] at h
  | .lamP .., h => by simp [fragE] at h

theorem ownLayers_frag (e : Expr) (h : fragE e = true) : ownLayers e = e.layers := by
  unfold ownLayers
  apply List.filter_eq_self.2
  intro l hl
  simp [((frag_layers e h).1 l hl).2]

theorem envOK_pushLets (E : Env) (ls : List (List Item)) (hE : EnvOK E)
    (hl : ∀ l ∈ ls, fragItems l = true ∧ l.isEmpty = false) : EnvOK (pushLets E ls) := by
  induction ls generalizing E with
  | nil => exact hE
  | cons l ls ih =>
    simp only [pushLets]
    apply ih
    · exact envOK_cons l E (hl l (List.mem_cons_self ..)).1 hE
    · intro l' hl'; exact hl l' (List.mem_cons_of_mem _ hl')

/-! ### navigation in the fragment -/

/-- what links the code's store to the spec's environment at the object the traversal stands on -/
structure NavRel (st : St) (e : Expr) (E : Env) : Prop where
  envOK : EnvOK E
  frag : fragE e = true
  ctx : (st.get (nodeId e)).getD [] = flat E
  empty : E = [] → st.ctx = []

theorem get_set_cons (st : St) (id : Nat) (s : Scope) (ch : Chain) :
    (st.set id (s :: ch)).get id = some (s :: ch) := by
  simp [St.set, St.get]

theorem get_set_ne (st : St) (id : Nat) (ch : Chain) (h : ch ≠ []) : (st.set id ch).get id = some ch := by
  cases ch with
  | nil => exact absurd rfl h
  | cons s ch => exact get_set_cons st id s ch

theorem set_nil (st : St) (id : Nat) : st.set id [] = st := rfl

theorem get_of_ctx_nil (st : St) (id : Nat) (h : st.ctx = []) : st.get id = none := by
  simp [St.get, h]

/-- environment of the values of a set's bindings -/
def childEnv (r : Bool) (items : List Item) (E : Env) (ls : List (List Item)) : Env :=
  if r then .recF items :: pushLets E ls else pushLets E ls

theorem flat_childEnv (r : Bool) (items : List Item) (E : Env) (ls : List (List Item)) :
    flat (childEnv r items E ls) = flat E ++ ls ++ (if r then [items] else []) := by
  unfold childEnv
  cases r <;> simp [flat_cons, flat_pushLets]

/-- `scopes_for_owner` of a set of the fragment -/
theorem scopesForOwner_set (k : Resolver) (st : St) (e : Expr) (E : Env) (sid : Nat) (r : Bool)
    (items : List Item) (h : NavRel st e E) (hc : e.core = .set sid r items) :
    scopesForOwner k st e =
      (.ok (flat (childEnv r items E e.layers)),
        if r then st.set sid (flat E ++ e.layers) else st) := by
  unfold scopesForOwner
  rw [h.ctx, ownLayers_frag e h.frag, flat_childEnv]
  simp only [hc]
  cases r <;> simp


theorem core_set_frag (e : Expr) (h : fragE e = true) (sid : Nat) (r : Bool) (items : List Item)
    (hc : e.core = .set sid r items) : fragItems items = true := by
  have := (frag_layers e h).2.1
  rw [hc] at this
  simpa only [fragE] using this

theorem envOK_childEnv (e : Expr) (E : Env) (r : Bool) (items : List Item) (hE : EnvOK E)
    (hf : fragE e = true) (hi : fragItems items = true) : EnvOK (childEnv r items E e.layers) := by
  have h1 := envOK_pushLets E e.layers hE (frag_layers e hf).1
  unfold childEnv
  cases r
  · exact h1
  · exact envOK_cons items _ hi h1

theorem childEnv_eq_nil (r : Bool) (items : List Item) (E : Env) (ls : List (List Item))
    (h : childEnv r items E ls = []) : r = false ∧ E = [] ∧ ls = [] := by
  have hf : flat (childEnv r items E ls) = [] := by rw [h]; rfl
  rw [flat_childEnv] at hf
  cases r with
  | true => simp at hf
  | false =>
    simp only [Bool.false_eq_true, if_false, List.append_nil, List.append_eq_nil_iff] at hf
    exact ⟨rfl, (flat_eq_nil E).1 hf.1, hf.2⟩

/-- the store after `set[key]` handed out the value `v` -/
def childSt (st : St) (e : Expr) (E : Env) (sid : Nat) (r : Bool) (items : List Item) (v : Expr) : St :=
  (if r then st.set sid (flat E ++ e.layers) else st).set (nodeId v) (flat (childEnv r items E e.layers))

/-- … is related to the environment of `v` -/
theorem navRel_child (st : St) (e : Expr) (E : Env) (sid : Nat) (r : Bool) (items : List Item) (v : Expr)
    (h : NavRel st e E) (hc : e.core = .set sid r items) (hv : fragE v = true) :
    NavRel (childSt st e E sid r items v) v (childEnv r items E e.layers) := by
  unfold childSt
  have hi := core_set_frag e h.frag sid r items hc
  have hok := envOK_childEnv e E r items h.envOK h.frag hi
  by_cases hnil : childEnv r items E e.layers = []
  · obtain ⟨hr, hE, hl⟩ := childEnv_eq_nil r items E e.layers hnil
    subst hr
    have hst := h.empty hE
    rw [hnil]
    simp only [Bool.false_eq_true, if_false]
    have : flat ([] : Env) = [] := rfl
    rw [this, set_nil]
    exact ⟨envOK_nil, hv, by rw [get_of_ctx_nil st _ hst]; rfl, fun _ => hst⟩
  · have hne : flat (childEnv r items E e.layers) ≠ [] := fun hf => hnil ((flat_eq_nil _).1 hf)
    exact ⟨hok, hv, by rw [get_set_ne _ _ _ hne]; rfl, fun hE => absurd hE hnil⟩

/-- `getitemSet` with the binding looked up by spelling: what `AttributeSet.__getitem__` does when
    neither the key nor a binding name of the set is quoted (`getitemSet_bare`) -/
def getitemSetSpelled (k : Resolver) (st : St) (self : Expr) (key : Text) : Except Fail Expr × St :=
  match self.core with
  | .set _ _ items =>
    match findBind key items with
    | some (_, v) =>
      match scopesForOwner k st self with
      | (.error f, st1) => (.error f, st1)
      | (.ok ch, st1) => (.ok v, st1.set (nodeId v) ch)
    | none =>
      match findInherit key items with
      | some it =>
        match scopesForOwner k st self with
        | (.error f, st1) => (.error f, st1)
        | (.ok ch, st1) =>
          let tid := inhCopyId (itemId it)
          (.ok (.ref tid key), st1.set tid (ch ++ [items]))
      | none => (.error .key, st)
  | _ => (.error .type, st)

theorem getitemSet_bare (k : Resolver) (st : St) (e : Expr) (key : Text) (sid : Nat) (r : Bool)
    (items : List Item) (hc : e.core = .set sid r items) (hi : fragItems items = true)
    (hk : bareName key = true) : getitemSet k st e key = getitemSetSpelled k st e key := by
  unfold getitemSet getitemSetSpelled
  simp only [hc, findBindKey_eq_findBind key items hk hi]
  rfl

/-- `set[key]` on a binding of the set -/
theorem getitemSet_bind (k : Resolver) (st : St) (e : Expr) (E : Env) (sid : Nat) (r : Bool)
    (items : List Item) (key : Text) (bid : Nat) (v : Expr) (h : NavRel st e E)
    (hc : e.core = .set sid r items) (hkb : bareName key = true)
    (hb : findBind key items = some (bid, v)) :
    getitemSet k st e key = (.ok v, childSt st e E sid r items v) ∧
      NavRel (childSt st e E sid r items v) v (childEnv r items E e.layers) := by
  have hi := core_set_frag e h.frag sid r items hc
  have hv : fragE v = true := by
    rcases findBindS_findBind key items hi with ⟨h1, _⟩ | ⟨id, n, v', h1, _, h3⟩
    · rw [h1] at hb; cases hb
    · rw [h1] at hb; injection hb with hb; injection hb with _ hb; subst hb; exact h3
  refine ⟨?_, navRel_child st e E sid r items v h hc hv⟩
  rw [getitemSet_bare k st e key sid r items hc hi hkb]
  unfold getitemSetSpelled childSt
  simp only [hc, hb, scopesForOwner_set k st e E sid r items h hc]


/-! ### traversals from an arbitrary position -/

/-- `implTraverse` from an arbitrary position (outcome only) -/
def implFrom (fuel : Nat) (prog : Expr) (st : St) (cur : Cur) (path : List Step) : Outcome :=
  match runSteps fuel prog st cur path with
  | (.error e, _) => .nav e
  | (.ok .root, _) => .nav .notIdent
  | (.ok (.at e), st1) =>
    match valueOfWith (resolveId fuel) st1 e with
    | (.err .notIdent, _) => .nav .notIdent
    | (.err f, _) => .fail f
    | (.ok v _, _) => .bound (nodeId v)

theorem implResolve_eq (fuel : Nat) (prog : Expr) (path : List Step) :
    implResolve fuel prog path = implFrom fuel prog {} .root path := by
  unfold implResolve implTraverse implFrom
  cases runSteps fuel prog {} .root path with
  | mk r st1 =>
    cases r with
    | error e => rfl
    | ok cur =>
      cases cur with
      | root => rfl
      | «at» e =>
        dsimp only
        cases valueOfWith (resolveId fuel) st1 e with
        | mk rr st2 =>
          cases rr with
          | ok v b => rfl
          | err f => cases f <;> rfl

/-- `specResolve` from an arbitrary position -/
def specFrom (fuel : Nat) (prog : Expr) (cur : SCur) (path : List Step) : SpecOutcome :=
  match specSteps fuel prog cur path with
  | .error k => .navError k
  | .nav f => .nav f
  | .ok cur =>
    match derefS fuel cur with
    | .ok c => .bound (nodeId c.e)
    | .error k => .error k
    | .nav f => .nav f

theorem specResolve_eq (fuel : Nat) (prog : Expr) (path : List Step) :
    specResolve fuel prog path = specFrom fuel prog .root path := rfl

/-- the spec gave a definite answer (did not run out of its fuel) -/
def Settled (o : SpecOutcome) : Prop := o ≠ .error .fuel ∧ o ≠ .navError .fuel

def implOut : RR → Outcome
  | .err .notIdent => .nav .notIdent
  | .err f => .fail f
  | .ok v _ => .bound (nodeId v)

def specOut : SR (Clo × List Nat × List Nat) → SpecOutcome
  | .ok (c, _, _) => .bound (nodeId c.e)
  | .fail k => .error k

/-- outcome of the last `.value`, both sides, from the results of Lemma B -/
theorem agrees_of_relR (r : RR) (s : SR (Clo × List Nat × List Nat))
    (hr : r ≠ .err .fuel) (hs : s ≠ .fail .fuel) (h : RelR r s) :
    agrees (implOut r) (specOut s) = true := by
  cases r with
  | ok v b =>
    cases s with
    | ok p => obtain ⟨c, v2, iv2⟩ := p; simp only [RelR] at h; subst h; simp [agrees, implOut, specOut]
    | fail k => exact absurd h (by simp [RelR])
  | err f =>
    cases f with
    | res kd =>
      cases s with
      | ok p => obtain ⟨c, v2, iv2⟩ := p; exact absurd h (by simp [RelR])
      | fail k =>
        have : k ≠ .fuel := fun hk => hs (by rw [hk])
        cases k <;> simp_all [agrees, implOut, specOut]
    | fuel => exact absurd rfl hr
    | key => exact absurd h (by simp [RelR])
    | type => exact absurd h (by simp [RelR])
    | value => exact absurd h (by simp [RelR])
    | notIdent => exact absurd h (by simp [RelR])

/-! ### where a path ends: the final `.value` -/

theorem runSteps_nil (fuel : Nat) (prog : Expr) (st : St) (cur : Cur) :
    runSteps fuel prog st cur [] = (.ok cur, st) := rfl

theorem implFrom_nil (F : Nat) (prog : Expr) (st : St) (e : Expr) :
    implFrom F prog st (.at e) [] = implOut (valueOfWith (resolveId F) st e).1 := by
  simp only [implFrom, runSteps_nil]
  cases valueOfWith (resolveId F) st e with
  | mk r st2 =>
    cases r with
    | ok v b => rfl
    | err f => cases f <;> rfl

theorem specFrom_nil_ref (fs : Nat) (prog : Expr) (j : Nat) (n : Text) (E : Env) :
    specFrom fs prog (.at ⟨.ref j n, E⟩) [] = specOut (resolveCloS fs ⟨.ref j n, E⟩ [] []) := by
  have hc : (Expr.ref j n).core = .ref j n := rfl
  simp only [specFrom, specSteps, derefS, hc]
  cases resolveCloS fs ⟨.ref j n, E⟩ [] [] with
  | fail k => rfl
  | ok p => obtain ⟨c2, v2, iv2⟩ := p; rfl

/-- the path ends on a reference -/
theorem final_ref (prog : Expr) (st : St) (j : Nat) (n : Text) (E : Env) (h : NavRel st (.ref j n) E)
    (F fs : Nat) (hF : remE [] [] E < F)
    (hs : Settled (specFrom fs prog (.at ⟨.ref j n, E⟩) [])) :
    agrees (implFrom F prog st (.at (.ref j n)) []) (specFrom fs prog (.at ⟨.ref j n, E⟩) []) = true := by
  have hc : (Expr.ref j n).core = .ref j n := rfl
  rw [implFrom_nil]
  rw [specFrom_nil_ref] at hs ⊢
  have hnid : nodeId (.ref j n) = j := rfl
  by_cases hE : E = []
  · -- no scope at all: the code has no context, Nix has no binder
    subst hE
    have hget : st.get j = none := get_of_ctx_nil st j (h.empty rfl)
    have : valueOfWith (resolveId F) st (.ref j n) = (.err (.res .noContext), st) := by
      simp only [valueOfWith, hc, hget]
    rw [this]
    cases fs with
    | zero => exact absurd rfl hs.1
    | succ fs =>
      rw [resolveCloS_ref, specFollow_nil] at hs ⊢
      match fs, hs with
      | fs + 1, _ => rfl
  · have hne : flat E ≠ [] := fun hf => hE ((flat_eq_nil E).1 hf)
    have hget : st.get j = some (flat E) := by
      have := h.ctx
      rw [hnid] at this
      cases hg : st.get j with
      | none => rw [hg] at this; exact absurd this.symm hne
      | some ch => rw [hg] at this; simp only [Option.getD_some] at this; rw [this]
    have hv : valueOfWith (resolveId F) st (.ref j n) = resolveId F st n (flat E) [] [] := by
      simp only [valueOfWith, hc, hget]
    rw [hv]
    cases fs with
    | zero => exact absurd rfl hs.1
    | succ fs =>
      rw [resolveCloS_ref] at hs ⊢
      have ht := resolveId_terminates F st E n [] [] h.envOK hF
      have hsf : specFollow (fs + 1) fs E n [] [] ≠ .fail .fuel := by
        intro hk; rw [hk] at hs; exact hs.1 rfl
      exact agrees_of_relR _ _ ht hsf (lookup_agree F (fs + 1) fs st E n [] [] h.envOK ht hsf)


/-- the path ends on something that is not a reference -/
theorem final_nonref (prog : Expr) (st : St) (v : Expr) (E : Env) (hv : isRefCore v = false) (F fs : Nat) :
    agrees (implFrom F prog st (.at v) []) (specFrom fs prog (.at ⟨v, E⟩) []) = true := by
  have hcore := core_not_ref v hv
  rw [implFrom_nil]
  have h1 : valueOfWith (resolveId F) st v = (.err .notIdent, st) := by
    unfold valueOfWith
    split
    · rename_i j n heq; exact absurd heq (hcore j n)
    · rfl
  have h2 : specFrom fs prog (.at ⟨v, E⟩) [] = .nav .notIdent := by
    simp only [specFrom, specSteps, derefS]
  rw [h1, h2]
  rfl

/-! ### one key step: unfolding the two traversals -/

theorem implFrom_cons (F : Nat) (prog : Expr) (st : St) (cur : Cur) (s : Step) (rest : List Step) :
    implFrom F prog st cur (s :: rest) =
      (match stepNav F prog st cur s with
        | (.error e, _) => Outcome.nav e
        | (.ok cur1, st1) => implFrom F prog st1 cur1 rest) := by
  simp only [implFrom, runSteps]
  cases stepNav F prog st cur s with
  | mk r st1 =>
    cases r with
    | error e => rfl
    | ok cur1 => rfl

theorem specFrom_cons (fs : Nat) (prog : Expr) (cur : SCur) (s : Step) (rest : List Step) :
    specFrom fs prog cur (s :: rest) =
      (match specStep fs prog cur s with
        | .ok cur1 => specFrom fs prog cur1 rest
        | .error k => SpecOutcome.navError k
        | .nav f => .nav f) := by
  simp only [specFrom, specSteps]
  cases specStep fs prog cur s with
  | ok cur1 => rfl
  | error k => rfl
  | nav f => rfl

/-- a key step from the document or from an object needs fuel: a settled traversal that starts with
    one was given some -/
theorem fuel_of_settled_key {fs : Nat} {prog : Expr} {cur : SCur} {key : Text} {rest : List Step}
    (hs : Settled (specFrom fs prog cur (.key key :: rest)))
    (hcur : match cur with | .atInh .. => False | _ => True := by trivial) : ∃ y, fs = y + 1 := by
  cases fs with
  | zero =>
    have : specFrom 0 prog cur (.key key :: rest) = .navError .fuel := by
      rw [specFrom_cons]
      cases cur with
      | atInh => cases hcur
      | root => rfl
      | «at» c => rfl
    rw [this] at hs; exact absurd rfl hs.2
  | succ y => exact ⟨y, rfl⟩

/-- one key step of the code from an object -/
theorem stepNav_at_key (F : Nat) (prog : Expr) (st : St) (e : Expr) (key : Text) :
    stepNav (F + 1) prog st (.at e) (.key key) =
      (match getitem (resolveId (F + 1)) (F + 1) st e key with
        | (.error x, st1) => (.error x, st1)
        | (.ok v, st1) => (.ok (.at v), st1)) := rfl

theorem bindValue_of_findBind (key : Text) (items : List Item) (bid : Nat) (v : Expr)
    (h : findBind key items = some (bid, v)) : bindValue key items = some v := by
  induction items with
  | nil => cases h
  | cons x rest ih =>
    cases x with
    | bind id n v' =>
      simp only [findBind, bindValue] at h ⊢
      split at h
      · rename_i hn; injection h with h; injection h with _ h; simp [hn, h]
      · rename_i hn; simp only [hn, if_false]; exact ih h
    | inh id ns => simp only [findBind, bindValue] at h ⊢; exact ih h
    | inhFrom id ns src => simp only [findBind, bindValue] at h ⊢; exact ih h

theorem bindValue_none_of_findBind (key : Text) (items : List Item)
    (h : findBind key items = none) : bindValue key items = none := by
  induction items with
  | nil => rfl
  | cons x rest ih =>
    cases x with
    | bind id n v' =>
      simp only [findBind, bindValue] at h ⊢
      split at h
      · cases h
      · rename_i hn; simp only [hn, if_false]; exact ih h
    | inh id ns => simp only [findBind, bindValue] at h ⊢; exact ih h
    | inhFrom id ns src => simp only [findBind, bindValue] at h ⊢; exact ih h

theorem synTarget_of_core : (e : Expr) → fragE e = true → (sid : Nat) → (r : Bool) → (items : List Item) →
    e.core = .set sid r items → synTarget e = some (r, items)
  | .letE its body, h, sid, r, items, hc => by
    simp only [fragE, Bool.and_eq_true] at h
    rw [core_letE] at hc
    simp only [synTarget]
    exact synTarget_of_core body h.2 sid r items hc
  | .set .., _, sid, r, items, hc => by
    simp only [Expr.core, peel] at hc
    injection hc with _ h2 h3
    subst h2; subst h3; rfl
  | .lit _, _, _, _, _, hc => by simp [Expr.core, peel] at hc
  | .ref .., _, _, _, _, hc => by simp [Expr.core, peel] at hc
  | .withE .., h, _, _, _, _ => by simp [fragE] at h
  | .paren .., h, _, _, _, _ => by simp [fragE] at h
  | .app .., h, _, _, _, _ => by simp [fragE] at h
  | .lam1 .., h, _, _, _, _ => by simp [fragE] at h
  | .lamP .., h, _, _, _, _ => by simp [fragE] at h


theorem specFrom_nil_inh (fs : Nat) (prog : Expr) (it : Item) (inner outer : Env) (name : Text) (b : Bool) :
    specFrom fs prog (.atInh it inner outer name b) [] =
      specOut (followK fs (itemValueS fs it inner outer name [] [])) := by
  simp only [specFrom, specSteps, derefS]
  cases itemValueS fs it inner outer name [] [] with
  | fail k => rfl
  | ok p =>
    obtain ⟨c, vis, ivis⟩ := p
    simp only [followK]
    cases resolveCloS fs c vis ivis with
    | fail k => rfl
    | ok q => obtain ⟨c2, v2, iv2⟩ := q; rfl

theorem itemValueS_inh_inner (fs : Nat) (iid : Nat) (ns : List Text) (inner inner' outer : Env) (name : Text)
    (vis ivis : List Nat) :
    itemValueS fs (.inh iid ns) inner outer name vis ivis = itemValueS fs (.inh iid ns) inner' outer name vis ivis := by
  cases fs <;> rfl

theorem getitem_set (k : Resolver) (F : Nat) (st : St) (e : Expr) (key : Text) (sid : Nat) (r : Bool)
    (items : List Item) (hc : e.core = .set sid r items) :
    getitem k (F + 1) st e key = getitemSet k st e key := by
  simp only [getitem, hc]

/-! ### one key step of the spec from an object, case by case -/

theorem settled_nav (f : Fail) : Settled (.nav f) := ⟨(fun h => nomatch h), (fun h => nomatch h)⟩

/-- the key names a binding of the set: on to its value, in the set's environment -/
theorem specFrom_key_bind (fs : Nat) (prog e : Expr) (E : Env) (key : Text) (rest : List Step)
    {sid : Nat} {r : Bool} {items : List Item} {bid : Nat} {v : Expr}
    (hc : e.core = .set sid r items) (hb : findBind key items = some (bid, v)) :
    specFrom (fs + 1) prog (.at ⟨e, E⟩) (.key key :: rest) =
      specFrom (fs + 1) prog (.at ⟨v, childEnv r items E e.layers⟩) rest := by
  have hk2 : specStep (fs + 1) prog (.at ⟨e, E⟩) (.key key) =
      .ok (.at ⟨v, childEnv r items E e.layers⟩) := by
    simp only [specStep, keyStepS, hc, keyInSet, hb, Clo.inner, SetClo.inner, childEnv]
  rw [specFrom_cons, hk2]

/-- neither a binding nor an inherited name: `KeyError` -/
theorem specFrom_key_missing (fs : Nat) (prog e : Expr) (E : Env) (key : Text) (rest : List Step)
    {sid : Nat} {r : Bool} {items : List Item}
    (hc : e.core = .set sid r items) (hb : findBind key items = none)
    (hi : findInherit key items = none) :
    specFrom (fs + 1) prog (.at ⟨e, E⟩) (.key key :: rest) = .nav .key := by
  rw [specFrom_cons]
  simp only [specStep, keyStepS, hc, keyInSet, hb, hi]

/-- a further key on an inherited name (an identifier): not subscriptable -/
theorem specFrom_key_inh_key (fs : Nat) (prog e : Expr) (E : Env) (key key2 : Text) (rest : List Step)
    {sid : Nat} {r : Bool} {items : List Item} {it : Item}
    (hc : e.core = .set sid r items) (hb : findBind key items = none)
    (hi : findInherit key items = some it) :
    specFrom (fs + 1) prog (.at ⟨e, E⟩) (.key key :: .key key2 :: rest) = .nav .type := by
  rw [specFrom_cons]
  simp only [specStep, keyStepS, hc, keyInSet, hb, hi]
  rw [specFrom_cons]
  rfl

/-- a key on a literal or a reference: not subscriptable -/
theorem specFrom_key_nonset (fs : Nat) (prog e : Expr) (E : Env) (key : Text) (rest : List Step)
    (hns : ∀ sid r items, e.core ≠ .set sid r items) (hnw : ∀ id env body, e.core ≠ .withE id env body) :
    specFrom (fs + 1) prog (.at ⟨e, E⟩) (.key key :: rest) = .nav .type := by
  rw [specFrom_cons]
  have : specStep (fs + 1) prog (.at ⟨e, E⟩) (.key key) = .nav .type := by
    simp only [specStep, keyStepS]
  rw [this]


/-- the path ends on a name inherited by a plain set: the spec looks the name up from the set's own
    scope, where the `inherit` clause sends it on outwards -/
theorem specFrom_key_inh_last (fs : Nat) (prog e : Expr) (E : Env) (key : Text) {sid : Nat}
    {items : List Item} {it : Item} (hf : fragE e = true) (hc : e.core = .set sid false items)
    (hb : findBind key items = none) (hi : findInherit key items = some it) :
    specFrom (fs + 1) prog (.at ⟨e, E⟩) [.key key] =
      specOut (specFollow (fs + 1 + 1) (fs + 1) (.recF items :: pushLets E e.layers) key [] []) := by
  have hfi := core_set_frag e hf sid false items hc
  obtain ⟨iid, ns, rfl⟩ := findInherit_frag key items hfi it hi
  have hbs : findBindS key items = none := by
    rcases findBindS_findBind key items hfi with ⟨_, h2⟩ | ⟨id, n, v, h1, _, _⟩
    · exact h2
    · rw [h1] at hb; cases hb
  have hk : specStep (fs + 1) prog (.at ⟨e, E⟩) (.key key) =
      .ok (.atInh (.inh iid ns) (pushLets E e.layers) (pushLets E e.layers) key false) := by
    simp only [specStep, keyStepS, hc, keyInSet, hb, hi, Clo.inner, SetClo.inner, Bool.false_eq_true,
      if_false]
  rw [specFrom_cons, hk]
  simp only
  rw [specFrom_nil_inh]
  have hl : lookupS (fs + 1 + 1) (.recF items :: pushLets E e.layers) key [] [] =
      itemValueS (fs + 1) (.inh iid ns) (.recF items :: pushLets E e.layers) (pushLets E e.layers) key [] [] := by
    simp only [lookupS, findLex, findItem, hbs, hi]
  simp only [specFollow, hl]
  rw [itemValueS_inh_inner (fs + 1) iid ns (pushLets E e.layers) (.recF items :: pushLets E e.layers)
    (pushLets E e.layers)]


/-! ### the path ends on an inherited name -/

/-- the path ends on a name a plain set inherits -/
theorem final_inherit (prog : Expr) (st : St) (e : Expr) (E : Env) (sid : Nat) (items : List Item)
    (key : Text) (it : Item) (h : NavRel st e E) (hc : e.core = .set sid false items)
    (hkb : bareName key = true) (hb : findBind key items = none) (hi : findInherit key items = some it) (F fs : Nat)
    (hF : remE [] [] (.recF items :: pushLets E e.layers) < F)
    (hs : Settled (specFrom fs prog (.at ⟨e, E⟩) [.key key])) :
    agrees (implFrom F prog st (.at e) [.key key]) (specFrom fs prog (.at ⟨e, E⟩) [.key key]) = true := by
  have hfi := core_set_frag e h.frag sid false items hc
  obtain ⟨iid, ns, hit⟩ := findInherit_frag key items hfi it hi
  subst hit
  let E' := pushLets E e.layers
  have hE' : EnvOK (.recF items :: E') :=
    envOK_cons items _ hfi (envOK_pushLets E e.layers h.envOK (frag_layers e h.frag).1)
  -- the code
  cases F with
  | zero => omega
  | succ F =>
    have hchild : childEnv false items E e.layers = E' := rfl
    have hst : getitemSet (resolveId (F + 1)) st e key =
        (.ok (.ref (inhCopyId iid) key), st.set (inhCopyId iid) (flat (.recF items :: E'))) := by
      rw [getitemSet_bare _ st e key sid false items hc hfi hkb]
      unfold getitemSetSpelled
      simp only [hc, hb, hi, scopesForOwner_set _ st e E sid false items h hc, hchild, itemId,
        Bool.false_eq_true, if_false, flat_cons]
    have himpl : implFrom (F + 1) prog st (.at e) [.key key] =
        implOut (resolveId (F + 1) (st.set (inhCopyId iid) (flat (.recF items :: E'))) key
          (flat (.recF items :: E')) [] []).1 := by
      rw [implFrom_cons, stepNav_at_key, getitem_set _ _ _ _ _ sid false items hc, hst]
      simp only
      rw [implFrom_nil]
      have hne : flat (.recF items :: E') ≠ [] := by rw [flat_cons]; simp
      have hc2 : (Expr.ref (inhCopyId iid) key).core = .ref (inhCopyId iid) key := rfl
      simp only [valueOfWith, hc2, get_set_ne _ _ _ hne]
    obtain ⟨fs, rfl⟩ := fuel_of_settled_key hs
    rw [himpl]
    rw [specFrom_key_inh_last fs prog e E key h.frag hc hb hi] at hs ⊢
    have ht := resolveId_terminates (F + 1) (st.set (inhCopyId iid) (flat (.recF items :: E')))
      (.recF items :: E') key [] [] hE' hF
    have hsf : specFollow (fs + 1 + 1) (fs + 1) (.recF items :: E') key [] [] ≠ .fail .fuel := by
      intro hk; rw [hk] at hs; exact hs.1 rfl
    exact agrees_of_relR _ _ ht hsf (lookup_agree (F + 1) _ _ _ _ key [] [] hE' ht hsf)


/-! ### navigation by keys: the cases of a step, agreement along a path -/

/-- the core of a fragment expression is a set, or it is neither a set nor a `with` -/
theorem frag_core_cases (e : Expr) (h : fragE e = true) :
    (∃ sid r items, e.core = .set sid r items) ∨
    ((∀ sid r items, e.core ≠ .set sid r items) ∧ (∀ i a b, e.core ≠ .withE i a b)) := by
  have hc := (frag_layers e h).2.1
  cases hcore : e.core with
  | set sid r items => left; exact ⟨sid, r, items, rfl⟩
  | lit i => right; exact ⟨(fun _ _ _ h => nomatch h), (fun _ _ _ h => nomatch h)⟩
  | ref i n => right; exact ⟨(fun _ _ _ h => nomatch h), (fun _ _ _ h => nomatch h)⟩
  | letE its b => right; exact ⟨(fun _ _ _ h => nomatch h), (fun _ _ _ h => nomatch h)⟩
  | withE i a b => rw [hcore] at hc; simp [fragE] at hc
  | paren i a => rw [hcore] at hc; simp [fragE] at hc
  | app i a b => rw [hcore] at hc; simp [fragE] at hc
  | lam1 i a b => rw [hcore] at hc; simp [fragE] at hc
  | lamP i a b => rw [hcore] at hc; simp [fragE] at hc

theorem keysOnly_cons (s : Step) (rest : List Step) (h : keysOnly (s :: rest) = true) :
    (∃ key, s = .key key) ∧ keysOnly rest = true := by
  simp only [keysOnly, List.all_cons, Bool.and_eq_true, bne_iff_ne, ne_eq] at h
  cases s with
  | key k => exact ⟨⟨k, rfl⟩, h.2⟩
  | deref => exact absurd rfl h.1

theorem keysBare_cons (key : Text) (rest : List Step) (h : keysBare (.key key :: rest) = true) :
    bareName key = true ∧ keysBare rest = true := by
  simpa only [keysBare, List.all_cons, Bool.and_eq_true] using h

/-- Where a key step from a fragment expression leads, by the shape of the expression and of the
    rest of the path: into the value of a binding; nowhere (no such attribute); onto an inherited
    name, where the path ends (then the set is not recursive: side condition `endsOnRecInherit`) or
    goes on; or the expression is no set at all. -/
inductive KeyCase (e : Expr) (key : Text) (rest : List Step) : Prop where
  | bind (sid : Nat) (r : Bool) (items : List Item) (bid : Nat) (v : Expr)
      (hc : e.core = .set sid r items) (hb : findBind key items = some (bid, v))
      (hv : fragE v = true) (hr : endsOnRecInherit (rest.length + 1) v rest = false)
  | missing (sid : Nat) (r : Bool) (items : List Item)
      (hc : e.core = .set sid r items) (hb : findBind key items = none)
      (hi : findInherit key items = none)
  | inhLast (sid : Nat) (items : List Item) (it : Item)
      (hc : e.core = .set sid false items) (hb : findBind key items = none)
      (hi : findInherit key items = some it) (hrest : rest = [])
  | inhKey (sid : Nat) (r : Bool) (items : List Item) (it : Item) (key2 : Text) (rest2 : List Step)
      (hc : e.core = .set sid r items) (hb : findBind key items = none)
      (hi : findInherit key items = some it) (hrest : rest = .key key2 :: rest2)
  | nonset (hns : ∀ sid r items, e.core ≠ .set sid r items)
      (hnw : ∀ id env body, e.core ≠ .withE id env body)

theorem key_cases (e : Expr) (hf : fragE e = true) (key : Text) (rest : List Step)
    (hk : keysOnly rest = true)
    (hr : endsOnRecInherit (rest.length + 1 + 1) e (.key key :: rest) = false) : KeyCase e key rest := by
  rcases frag_core_cases e hf with ⟨sid, r, items, hc⟩ | ⟨hns, hnw⟩
  · have hsyn := synTarget_of_core e hf sid r items hc
    have hfi := core_set_frag e hf sid r items hc
    cases hb : findBind key items with
    | some p =>
      obtain ⟨bid, v⟩ := p
      have hbv := bindValue_of_findBind key items bid v hb
      have hv : fragE v = true := by
        rcases findBindS_findBind key items hfi with ⟨h1, _⟩ | ⟨id, n, v', h1, _, h3⟩
        · rw [h1] at hb; cases hb
        · rw [h1] at hb; injection hb with hb; injection hb with _ hb; subst hb; exact h3
      exact .bind sid r items bid v hc hb hv (by simpa only [endsOnRecInherit, hsyn, hbv] using hr)
    | none =>
      have hbv := bindValue_none_of_findBind key items hb
      cases hi : findInherit key items with
      | none => exact .missing sid r items hc hb hi
      | some it =>
        cases rest with
        | nil =>
          have hrf : r = false := by
            simp only [endsOnRecInherit, hsyn, hbv, hi,
              List.isEmpty_nil, Bool.true_and, Option.isSome_some, Bool.and_true] at hr
            exact hr
          subst hrf
          exact .inhLast sid items it hc hb hi rfl
        | cons s2 rest2 =>
          obtain ⟨⟨key2, rfl⟩, _⟩ := keysOnly_cons s2 rest2 hk
          exact .inhKey sid r items it key2 rest2 hc hb hi rfl
  · exact .nonset hns hnw

/-- Navigation by keys inside the fragment: from related positions the two traversals agree. -/
theorem nav_agree (prog : Expr) : ∀ (path : List Step) (st : St) (e : Expr) (E : Env),
    NavRel st e E → keysOnly path = true → keysBare path = true → endsOnRecInherit (path.length + 1) e path = false →
    ∃ N, ∀ F fs, N ≤ F → Settled (specFrom fs prog (.at ⟨e, E⟩) path) →
      agrees (implFrom F prog st (.at e) path) (specFrom fs prog (.at ⟨e, E⟩) path) = true := by
  intro path
  induction path with
  | nil =>
    intro st e E h _ _ _
    rcases frag_ref_or_not e h.frag with ⟨j, n, rfl⟩ | hnr
    · exact ⟨remE [] [] E + 1, fun F fs hF hs => final_ref prog st j n E h F fs (by omega) hs⟩
    · exact ⟨0, fun F fs _ _ => final_nonref prog st e E hnr F fs⟩
  | cons s rest ih =>
    intro st e E h hk hq hr
    obtain ⟨⟨key, rfl⟩, hk'⟩ := keysOnly_cons s rest hk
    obtain ⟨hkb, hq'⟩ := keysBare_cons key rest hq
    rcases key_cases e h.frag key rest hk' hr with
      ⟨sid, r, items, bid, v, hc, hb, hv, hr'⟩ | ⟨sid, r, items, hc, hb, hi⟩ |
      ⟨sid, items, it, hc, hb, hi, rfl⟩ | ⟨sid, r, items, it, key2, rest2, hc, hb, hi, rfl⟩ | ⟨hns, hnw⟩
    · -- a binding: both sides step to its value
      have hnav := navRel_child st e E sid r items v h hc hv
      obtain ⟨N, hN⟩ := ih _ v (childEnv r items E e.layers) hnav hk' hq' hr'
      refine ⟨N + 1, fun F fs hF hs => ?_⟩
      obtain ⟨F, rfl⟩ : ∃ y, F = y + 1 := ⟨F - 1, by omega⟩
      obtain ⟨fs, rfl⟩ := fuel_of_settled_key hs
      have hi : implFrom (F + 1) prog st (.at e) (.key key :: rest) =
          implFrom (F + 1) prog (childSt st e E sid r items v) (.at v) rest := by
        rw [implFrom_cons, stepNav_at_key, getitem_set _ _ _ _ _ sid r items hc,
          (getitemSet_bind (resolveId (F + 1)) st e E sid r items key bid v h hc hkb hb).1]
      rw [hi]
      rw [specFrom_key_bind fs prog e E key rest hc hb] at hs ⊢
      exact hN (F + 1) (fs + 1) (by omega) hs
    · -- no such attribute: KeyError on both sides
      have hfi := core_set_frag e h.frag sid r items hc
      refine ⟨1, fun F fs hF hs => ?_⟩
      obtain ⟨F, rfl⟩ : ∃ y, F = y + 1 := ⟨F - 1, by omega⟩
      obtain ⟨fs, rfl⟩ := fuel_of_settled_key hs
      have himpl : implFrom (F + 1) prog st (.at e) (.key key :: rest) = .nav .key := by
        rw [implFrom_cons, stepNav_at_key, getitem_set _ _ _ _ _ sid r items hc,
          getitemSet_bare _ st e key sid r items hc hfi hkb]
        simp only [getitemSetSpelled, hc, hb, hi]
      rw [himpl, specFrom_key_missing fs prog e E key rest hc hb hi]; rfl
    · -- the path ends on an inherited name
      exact ⟨remE [] [] (.recF items :: pushLets E e.layers) + 1, fun F fs hF hs =>
        final_inherit prog st e E sid items key it h hc hkb hb hi F fs (by omega) hs⟩
    · -- a further key on an identifier: TypeError on both sides
      have hfi := core_set_frag e h.frag sid r items hc
      refine ⟨1, fun F fs hF hs => ?_⟩
      obtain ⟨F, rfl⟩ : ∃ y, F = y + 1 := ⟨F - 1, by omega⟩
      obtain ⟨fs, rfl⟩ := fuel_of_settled_key hs
      have himpl : implFrom (F + 1) prog st (.at e) (.key key :: .key key2 :: rest2) = .nav .type := by
        rw [implFrom_cons, stepNav_at_key, getitem_set _ _ _ _ _ sid r items hc,
          getitemSet_bare _ st e key sid r items hc hfi hkb]
        simp only [getitemSetSpelled, hc, hb, hi, scopesForOwner_set _ st e E sid r items h hc]
        rw [implFrom_cons, stepNav_at_key]
        simp only [getitem, Expr.core, peel]
      rw [himpl, specFrom_key_inh_key fs prog e E key key2 rest2 hc hb hi]; rfl
    · -- standing on a literal or a reference: not subscriptable on both sides
      refine ⟨1, fun F fs hF hs => ?_⟩
      obtain ⟨F, rfl⟩ : ∃ y, F = y + 1 := ⟨F - 1, by omega⟩
      obtain ⟨fs, rfl⟩ := fuel_of_settled_key hs
      have himpl : implFrom (F + 1) prog st (.at e) (.key key :: rest) = .nav .type := by
        rw [implFrom_cons, stepNav_at_key]
        have : getitem (resolveId (F + 1)) (F + 1) st e key = (.error .type, st) := by
          simp only [getitem]
        rw [this]
      rw [himpl, specFrom_key_nonset fs prog e E key rest hns hnw]; rfl


/-! ### from the document root -/

/-- a fragment expression is a reference, or its core is a literal or a set -/
theorem frag_core3 : (e : Expr) → fragE e = true →
    (∃ j n, e = .ref j n) ∨ (∃ i, e.core = .lit i) ∨ (∃ sid r items, e.core = .set sid r items)
  | .ref j n, _ => .inl ⟨j, n, rfl⟩
  | .lit i, _ => .inr (.inl ⟨i, rfl⟩)
  | .set sid r items, _ => .inr (.inr ⟨sid, r, items, rfl⟩)
  | .letE items body, h => by
    simp only [fragE, Bool.and_eq_true, Bool.not_eq_true'] at h
    rcases frag_core3 body h.2 with ⟨j, n, rfl⟩ | ⟨i, hi⟩ | ⟨sid, r, its, hs⟩
    · simp [isRefCore] at h
    · right; left; exact ⟨i, by rw [core_letE]; exact hi⟩
    · right; right; exact ⟨sid, r, its, by rw [core_letE]; exact hs⟩
  | .withE .., h => by simp [fragE] at h
  | .paren .., h => by simp [fragE] at h
  | .app .., h => by simp [fragE] at h
  | .lam1 .., h => by simp [fragE] at h
  | .lamP .., h => by simp [fragE] at h

theorem navRel_root (prog : Expr) (h : fragE prog = true) : NavRel {} prog [] :=
  ⟨envOK_nil, h, rfl, fun _ => rfl⟩

theorem implFrom_root_nil (F : Nat) (prog : Expr) : implFrom F prog {} .root [] = .nav .notIdent := rfl
theorem specFrom_root_nil (fs : Nat) (prog : Expr) : specFrom fs prog .root [] = .nav .notIdent := rfl

/-- the first step on a document whose body is a set is the step from that set -/
theorem root_step_set (F : Nat) (prog : Expr) (key : Text) (rest : List Step) (sid : Nat) (r : Bool)
    (items : List Item) (hf : fragE prog = true) (hc : prog.core = .set sid r items)
    (htop : letOnRecTop prog = false) :
    implFrom (F + 1) prog {} .root (.key key :: rest) = implFrom (F + 1) prog {} (.at prog) (.key key :: rest) := by
  have hnav := navRel_root prog hf
  have hso := scopesForOwner_set (resolveId (F + 1)) {} prog [] sid r items hnav hc
  have hst : (if r then ({} : St).set sid (flat [] ++ prog.layers) else {}) = ({} : St) := by
    cases r with
    | false => rfl
    | true =>
      have : prog.layers = [] := by
        simp only [letOnRecTop, hc, Bool.and_true, Bool.not_eq_eq_eq_not, Bool.not_false,
          List.isEmpty_iff] at htop
        exact htop
      simp only [if_true, this]
      rfl
  rw [hst] at hso
  have h1 : resolveFromExpr (resolveId (F + 1)) (F + 1) {} prog none [] = (.ok prog, {}) := by
    simp only [resolveFromExpr, List.contains_nil, Bool.false_eq_true, if_false, hso, hc]
  rw [implFrom_cons, implFrom_cons]
  have h2 : stepNav (F + 1) prog {} .root (.key key) =
      (match getitemSet (resolveId (F + 1)) {} prog key with
        | (.error x, st2) => (.error x, st2)
        | (.ok v, st2) => (.ok (.at v), st2)) := by
    simp only [stepNav, h1]
    cases getitemSet (resolveId (F + 1)) {} prog key with
    | mk a b => cases a <;> rfl
  rw [h2, stepNav_at_key, getitem_set _ _ _ _ _ sid r items hc]

theorem root_step_set_spec (fs : Nat) (prog : Expr) (key : Text) (rest : List Step) (sid : Nat) (r : Bool)
    (items : List Item) (hc : prog.core = .set sid r items) :
    specFrom (fs + 1) prog .root (.key key :: rest) =
      specFrom (fs + 1) prog (.at ⟨prog, []⟩) (.key key :: rest) := by
  rw [specFrom_cons, specFrom_cons]
  have : specStep (fs + 1) prog .root (.key key) = specStep (fs + 1) prog (.at ⟨prog, []⟩) (.key key) := by
    simp only [specStep, specTarget, keyStepS, hc]
  rw [this]


theorem scopesForOwner_lit (k : Resolver) (e : Expr) (i : Nat) (hf : fragE e = true) (hc : e.core = .lit i) :
    scopesForOwner k {} e = (.ok e.layers, {}) := by
  unfold scopesForOwner
  rw [ownLayers_frag e hf]
  simp only [hc]
  rfl

/-- the document is a bare reference: with no enclosing scope the name is unbound (fuel 1 is not
    enough to say so) -/
theorem specFrom_root_ref (fs : Nat) (j : Nat) (n key : Text) (rest : List Step) :
    specFrom (fs + 1) (.ref j n) .root (.key key :: rest) =
      .navError (match fs with | 0 => .fuel | _ + 1 => .unbound) := by
  rw [specFrom_cons]
  have hc : (Expr.ref j n).core = .ref j n := rfl
  simp only [specStep, specTarget, hc, resolveCloS_ref, specFollow_nil]
  cases fs <;> rfl

/-- the document is a literal: no target set -/
theorem specFrom_root_lit (fs : Nat) (prog : Expr) (i : Nat) (key : Text) (rest : List Step)
    (hi : prog.core = .lit i) : specFrom (fs + 1) prog .root (.key key :: rest) = .nav .value := by
  rw [specFrom_cons]
  simp only [specStep, specTarget, hi]

/-- C10, partial: inside the fragment the code agrees with Nix's scoping, in bounded time. -/
theorem resolve_partial_settled (prog : Expr) (path : List Step) (h : InFragment prog path = true) :
    ∃ N, ∀ F fs, N ≤ F → Settled (specResolve fs prog path) →
      agrees (implResolve F prog path) (specResolve fs prog path) = true := by
  simp only [InFragment, Bool.and_eq_true, Bool.not_eq_true'] at h
  obtain ⟨⟨⟨⟨hf, hk⟩, hq⟩, hri⟩, htop⟩ := h
  cases path with
  | nil => exact ⟨0, fun F fs _ _ => by rw [implResolve_eq, specResolve_eq]; rfl⟩
  | cons s rest =>
    obtain ⟨⟨key, rfl⟩, _⟩ := keysOnly_cons s rest hk
    rcases frag_core3 prog hf with ⟨j, n, rfl⟩ | ⟨i, hi⟩ | ⟨sid, r, items, hc⟩
    · -- the document is a bare reference: no context / unbound
      refine ⟨1, fun F fs hF hs => ?_⟩
      rw [implResolve_eq, specResolve_eq] at *
      cases F with
      | zero => omega
      | succ F =>
        have himpl : implFrom (F + 1) (.ref j n) {} .root (.key key :: rest) = .nav (.res .noContext) := by
          rw [implFrom_cons]; rfl
        rw [himpl]
        obtain ⟨fs, rfl⟩ := fuel_of_settled_key hs
        rw [specFrom_root_ref] at hs ⊢
        cases fs with
        | zero => exact absurd rfl hs.2
        | succ fs => rfl
    · -- the document is a literal: no target set on either side
      refine ⟨1, fun F fs hF hs => ?_⟩
      rw [implResolve_eq, specResolve_eq] at *
      cases F with
      | zero => omega
      | succ F =>
        have himpl : implFrom (F + 1) prog {} .root (.key key :: rest) = .nav .value := by
          rw [implFrom_cons]
          simp only [stepNav, resolveFromExpr, List.contains_nil, Bool.false_eq_true, if_false,
            scopesForOwner_lit _ prog i hf hi, hi]
        rw [himpl]
        obtain ⟨fs, rfl⟩ := fuel_of_settled_key hs
        rw [specFrom_root_lit fs prog i key rest hi]; rfl
    · -- the document is a set: walk from it
      have hnav := navRel_root prog hf
      have hri' : endsOnRecInherit ((Step.key key :: rest).length + 1) prog (.key key :: rest) = false := hri
      obtain ⟨N, hN⟩ := nav_agree prog (.key key :: rest) {} prog [] hnav hk hq hri'
      refine ⟨N + 1, fun F fs hF hs => ?_⟩
      rw [implResolve_eq, specResolve_eq] at *
      cases F with
      | zero => omega
      | succ F =>
        obtain ⟨fs, rfl⟩ := fuel_of_settled_key hs
        rw [root_step_set F prog key rest sid r items hf hc htop]
        rw [root_step_set_spec fs prog key rest sid r items hc] at hs ⊢
        exact hN (F + 1) (fs + 1) (by omega) hs


/-! ### Lemma TS: the spec settles -/

/-- Lemma TS: in the fragment the spec settles: two units of fuel on each side for every item not
    yet visited, and two more, are enough -/
theorem specFollow_terminates (m : Nat) : ∀ (fL fR : Nat) (E : Env) (name : Text) (vis ivis : List Nat),
    EnvOK E → remE vis ivis E < m → 2 * m ≤ fL → 2 * m ≤ fR →
    specFollow fL fR E name vis ivis ≠ .fail .fuel := by
  induction m with
  | zero => intro _ _ _ _ _ _ _ hr; omega
  | succ m ih =>
    intro fL fR E name vis ivis hE hr hL hR
    obtain ⟨x, rfl⟩ : ∃ x, fL = x + 2 := ⟨fL - 2, by omega⟩
    obtain ⟨y, rfl⟩ : ∃ y, fR = y + 1 := ⟨fR - 1, by omega⟩
    -- Lemma A for its spec half only (what `findLex` finds): resolver and store are dummies
    rcases scan_findLex (resolveId 0) name vis ivis {} E hE with
      ⟨h1, _⟩ | ⟨id, n, v, inner, outer, h1, _, h3, h4, h5⟩ | ⟨id, ns, inner, outer, h1, _, h3, h5⟩
    · simp only [specFollow, lookupS, h1, withPassS, findWith_envOK E hE, followK]
      intro h; cases h
    · simp only [specFollow, lookupS, h1, itemValueS]
      by_cases hv : vis.contains id = true
      · simp only [hv, if_true, followK]; intro h; cases h
      · simp only [hv, if_false, Bool.false_eq_true, followK]
        have hlt : remE (id :: vis) ivis inner < m := by
          have := remE_bind_lt (ivis := ivis) h5 hv
          omega
        rcases frag_ref_or_not v h4 with ⟨j, n2, rfl⟩ | hnr
        · rw [resolveCloS_ref]
          exact ih _ _ inner n2 (id :: vis) ivis h3 hlt (by omega) (by omega)
        · have hcore := core_not_ref v hnr
          simp only [resolveCloS]
          intro h; cases h
    · simp only [specFollow, lookupS, h1, itemValueS]
      by_cases hv : ivis.contains id = true
      · simp only [hv, if_true, followK]; intro h; cases h
      · simp only [hv, if_false, Bool.false_eq_true]
        have hlt : remE vis (id :: ivis) outer < m := by
          have := remE_inh_lt (vis := vis) h5 hv
          omega
        exact ih x (y + 1) outer name vis (id :: ivis) h3 hlt (by omega) (by omega)


theorem settled_specOut (s : SR (Clo × List Nat × List Nat)) (h : s ≠ .fail .fuel) : Settled (specOut s) := by
  cases s with
  | ok p => obtain ⟨c, a, b⟩ := p; exact ⟨(fun h => nomatch h), (fun h => nomatch h)⟩
  | fail k =>
    refine ⟨(fun hk => ?_), (fun h => nomatch h)⟩
    simp only [specOut] at hk
    injection hk with hk
    exact h (by rw [hk])

/-- the spec's traversal settles with enough fuel (same case analysis as `nav_agree`) -/
theorem nav_settled (prog : Expr) : ∀ (path : List Step) (e : Expr) (E : Env),
    EnvOK E → fragE e = true → keysOnly path = true → endsOnRecInherit (path.length + 1) e path = false →
    ∃ M, ∀ fs, M ≤ fs → Settled (specFrom fs prog (.at ⟨e, E⟩) path) := by
  intro path
  induction path with
  | nil =>
    intro e E hE hf _ _
    rcases frag_ref_or_not e hf with ⟨j, n, rfl⟩ | hnr
    · refine ⟨2 * remE [] [] E + 3, fun fs hfs => ?_⟩
      obtain ⟨y, rfl⟩ : ∃ y, fs = y + 1 := ⟨fs - 1, by omega⟩
      rw [specFrom_nil_ref, resolveCloS_ref]
      exact settled_specOut _
        (specFollow_terminates _ _ _ E n [] [] hE (Nat.lt_succ_self _) (by omega) (by omega))
    · refine ⟨0, fun fs _ => ?_⟩
      have hcore := core_not_ref e hnr
      have : specFrom fs prog (.at ⟨e, E⟩) [] = .nav .notIdent := by
        simp only [specFrom, specSteps, derefS]
      rw [this]
      exact settled_nav _
  | cons s rest ih =>
    intro e E hE hf hk hr
    obtain ⟨⟨key, rfl⟩, hk'⟩ := keysOnly_cons s rest hk
    rcases key_cases e hf key rest hk' hr with
      ⟨sid, r, items, bid, v, hc, hb, hv, hr'⟩ | ⟨sid, r, items, hc, hb, hi⟩ |
      ⟨sid, items, it, hc, hb, hi, rfl⟩ | ⟨sid, r, items, it, key2, rest2, hc, hb, hi, rfl⟩ | ⟨hns, hnw⟩
    · have hfi := core_set_frag e hf sid r items hc
      obtain ⟨M, hM⟩ := ih v (childEnv r items E e.layers) (envOK_childEnv e E r items hE hf hfi) hv hk' hr'
      refine ⟨M + 1, fun fs hfs => ?_⟩
      obtain ⟨y, rfl⟩ : ∃ y, fs = y + 1 := ⟨fs - 1, by omega⟩
      rw [specFrom_key_bind y prog e E key rest hc hb]
      exact hM (y + 1) (by omega)
    · refine ⟨1, fun fs hfs => ?_⟩
      obtain ⟨y, rfl⟩ : ∃ y, fs = y + 1 := ⟨fs - 1, by omega⟩
      rw [specFrom_key_missing y prog e E key rest hc hb hi]
      exact settled_nav _
    · have hE' : EnvOK (.recF items :: pushLets E e.layers) :=
        envOK_cons items _ (core_set_frag e hf sid false items hc)
          (envOK_pushLets E e.layers hE (frag_layers e hf).1)
      refine ⟨2 * remE [] [] (.recF items :: pushLets E e.layers) + 3, fun fs hfs => ?_⟩
      obtain ⟨y, rfl⟩ : ∃ y, fs = y + 1 := ⟨fs - 1, by omega⟩
      rw [specFrom_key_inh_last y prog e E key hf hc hb hi]
      exact settled_specOut _
        (specFollow_terminates _ _ _ _ key [] [] hE' (Nat.lt_succ_self _) (by omega) (by omega))
    · refine ⟨1, fun fs hfs => ?_⟩
      obtain ⟨y, rfl⟩ : ∃ y, fs = y + 1 := ⟨fs - 1, by omega⟩
      rw [specFrom_key_inh_key y prog e E key key2 rest2 hc hb hi]
      exact settled_nav _
    · refine ⟨1, fun fs hfs => ?_⟩
      obtain ⟨y, rfl⟩ : ∃ y, fs = y + 1 := ⟨fs - 1, by omega⟩
      rw [specFrom_key_nonset y prog e E key rest hns hnw]
      exact settled_nav _


/-- inside the fragment the spec gives a definite answer with enough fuel -/
theorem spec_settles (prog : Expr) (path : List Step) (h : InFragment prog path = true) :
    ∃ M, ∀ fs, M ≤ fs → Settled (specResolve fs prog path) := by
  simp only [InFragment, Bool.and_eq_true, Bool.not_eq_true'] at h
  obtain ⟨⟨⟨⟨hf, hk⟩, _⟩, hri⟩, _⟩ := h
  cases path with
  | nil => exact ⟨0, fun fs _ => ⟨(fun h => nomatch h), (fun h => nomatch h)⟩⟩
  | cons s rest =>
    obtain ⟨⟨key, rfl⟩, _⟩ := keysOnly_cons s rest hk
    rcases frag_core3 prog hf with ⟨j, n, rfl⟩ | ⟨i, hi⟩ | ⟨sid, r, items, hc⟩
    · refine ⟨2, fun fs hfs => ?_⟩
      obtain ⟨y, rfl⟩ : ∃ y, fs = y + 1 + 1 := ⟨fs - 2, by omega⟩
      rw [specResolve_eq, specFrom_root_ref]
      exact ⟨(fun h => nomatch h), (fun h => nomatch h)⟩
    · refine ⟨1, fun fs hfs => ?_⟩
      obtain ⟨y, rfl⟩ : ∃ y, fs = y + 1 := ⟨fs - 1, by omega⟩
      rw [specResolve_eq, specFrom_root_lit y prog i key rest hi]
      exact settled_nav _
    · have hri' : endsOnRecInherit ((Step.key key :: rest).length + 1) prog (.key key :: rest) = false := hri
      obtain ⟨M, hM⟩ := nav_settled prog (.key key :: rest) prog [] envOK_nil hf hk hri'
      refine ⟨M + 1, fun fs hfs => ?_⟩
      obtain ⟨y, rfl⟩ : ∃ y, fs = y + 1 := ⟨fs - 1, by omega⟩
      rw [specResolve_eq, root_step_set_spec y prog key rest sid r items hc]
      exact hM (y + 1) (by omega)

/-- C10, partial, in the shape of the full statement: inside the fragment, with enough fuel on both
    sides, the code's outcome agrees with Nix's scoping. -/
theorem resolve_partial_fuel (prog : Expr) (path : List Step) (h : InFragment prog path = true) :
    ∃ N, ∀ k, agrees (implResolve (N + k) prog path) (specResolve (N + k) prog path) = true := by
  obtain ⟨N, hN⟩ := resolve_partial_settled prog path h
  obtain ⟨M, hM⟩ := spec_settles prog path h
  exact ⟨N + M, fun k => hN _ _ (by omega) (hM _ (by omega))⟩


end Nima.Scope
