import NimaVerif.Lemmas.Update
import NimaVerif.Lemmas.NPath
/-!
`setValue` / `removeValue` characterised on plain (unscoped) single-segment paths and attrpath
leaves as updates by identity. Shared by C04 and C19.
-/
namespace Nima
-- name tokens are compared by spelling in this file (see `NameCmp` in Model/Edit.lean)
attribute [local instance] NameCmp.spelled
open Node

/-! The mutations of one set object (`Model/LayerSpec.lean` has them as `appendValueFn`,
`appendOrderFn`, `delItemFn`) under the names the statements of C04 and C19 use, and the two that
`__setitem__` / `__delitem__` amount to on `values` and `attrpath_order` together. -/

/-- `values.append(b)` as a function on the set object -/
def appendValueF (b : Node) : Node → Node
  | .set s vs o m r => .set s (vs ++ [b]) o m r
  | n => n
def appendOrderF (x : Node) : Node → Node
  | .set s vs o m r => if o.isEmpty then .set s vs o m r else .set s vs (o ++ [x]) m r
  | n => n

def appendBothF (nb : Node) : Node → Node
  | .set s vs o m r => .set s (vs ++ [nb]) (if o.isEmpty then o else o ++ [nb]) m r
  | n => n

def eraseBothF (bid : Nat) : Node → Node
  | .set s vs o m r => .set s (vs.eraseP fun n => n.bindId? == some bid)
      (if o.isEmpty then o else o.eraseP fun n => n.isBind && n.bindId? == some bid) m r
  | n => n

@[simp] theorem appendOrderIfNonEmpty_apply (sid : Nat) (x : Node) (d : Doc) :
    appendOrderIfNonEmpty sid x d = (.ok (), d.updSet sid (appendOrderF x)) := rfl

theorem eraseBothF_eq (bid : Nat) : eraseBothF bid = delItemFn bid := rfl

theorem appendOrder_appendValue (nb : Node) : appendOrderFn nb ∘ appendValueFn nb = appendBothF nb := by
  funext x
  cases x <;> simp [appendValueFn, appendOrderFn, appendBothF]
  split <;> simp_all

theorem setSid_of_setValues_ne (n : Node) (h : n.setValues ≠ []) : ∃ sid, n.setSid? = some sid := by
  cases n <;> simp [setValues] at h
  exact ⟨_, rfl⟩

theorem findBinding_some_ne {vs : List Node} {k : Text} {b : Node} (h : findBinding vs k = some b) : vs ≠ [] := by
  intro h'; subst h'; simp [findBinding_spelled] at h

theorem set_existing_plain (d : Doc) (p k : Text) (v : Node) (bid : Nat) (nm : Text) (ne : Bool)
    (val : Node) (bf af : Payload)
    (hnt : d.noTarget = none) (hsp : splitScopeNpath p = .ok none)
    (hf : formatNPath currentAnchor p = .ok [k])
    (hr : findAttrpathRoot d.target.setValues k = none)
    (hb : findBinding d.target.setValues k = some (.bind bid nm ne val bf af))
    (hval : val.isIdent = false) :
    setValue p (.one v) d = (.ok (), d.updBind bid v) := by
  obtain ⟨sid, hs⟩ := setSid_of_setValues_ne d.target (findBinding_some_ne hb)
  have hni : ∀ k', bindValue? (.bind bid nm ne val bf af) ≠ some (.ident k') := by
    intro k' h; cases h; cases hval
  rw [setValue_unscoped p v d hnt hsp, setValueInAttrset_single true v hf (isSet_of_setSid hs) hr,
    finalSet, hb]
  exact congrFun (assignExisting_plain _ _ _ v rfl hni) d

theorem set_fresh_plain (d : Doc) (p k : Text) (v : Node) (sid : Nat)
    (hnt : d.noTarget = none) (hsp : splitScopeNpath p = .ok none)
    (hf : formatNPath currentAnchor p = .ok [k])
    (hs : d.target.setSid? = some sid)
    (hr : findAttrpathRoot d.target.setValues k = none)
    (hb : findBinding d.target.setValues k = none) :
    setValue p (.one v) d =
      (.ok (), { d.updSet sid (appendBothF (.bind d.next k false v [] [])) with next := d.next + 1 }) := by
  rw [setValue_unscoped p v d hnt hsp, setValueInAttrset_single true v hf (isSet_of_setSid hs) hr,
    finalSet, hb]
  show setSetItem d.target k v d = _
  rw [setSetItem_new v d hb hs, appendOrder_appendValue]
  rfl

theorem rm_plain (d : Doc) (p k : Text) (bid : Nat) (nm : Text) (ne : Bool)
    (val : Node) (bf af : Payload) (sid : Nat)
    (hnt : d.noTarget = none) (hsp : splitScopeNpath p = .ok none)
    (hf : formatNPath currentAnchor p = .ok [k])
    (hs : d.target.setSid? = some sid)
    (hr : findAttrpathRoot d.target.setValues k = none)
    (hb : findBinding d.target.setValues k = some (.bind bid nm ne val bf af)) :
    removeValue p d = (.ok (), d.updSet sid (eraseBothF bid)) := by
  rw [removeValue_unscoped p d hnt hsp, removeValueInAttrset_single hf hr, setDelItem_existing d hb rfl hs,
    eraseBothF_eq]

theorem set_attrpath_leaf (d : Doc) (p : Text) (segs : List Text) (v : Node) (lid : Nat) (nm : Text)
    (ne : Bool) (val : Node) (bf af : Payload)
    (hnt : d.noTarget = none) (hsp : splitScopeNpath p = .ok none)
    (hf : formatNPath currentAnchor p = .ok segs)
    (hl : findAttrpathLeaf d.target segs = some (.bind lid nm ne val bf af)) :
    setValue p (.one v) d = (.ok (), d.updBind lid v) := by
  rw [setValue_unscoped p v d hnt hsp]
  unfold setValueInAttrset
  rw [hf]
  cases segs with
  | nil => simp [findAttrpathLeaf, walkAttrpathStack] at hl
  | cons s0 rest =>
    cases hs : d.target.setSid? with
    | none =>
      exfalso
      cases ht : d.target <;> simp [ht, setSid?] at hs <;>
        cases rest <;> simp [ht, findAttrpathLeaf, walkAttrpathStack, setValues, findAttrpathRoot_spelled] at hl
    | some sid =>
      simp [hl, bindId?]

/-! ## the path hypotheses hold for the canonical spelling of every name -/

/-- the canonical spelling of a single name is an unscoped path … -/
theorem splitScope_renderSeg (n : Text) : splitScopeNpath (renderSeg n) = .ok none := by
  refine splitScopeNpath_plain fun h => ?_
  unfold renderSeg at h
  split at h
  · -- an identifier does not start with `@`
    rename_i hid
    cases n with
    | nil => cases h
    | cons c cs =>
      simp only [List.head?_cons, Option.some.injEq] at h
      subst h
      simp only [isIdent, Bool.and_eq_true] at hid
      exact absurd hid.1 (by decide)
  · cases h

/-- … of exactly one segment: the spelling `set` itself writes for that name. -/
theorem formatNPath_renderSeg (n : Text) :
    formatNPath false (renderSeg n) = .ok [formatAttrName false (segOf n)] := by
  have haddr : parseNPath false (joinWith ['.'] ([n].map renderSeg)) = .ok ([n].map segOf) := by
    unfold parseNPath
    rw [joinWith_renderSeg_ne_nil]
    simp only [Bool.false_eq_true, if_false]
    have h := npRun_path false [] n []
    have hd : ({} : NPState) = { segs := [], buf := [], inQuotes := false, quotedSeg := false, escape := false } := rfl
    rw [hd, h]
    obtain ⟨h1, h2, st', h3, h4⟩ := endState_finalize false [] n []
    simp only [h1, h2, h3, Bool.false_eq_true, if_false]
    simpa using h4
  simp only [List.map, joinWith] at haddr
  simp [formatNPath, haddr, Except.map]



/-! ## frame form of fresh `set` / plain `rm` (target object referenced once) -/

/-- A mutation of an object that occurs only at the target changes the target alone. -/
theorem Doc.updSet_only_target (sid : Nat) (f : Node → Node) (d : Doc) (h : d.sidElsewhere sid = false) :
    d.updSet sid f = { d with target := Node.updSet sid f d.target } := by
  have := Doc.updSet_of_not_hasSet sid f _ h
  simp only [Doc.updSet, Doc.mk.injEq, true_and] at this
  obtain ⟨_, h1, h2, h3, h4, h5⟩ := this
  simp only [Doc.updSet, h1, h2, h3, h4, h5]

theorem set_fresh_frame (d : Doc) (p k : Text) (v : Node) (sid : Nat) (vs o : List Node) (m r : Bool)
    (hnt : d.noTarget = none) (hsp : splitScopeNpath p = .ok none)
    (hf : formatNPath currentAnchor p = .ok [k])
    (ht : d.target = .set sid vs o m r)
    (hr : findAttrpathRoot vs k = none) (hb : findBinding vs k = none)
    (hone : d.sidElsewhere sid = false) :
    setValue p (.one v) d =
      (.ok (), { d with
        target := .set sid (vs ++ [.bind d.next k false v [] []])
          (if o.isEmpty then o else o ++ [.bind d.next k false v [] []]) m r
        next := d.next + 1 }) := by
  rw [Nima.set_fresh_plain d p k v sid hnt hsp hf (by rw [ht]; rfl) (by rw [ht]; exact hr)
    (by rw [ht]; exact hb), Doc.updSet_only_target sid _ d hone, ht]
  simp [Node.updSet, appendBothF]

theorem rm_frame (d : Doc) (p k : Text) (bid : Nat) (nm : Text) (ne : Bool)
    (val : Node) (bf af : Payload) (sid : Nat) (vs o : List Node) (m r : Bool)
    (hnt : d.noTarget = none) (hsp : splitScopeNpath p = .ok none)
    (hf : formatNPath currentAnchor p = .ok [k])
    (ht : d.target = .set sid vs o m r)
    (hr : findAttrpathRoot vs k = none)
    (hb : findBinding vs k = some (.bind bid nm ne val bf af))
    (hone : d.sidElsewhere sid = false) :
    removeValue p d =
      (.ok (), { d with
        target := .set sid (vs.eraseP fun n => n.bindId? == some bid)
          (if o.isEmpty then o else o.eraseP fun n => n.isBind && n.bindId? == some bid) m r }) := by
  rw [Nima.rm_plain d p k bid nm ne val bf af sid hnt hsp hf (by rw [ht]; rfl) (by rw [ht]; exact hr)
    (by rw [ht]; exact hb), Doc.updSet_only_target sid _ d hone, ht]
  simp [Node.updSet, eraseBothF]

end Nima
