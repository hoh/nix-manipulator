import NimaVerif.Model.Paths
/-!
Helper lemmas for C17: path resolution is compositional (a walk can be cut anywhere), a located
regular file sits directly inside the directory the walk reached before its last component, and
the two consequences for import hops.
-/
namespace Nima

/-! ## Directories -/

theorem FS.isDir_prefix (fs : FS) (a b : List Comp) (h : fs.isDir (a ++ b) = true) :
    fs.isDir a = true := by
  unfold FS.isDir at *
  simp only [Bool.or_eq_true, List.any_eq_true, Bool.and_eq_true, decide_eq_true_eq,
    List.isPrefixOf_iff_prefix] at *
  have hpre : a <+: a ++ b := List.prefix_append a b
  rcases h with (h | ⟨p, hp, hpp⟩) | ⟨e, he, hpp, hlen⟩
  · left; left
    cases a with
    | nil => rfl
    | cons x xs => simp at h
  · left; right
    exact ⟨p, hp, hpre.trans hpp⟩
  · right
    refine ⟨e, he, hpre.trans hpp, ?_⟩
    simp only [List.length_append] at hlen
    omega

theorem FS.isDir_dropLast (fs : FS) (d : List Comp) (h : fs.isDir d = true) :
    fs.isDir d.dropLast = true := by
  by_cases hne : d = []
  · subst hne; exact h
  · rw [← List.dropLast_concat_getLast hne] at h
    exact fs.isDir_prefix _ _ h

theorem FS.isFile_not_isDir (fs : FS) (p : List Comp) (h : fs.isFile p = true) : fs.isDir p = false := by
  unfold FS.isFile at h
  simp only [Bool.and_eq_true, Bool.not_eq_eq_eq_not, Bool.not_true] at h
  exact h.1

/-! ## Walks -/

theorem FS.walk_append (fs : FS) (cur : List Comp) (a b : List Comp) :
    fs.walk cur (a ++ b) = match fs.walk cur a with
      | .ok n => fs.walk n b
      | .error e => .error e := by
  induction a generalizing cur with
  | nil => simp [FS.walk]
  | cons c cs ih =>
    simp only [List.cons_append, FS.walk]
    cases fs.step cur c with
    | error e => rfl
    | ok n => exact ih n

theorem FS.walk_snoc (fs : FS) (cur : List Comp) (init : List Comp) (last : Comp) :
    fs.walk cur (init ++ [last]) = match fs.walk cur init with
      | .ok d => fs.step d last
      | .error e => .error e := by
  rw [FS.walk_append]
  cases fs.walk cur init with
  | error e => rfl
  | ok d =>
    simp only [FS.walk]
    cases fs.step d last <;> rfl

/-- Every error of the OS view is an `OSError`. -/
theorem FS.step_error (fs : FS) (cur : List Comp) (c : Comp) (e : Err)
    (h : fs.step cur c = .error e) : e = .os := by
  unfold FS.step at h
  split at h
  · injection h with h; exact h.symm
  · split at h
    · cases h
    · split at h
      · cases h
      · split at h
        · cases h
        · injection h with h; exact h.symm

theorem FS.walk_error (fs : FS) (cur : List Comp) (cs : List Comp) (e : Err)
    (h : fs.walk cur cs = .error e) : e = .os := by
  induction cs generalizing cur with
  | nil => simp [FS.walk] at h
  | cons c cs ih =>
    simp only [FS.walk] at h
    cases hs : fs.step cur c with
    | error e' =>
      rw [hs] at h
      injection h with h
      subst h
      exact fs.step_error cur c _ hs
    | ok n =>
      rw [hs] at h
      exact ih n h

theorem FS.locateFrom_error (fs : FS) (start cs : List Comp) (e : Err)
    (h : fs.locateFrom start cs = .error e) : e = .os := by
  unfold FS.locateFrom at h
  split at h
  · injection h with h; exact h.symm
  · split at h
    · split at h
      · cases h
      · injection h with h; exact h.symm
    · rename_i e' hw
      injection h with h
      subst h
      exact fs.walk_error start cs _ hw

/-- A successful step starts in a directory and ends where the lexical step ends; a step that is
    neither `.` nor `..` enters an existing child. -/
theorem FS.step_ok (fs : FS) (cur : List Comp) (c : Comp) (n : List Comp)
    (h : fs.step cur c = .ok n) :
    fs.isDir cur = true ∧ n = pathLexStep cur c ∧
      (n = cur ∨ n = cur.dropLast ∨
        (n = cur ++ [c] ∧ (fs.isDir (cur ++ [c]) || fs.isFile (cur ++ [c])) = true)) := by
  unfold FS.step at h
  unfold pathLexStep
  split at h
  · cases h
  · rename_i hd
    refine ⟨by simpa using hd, ?_⟩
    split at h
    · rename_i hc
      injection h with h
      simp [hc, h]
    · rename_i hc
      split at h
      · rename_i hc2
        injection h with h
        simp [hc, hc2, h]
      · rename_i hc2
        split at h
        · rename_i hex
          injection h with h
          simp only [hc, hc2, Bool.false_eq_true, if_false, ← h, hex, and_self, or_true]
        · cases h

/-- What a successful step from a directory to a regular file looks like: the file is a child of
    that directory (`.` and `..` lead to directories, never to files). -/
theorem FS.step_to_file (fs : FS) (d : List Comp) (c : Comp) (file : List Comp)
    (h : fs.step d c = .ok file) (hf : fs.isFile file = true) :
    fs.isDir d = true ∧ file.dropLast = d := by
  obtain ⟨hd, _, rfl | rfl | ⟨rfl, _⟩⟩ := fs.step_ok d c file h
  · rw [fs.isFile_not_isDir _ hf] at hd
    cases hd
  · have := fs.isDir_dropLast d hd
    rw [fs.isFile_not_isDir _ hf] at this
    cases this
  · exact ⟨hd, by simp⟩

/-- A located file: the components are `init ++ [last]`, the walk over `init` reaches the
    directory that contains the file. -/
theorem FS.locateFrom_ok (fs : FS) (start comps file : List Comp)
    (h : fs.locateFrom start comps = .ok file) :
    fs.isDir start = true ∧ fs.isFile file = true ∧
    ∃ d, fs.walk start comps.dropLast = .ok d ∧ fs.isDir d = true ∧ file.dropLast = d ∧
      comps ≠ [] := by
  unfold FS.locateFrom at h
  split at h
  · cases h
  · rename_i hs
    have hs' : fs.isDir start = true := by simpa using hs
    split at h
    · rename_i n hw
      split at h
      · rename_i hfile
        injection h with h
        subst h
        refine ⟨hs', hfile, ?_⟩
        rcases List.eq_nil_or_concat comps with rfl | ⟨init, last, rfl⟩
        · simp only [FS.walk] at hw
          injection hw with hw
          subst hw
          rw [fs.isFile_not_isDir _ hfile] at hs'
          cases hs'
        · simp only [List.concat_eq_append] at hw ⊢
          rw [FS.walk_snoc] at hw
          cases hwi : fs.walk start init with
          | error e => rw [hwi] at hw; cases hw
          | ok d =>
            rw [hwi] at hw
            simp only at hw
            obtain ⟨hd, hdrop⟩ := fs.step_to_file d last n hw hfile
            refine ⟨d, ?_, hd, hdrop, by simp⟩
            simpa using hwi
      · cases h
    · cases h

/-- THE hop lemma. If the OS locates `src` (as spelled, relative to `start`) at `file`, then any
    further components appended to the *lexical* parent of `src` are resolved exactly as if one
    started in the directory that really contains `file`. -/
theorem FS.hop (fs : FS) (start comps file : List Comp)
    (h : fs.locateFrom start comps = .ok file) (cs : List Comp) :
    fs.locateFrom start (comps.dropLast ++ cs) = fs.locateFrom file.dropLast cs := by
  obtain ⟨hs, _, d, hw, hd, hdrop, _⟩ := fs.locateFrom_ok start comps file h
  subst hdrop
  unfold FS.locateFrom
  simp only [hs, hd, Bool.not_true, Bool.false_eq_true, if_false]
  rw [FS.walk_append, hw]

/-! ## Lexical normalisation: whenever the OS walk succeeds (no symlinks), it ends where the
purely lexical collapse of `.`/`..` ends. -/

theorem FS.walk_lex (fs : FS) (cur cs n : List Comp) (h : fs.walk cur cs = .ok n) :
    n = lexNorm cur cs := by
  induction cs generalizing cur with
  | nil =>
    simp only [FS.walk] at h
    injection h with h
    simp [lexNorm, h]
  | cons c cs ih =>
    simp only [FS.walk] at h
    cases hs : fs.step cur c with
    | error e => rw [hs] at h; cases h
    | ok m =>
      rw [hs] at h
      have := ih m h
      rw [this, (fs.step_ok cur c m hs).2.1]
      simp [lexNorm]

theorem FS.locateFrom_lex (fs : FS) (start cs n : List Comp) (h : fs.locateFrom start cs = .ok n) :
    n = lexNorm start cs := by
  unfold FS.locateFrom at h
  split at h
  · cases h
  · split at h
    · rename_i m hw
      split at h
      · injection h with h
        subst h
        exact fs.walk_lex start cs m hw
      · cases h
    · cases h

/-! ## `~/` literals -/

theorem isHome_cases (t : Text) (h : isHome t = true) : ∃ rest, t = '~' :: '/' :: rest := by
  unfold isHome at h
  match t, h with
  | [], h => simp [List.isPrefixOf] at h
  | [a], h => simp [List.isPrefixOf] at h
  | a :: b :: rest, h =>
    simp only [List.isPrefixOf, Bool.and_eq_true, beq_iff_eq, Bool.and_true] at h
    exact ⟨rest, by rw [← h.1, ← h.2]⟩

theorem parsePath_home (rest : Text) :
    parsePath ('~' :: '/' :: rest) = ⟨false, ['~'] :: (parsePath rest).comps⟩ := by
  have hs : splitSlash ('~' :: '/' :: rest) = ['~'] :: splitSlash rest := by
    simp [splitSlash]
  unfold parsePath
  rw [hs]
  simp [List.filter]

/-- `Path("~/x").expanduser()` is the home path followed by the components of `x`. -/
theorem expanduser_home (home : PPath) (t : Text) (h : isHome t = true) :
    (parsePath t).expanduser home = .ok ⟨home.abs, home.comps ++ (parsePath (t.drop 2)).comps⟩ := by
  obtain ⟨rest, rfl⟩ := isHome_cases t h
  rw [parsePath_home]
  simp [PPath.expanduser]

/-- A literal that is neither `<…>` nor `~/…`: resolved from the directory of the importing file
    (from the root when absolute). -/
theorem specTarget_rel (fs : FS) (home : PPath) (cwd file : List Comp) (t : Text)
    (hang : isAngle t = false) (hh : isHome t = false) :
    specTarget fs home cwd file t =
      fs.locateFrom (if (parsePath t).abs then [] else file.dropLast) (parsePath t).comps := by
  simp [specTarget, hang, hh]

/-- A `~/x` literal: the OS's reading of `$HOME/x`. -/
theorem specTarget_home (fs : FS) (home : PPath) (cwd file : List Comp) (t : Text)
    (hang : isAngle t = false) (hh : isHome t = true) :
    specTarget fs home cwd file t =
      fs.locateFrom (if home.abs then [] else cwd) (home.comps ++ (parsePath (t.drop 2)).comps) := by
  simp [specTarget, hang, hh, FS.locate]

/-- Every error of `specTarget` on a literal that is not `<…>` is an `OSError`. -/
theorem specTarget_error (fs : FS) (home : PPath) (cwd file : List Comp) (t : Text) (e : Err)
    (hang : isAngle t = false) (h : specTarget fs home cwd file t = .error e) : e = .os := by
  cases hh : isHome t with
  | true =>
    rw [specTarget_home fs home cwd file t hang hh] at h
    exact fs.locateFrom_error _ _ _ h
  | false =>
    rw [specTarget_rel fs home cwd file t hang hh] at h
    exact fs.locateFrom_error _ _ _ h

/-! ## A canonical home directory: `$HOME/x` is `x` resolved from that directory. -/

/-- Walking down existing directories by their names arrives where the names say. -/
theorem FS.walk_canonical (fs : FS) (cur cs : List Comp) (hd : fs.isDir (cur ++ cs) = true)
    (hc : canonical cs = true) : fs.walk cur cs = .ok (cur ++ cs) := by
  induction cs generalizing cur with
  | nil => simp [FS.walk]
  | cons c cs ih =>
    have hcur : fs.isDir cur = true := fs.isDir_prefix cur (c :: cs) hd
    have hnext : fs.isDir (cur ++ [c]) = true := by
      apply fs.isDir_prefix (cur ++ [c]) cs
      simpa using hd
    simp only [canonical, List.all_cons, Bool.and_eq_true, Bool.not_eq_eq_eq_not, Bool.not_true,
      Bool.or_eq_false_iff] at hc
    obtain ⟨⟨hdot, hdd⟩, hrest⟩ := hc
    have hstep : fs.step cur c = .ok (cur ++ [c]) := by
      simp [FS.step, hcur, hdot, hdd, hnext]
    simp only [FS.walk, hstep]
    have := ih (cur ++ [c]) (by simpa using hd) (by simpa [canonical] using hrest)
    simpa using this

/-- THE home lemma: for a canonical existing home directory `h`, the OS's reading of the absolute
    path `h/x` is `x` resolved from the directory `h`. -/
theorem FS.home_hop (fs : FS) (h cs : List Comp) (hd : fs.isDir h = true) (hc : canonical h = true) :
    fs.locateFrom [] (h ++ cs) = fs.locateFrom h cs := by
  have hw : fs.walk [] h = .ok h := by
    have := fs.walk_canonical [] h (by simpa using hd) hc
    simpa using this
  unfold FS.locateFrom
  have h0 : fs.isDir [] = true := by simp [FS.isDir]
  simp only [h0, hd, Bool.not_true, Bool.false_eq_true, if_false]
  rw [FS.walk_append, hw]

/-! ## When the home path and the working directory cannot matter to the SPEC: an absolute home
path makes the working directory irrelevant; a filesystem without `~/` literals makes both
irrelevant. -/

theorem noHomeL_lookup (bs : List (Text × Val)) (k : Text) (v : Val)
    (h : noHomeL bs = true) (hk : bs.lookup k = some v) : v.noHome = true := by
  induction bs with
  | nil => simp at hk
  | cons b bs ih =>
    obtain ⟨k', v'⟩ := b
    simp only [noHomeL, Bool.and_eq_true] at h
    simp only [List.lookup] at hk
    split at hk
    · injection hk with hk
      subst hk
      exact h.1
    · exact ih h.2 hk

theorem resolveArg_noHome (a : Arg) (t : Text) (h : a.noHome = true) (hr : resolveArg a = .path t) :
    isHome t = false := by
  induction a with
  | path t' =>
    simp only [resolveArg] at hr
    injection hr with hr
    subst hr
    simpa [Arg.noHome] using h
  | paren a ih =>
    simp only [resolveArg] at hr
    exact ih (by simpa [Arg.noHome] using h) hr
  | other => simp [resolveArg] at hr

theorem lookup_mem {α β} [BEq α] [LawfulBEq α] (l : List (α × β)) (k : α) (v : β)
    (h : l.lookup k = some v) : (k, v) ∈ l := by
  induction l with
  | nil => simp at h
  | cons b l ih =>
    obtain ⟨k', v'⟩ := b
    simp only [List.lookup] at h
    split at h
    · rename_i heq
      injection h with h
      subst h
      have : k = k' := by simpa using heq
      subst this
      simp
    · exact List.mem_cons_of_mem _ (ih h)

theorem FS.content_noHome (fs : FS) (h : fs.noHome = true) (n : List Comp) :
    (fs.content n).noHome = true := by
  unfold FS.content
  cases hl : fs.files.lookup n with
  | none => rfl
  | some c =>
    have hm := lookup_mem _ _ _ hl
    unfold FS.noHome at h
    rw [List.all_eq_true] at h
    exact h _ hm

theorem specGet_congr (fs : FS) (home₁ home₂ : PPath) (cwd₁ cwd₂ : List Comp)
    (hh : (home₁ = home₂ ∧ home₁.abs = true) ∨ fs.noHome = true) (ks : List Text) :
    ∀ (file : List Comp) (v : Val), (fs.noHome = true → v.noHome = true) →
      specGet fs home₁ cwd₁ file v ks = specGet fs home₂ cwd₂ file v ks := by
  induction ks with
  | nil => intro file v _; cases v <;> simp [specGet]
  | cons k ks ih =>
    intro file v hv
    cases v with
    | lit n => simp [specGet]
    | set bs =>
      simp only [specGet, getKey]
      cases hl : bs.lookup k with
      | none => rfl
      | some v =>
        simp only
        exact ih file v (fun hno => noHomeL_lookup bs k v (by simpa [Val.noHome] using hv hno) hl)
    | imp a =>
      simp only [specGet]
      cases hra : resolveArg a with
      | paren b => rfl
      | other => rfl
      | path t =>
        have hst : specTarget fs home₁ cwd₁ file t = specTarget fs home₂ cwd₂ file t := by
          rcases hh with ⟨rfl, habs⟩ | hno
          · simp [specTarget, FS.locate, habs]
          · have : isHome t = false :=
              resolveArg_noHome a t (by simpa [Val.noHome] using hv hno) hra
            simp [specTarget, this]
        simp only [hst]
        cases specTarget fs home₂ cwd₂ file t with
        | error e => rfl
        | ok n =>
          simp only [specEnter]
          cases hcn : fs.content n with
          | notSet => rfl
          | attrs bs =>
            simp only [topSet, getKey]
            cases hl : bs.lookup k with
            | none => rfl
            | some v =>
              simp only
              refine ih n v (fun hno => ?_)
              have hc := fs.content_noHome hno n
              rw [hcn] at hc
              exact noHomeL_lookup bs k v (by simpa [Content.noHome] using hc) hl

theorem specFrom_congr (fs : FS) (home₁ home₂ : PPath) (cwd₁ cwd₂ : List Comp) (e₁ e₂ k : Text)
    (ks : List Text) (hh : (home₁ = home₂ ∧ home₁.abs = true) ∨ fs.noHome = true)
    (h : fs.locate cwd₁ (parsePath e₁) = fs.locate cwd₂ (parsePath e₂)) :
    specFrom fs home₁ cwd₁ e₁ k ks = specFrom fs home₂ cwd₂ e₂ k ks := by
  unfold specFrom specLookup specEnter
  rw [h]
  cases fs.locate cwd₂ (parsePath e₂) with
  | error e => rfl
  | ok file =>
    simp only
    cases hcn : fs.content file with
    | notSet => rfl
    | attrs bs =>
      simp only [topSet, getKey]
      cases hl : bs.lookup k with
      | none => rfl
      | some v =>
        simp only
        refine specGet_congr fs home₁ home₂ cwd₁ cwd₂ hh ks file v (fun hno => ?_)
        have hc := fs.content_noHome hno file
        rw [hcn] at hc
        exact noHomeL_lookup bs k v (by simpa [Content.noHome] using hc) hl

end Nima
