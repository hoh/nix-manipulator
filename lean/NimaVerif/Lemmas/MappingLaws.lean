import NimaVerif.Lemmas.Mapping
import NimaVerif.Lemmas.Update
/-! The dictionary laws of the mapping operations at list level (`values` of a set, `target.scope`):
what a lookup finds after an assignment, an append or a deletion, and the shape of the list afterwards. -/
namespace Nima
-- name tokens are compared by spelling in this file (see `NameCmp` in Model/Edit.lean)
attribute [local instance] NameCmp.spelled

open Node EditM

/-! ### lookups and names -/

theorem itemKeys_of_bind {b : Node} {k : Text} (hb : b.isBind = true) (hn : b.bindName? = some k) :
    b.itemKeys = [k] := by
  cases b <;> simp_all [isBind, bindName?, itemKeys]

theorem mem_keysOf {k : Text} {xs : List Node} : k ∈ keysOf xs ↔ ∃ x ∈ xs, k ∈ x.itemKeys := by
  simp [keysOf, List.mem_flatMap]

theorem keysOf_append (xs ys : List Node) : keysOf (xs ++ ys) = keysOf xs ++ keysOf ys := by
  simp [keysOf]

theorem keysOf_cons (x : Node) (xs : List Node) : keysOf (x :: xs) = x.itemKeys ++ keysOf xs := by
  simp [keysOf]

theorem mem_keysOf_of_findBinding {vs : List Node} {k : Text} {b : Node}
    (h : findBinding vs k = some b) : k ∈ keysOf vs := by
  obtain ⟨hm, hb, hn⟩ := findBinding_some h
  exact mem_keysOf.2 ⟨b, hm, by simp [itemKeys_of_bind hb hn]⟩

theorem mem_keysOf_of_inherit {vs : List Node} {k : Text} (h : inheritMentions vs k = true) :
    k ∈ keysOf vs := by
  simp only [inheritMentions, List.any_eq_true] at h
  obtain ⟨x, hx, hk⟩ := h
  refine mem_keysOf.2 ⟨x, hx, ?_⟩
  cases x <;> simp_all [itemKeys]

theorem findBinding_none_of_not_mem {vs : List Node} {k : Text} (h : k ∉ keysOf vs) :
    findBinding vs k = none := by
  cases hf : findBinding vs k with
  | none => rfl
  | some b => exact absurd (mem_keysOf_of_findBinding hf) h

theorem inheritMentions_false_of_not_mem {vs : List Node} {k : Text} (h : k ∉ keysOf vs) :
    inheritMentions vs k = false := by
  cases hf : inheritMentions vs k with
  | false => rfl
  | true => exact absurd (mem_keysOf_of_inherit hf) h

/-- a name of `keysMap` is answered by one of the first two branches of `__getitem__`
    (for lists without `_AttrpathEntry` items, which `values` never holds) -/
theorem mem_keysOf_iff_top {vs : List Node} (hne : noEntriesL vs = true) (k : Text) :
    k ∈ keysOf vs ↔ (findBinding vs k).isSome = true ∨ inheritMentions vs k = true := by
  constructor
  · intro h
    obtain ⟨x, hx, hk⟩ := mem_keysOf.1 h
    simp only [noEntriesL, List.all_eq_true] at hne
    have hxe := hne x hx
    cases x with
    | bind i n ne v b a =>
      left
      simp only [itemKeys, List.mem_singleton] at hk
      subst hk
      simp only [findBinding_spelled, List.find?_isSome]
      exact ⟨_, hx, by simp [isBind, bindName?]⟩
    | inherit i ns =>
      right
      simp only [itemKeys] at hk
      simp only [inheritMentions, List.any_eq_true]
      exact ⟨_, hx, by simpa using hk⟩
    | entry segs l b a => simp [isEntry] at hxe
    | atom t => simp [itemKeys] at hk
    | ident t => simp [itemKeys] at hk
    | set sid vs o m r => simp [itemKeys] at hk
  · rintro (h | h)
    · cases hf : findBinding vs k with
      | none => simp [hf] at h
      | some b => exact mem_keysOf_of_findBinding hf
    · exact mem_keysOf_of_inherit h

/-- `__getitem__` for a plain (non-dotted) key -/
theorem setGetItem_plain (s : Node) (k : Text) (hp : PlainKey k = true) :
    setGetItem s k =
      match findBinding s.setValues k with
      | some b => (match b.bindValue? with | some v => .ok v | none => .error .key)
      | none => if inheritMentions s.setValues k then .ok (.ident k) else .error .key := by
  unfold setGetItem
  cases findBinding s.setValues k with
  | some b => rfl
  | none =>
    simp only
    split
    · rfl
    · unfold PlainKey at hp
      split
      · rfl
      · rename_i segs hs
        simp only [hs, decide_eq_true_eq] at hp
        simp [hp]

/-! ### assignment to an existing binding -/

theorem findBinding_updBindL_value {vs : List Node} {k : Text} {b : Node} {bid : Nat} (v : Node)
    (hb : findBinding vs k = some b) (hid : b.bindId? = some bid) :
    ∃ b', findBinding (updBindL bid v vs) k = some b' ∧ b'.bindValue? = some v := by
  refine ⟨updBind bid v b, by rw [findBinding_updBindL, hb]; rfl, ?_⟩
  rw [updBind_bindValue, if_pos hid]

/-! `occursBind` (Model/MappingSpec.lean) is `hasBind` (Model/Frame.lean) -/
mutual
  theorem occursBind_eq_hasBind (id : Nat) : ∀ n : Node, occursBind id n = hasBind id n
    | .atom _ => rfl
    | .ident _ => rfl
    | .set s vs o m r => by
        simp only [occursBind, hasBind, occursBindL_eq_hasBindL id vs, occursBindL_eq_hasBindL id o]
    | .bind i n ne val b a => by simp only [occursBind, hasBind, occursBind_eq_hasBind id val]
    | .inherit _ _ => rfl
    | .entry segs leaf b a => by simp only [occursBind, hasBind, occursBind_eq_hasBind id leaf]
  theorem occursBindL_eq_hasBindL (id : Nat) : ∀ xs : List Node, occursBindL id xs = hasBindL id xs
    | [] => rfl
    | x :: xs => by
        simp only [occursBindL, hasBindL, occursBind_eq_hasBind id x, occursBindL_eq_hasBindL id xs]
end

theorem updBind_of_not_occurs (id : Nat) (v : Node) (n : Node) (h : occursBind id n = false) :
    updBind id v n = n :=
  updBind_of_not_hasBind id v n (by rw [← occursBind_eq_hasBind]; exact h)

theorem updBindL_of_not_occurs (id : Nat) (v : Node) :
    ∀ xs : List Node, occursBindL id xs = false → updBindL id v xs = xs :=
  fun xs h => updBindL_of_not_hasBind id v xs (by rw [← occursBindL_eq_hasBindL]; exact h)

theorem mem_topIds {vs : List Node} {b : Node} {i : Nat} (hb : b ∈ vs) (hi : b.bindId? = some i) :
    i ∈ topIds vs := by
  simp only [topIds, List.mem_filterMap]
  exact ⟨b, hb, hi⟩

theorem distinctItems_iff (vs : List Node) :
    DistinctItems vs = true ↔ (topIds vs).Nodup ∧
      ∀ n ∈ vs, ∀ i ∈ topIds vs, n.bindId? = some i ∨ occursBind i n = false := by
  simp [DistinctItems, List.all_eq_true]

/-- an assignment to the Binding object `bid` leaves the other items of a well-formed list alone -/
theorem updBind_other_item {vs : List Node} (hd : DistinctItems vs = true) {b b' : Node} {bid : Nat}
    (v : Node) (hb : b ∈ vs) (hid : b.bindId? = some bid) (hb' : b' ∈ vs) (hne : b' ≠ b) :
    updBind bid v b' = b' := by
  obtain ⟨hn, ho⟩ := (distinctItems_iff vs).1 hd
  apply updBind_of_not_occurs
  rcases ho b' hb' bid (mem_topIds hb hid) with h | h
  · exact absurd (eq_of_nodup_filterMap bindId? hn hb' hb h hid) hne
  · exact h

theorem findBinding_updBindL_other {vs : List Node} (hd : DistinctItems vs = true) {k k' : Text}
    {b : Node} {bid : Nat} (v : Node) (hb : findBinding vs k = some b) (hid : b.bindId? = some bid)
    (hk : k' ≠ k) : findBinding (updBindL bid v vs) k' = findBinding vs k' := by
  rw [findBinding_updBindL]
  cases hf : findBinding vs k' with
  | none => rfl
  | some b' =>
    obtain ⟨hm', _, hn'⟩ := findBinding_some hf
    obtain ⟨hm, _, hn⟩ := findBinding_some hb
    have hne : b' ≠ b := by
      intro h; subst h; rw [hn] at hn'; injection hn' with hn'; exact hk hn'.symm
    simp [updBind_other_item hd v hm hid hm' hne]

/-! ### deletion -/

/-- in a well-formed list, erasing "the first item that is the Binding object `bid`" erases the
    binding that was found by name -/
theorem eraseP_found {vs : List Node} (hd : DistinctItems vs = true) {k : Text} {b : Node}
    {bid : Nat} (hb : findBinding vs k = some b) (hid : b.bindId? = some bid) :
    ∃ l₁ l₂, vs = l₁ ++ b :: l₂ ∧ (vs.eraseP fun n => n.bindId? == some bid) = l₁ ++ l₂ := by
  obtain ⟨hm, _, _⟩ := findBinding_some hb
  obtain ⟨a, l₁, l₂, _, hpa, hvs, he⟩ :=
    List.exists_of_eraseP (p := fun n => n.bindId? == some bid) hm (by simp [hid])
  have hab : a = b := by
    have ha : a ∈ vs := by rw [hvs]; simp
    exact eq_of_nodup_filterMap bindId? ((distinctItems_iff vs).1 hd).1 ha hm (by simpa using hpa) hid
  subst hab
  exact ⟨l₁, l₂, hvs, he⟩

theorem findBinding_remove_other (l₁ l₂ : List Node) {b : Node} {k k' : Text}
    (hn : b.bindName? = some k) (hk : k' ≠ k) :
    findBinding (l₁ ++ l₂) k' = findBinding (l₁ ++ b :: l₂) k' := by
  have : (some k == some k') = false := by
    simp only [beq_eq_false_iff_ne, ne_eq, Option.some.injEq]; exact fun h => hk h.symm
  simp [findBinding_spelled, List.find?_append, hn, this]

theorem inheritMentions_remove_bind (l₁ l₂ : List Node) {b : Node} (k' : Text)
    (hb : b.isBind = true) :
    inheritMentions (l₁ ++ l₂) k' = inheritMentions (l₁ ++ b :: l₂) k' := by
  cases b <;> simp_all [isBind, inheritMentions]

theorem inheritMentions_append_bind (vs : List Node) {b : Node} (k' : Text)
    (hb : b.isBind = true) : inheritMentions (vs ++ [b]) k' = inheritMentions vs k' := by
  cases b <;> simp_all [isBind, inheritMentions]

theorem keysOf_split (l₁ l₂ : List Node) {b : Node} {k : Text} (hb : b.isBind = true)
    (hn : b.bindName? = some k) : keysOf (l₁ ++ b :: l₂) = keysOf l₁ ++ k :: keysOf l₂ := by
  simp [keysOf_append, keysOf_cons, itemKeys_of_bind hb hn]

/-- a name defined once is gone when its binding is -/
theorem not_mem_keysOf_of_count_le {l₁ l₂ : List Node} {b : Node} {k : Text} (hb : b.isBind = true)
    (hn : b.bindName? = some k) (hu : (keysOf (l₁ ++ b :: l₂)).count k ≤ 1) :
    k ∉ keysOf (l₁ ++ l₂) := by
  rw [keysOf_split l₁ l₂ hb hn, List.count_append, List.count_cons_self] at hu
  rw [keysOf_append, List.mem_append, ← List.count_pos_iff, ← List.count_pos_iff]
  omega

/-! ### plain keys -/

theorem plainKey_of_simple (k : Text) (h : ∀ c ∈ k, c ≠ '.' ∧ c ≠ '"' ∧ c ≠ '$') :
    PlainKey k = true := by
  unfold PlainKey
  cases e : splitAttrpath k with
  | error _ => rfl
  | ok segs => simpa using splitAttrpath_simple k h segs e

/-! ### shape of the target / the scope after an operation -/

theorem target_set {d : Doc} (hs : d.target.isSet = true) :
    ∃ sid vs o m r, d.target = .set sid vs o m r := by
  cases h : d.target <;> simp_all [isSet]

theorem appendBoth_values (nb : Node) (sid : Nat) (vs o : List Node) (m r : Bool) :
    ((appendOrderFn nb ∘ appendValueFn nb) (.set sid vs o m r)).setValues = vs ++ [nb] := by
  simp only [Function.comp, appendValueFn, appendOrderFn]
  split <;> rfl

theorem set_existing_values {d : Doc} {k : Text} {b : Node} {bid : Nat} (v : Node)
    (hb : findBinding d.target.setValues k = some b) (hid : b.bindId? = some bid) :
    (setSetItem d.target k v d).2.target.setValues = updBindL bid v d.target.setValues := by
  rw [setSetItem_existing v d hb hid]
  simp only [Doc.updBind]
  cases d.target with
  | bind i nm ne val b a => by_cases h : i = bid <;> simp [updBind, h, setValues]
  | _ => simp [updBind, setValues]

theorem set_new_values {d : Doc} {k : Text} {sid : Nat} {vs o : List Node} {m r : Bool}
    (v : Node) (ht : d.target = .set sid vs o m r) (hb : findBinding d.target.setValues k = none) :
    (setSetItem d.target k v d).2.target.setValues = vs ++ [.bind d.next k false v [] []] := by
  rw [setSetItem_new v d hb (sid := sid) (by simp [ht, setSid?])]
  simp only [Doc.updSet, ht, updSet, if_true]
  exact appendBoth_values _ sid vs o m r

theorem del_shape {d : Doc} {k : Text} (hok : (setDelItem d.target k d).1 = .ok ())
    (hd : DistinctItems d.target.setValues = true) :
    ∃ sid o m r b bid l₁ l₂, d.target = .set sid (l₁ ++ b :: l₂) o m r ∧
      b.isBind = true ∧ b.bindName? = some k ∧ b.bindId? = some bid ∧
      (setDelItem d.target k d).2.target.setValues = l₁ ++ l₂ := by
  cases hb : findBinding d.target.setValues k with
  | none => rw [setDelItem_missing d hb] at hok; cases hok
  | some b =>
    obtain ⟨hm, hbb, hbn⟩ := findBinding_some hb
    obtain ⟨bid, hid⟩ := isBind_bindId hbb
    cases ht : d.target with
    | set sid vs o m r =>
      rw [ht] at hb hd
      simp only [setValues] at hb hd
      obtain ⟨l₁, l₂, hvs, he⟩ := eraseP_found hd hb hid
      refine ⟨sid, o, m, r, b, bid, l₁, l₂, by rw [hvs], hbb, hbn, hid, ?_⟩
      rw [← ht, setDelItem_existing d (by rw [ht]; exact hb) hid (sid := sid) (by simp [ht, setSid?])]
      simp [Doc.updSet, ht, updSet, delItemFn, setValues, he]
    | _ => simp [ht, setValues, findBinding_spelled] at hb

theorem scope_del_shape {d : Doc} {k : Text} (hok : (scopeDelItem k d).1 = .ok ())
    (hd : DistinctItems d.scope = true) :
    ∃ b l₁ l₂, d.scope = l₁ ++ b :: l₂ ∧ b.isBind = true ∧ b.bindName? = some k ∧
      (scopeDelItem k d).2.scope = l₁ ++ l₂ := by
  cases hb : findBinding d.scope k with
  | none => rw [scopeDelItem_missing d hb] at hok; cases hok
  | some b =>
    obtain ⟨hm, hbb, hbn⟩ := findBinding_some hb
    obtain ⟨bid, hid⟩ := isBind_bindId hbb
    obtain ⟨l₁, l₂, hvs, he⟩ := eraseP_found hd hb hid
    refine ⟨b, l₁, l₂, hvs, hbb, hbn, ?_⟩
    rw [scopeDelItem_existing d hb hid]
    simp only [eraseP_bindId_eq, he]

end Nima
