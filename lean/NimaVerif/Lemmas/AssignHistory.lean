import NimaVerif.Lemmas.AssignThrough
/-!
C11, histories: a write to the END of a reference chain (a binding whose value is not a reference,
receiving a value that is not a reference) changes no lookup and no derivation of the SPEC, and
keeps every side condition — so a history of edits through references keeps designating the
defining bindings determined in the initial document.
-/
namespace Nima

open Node

/-! ## the SPEC sees through a write by identity -/

theorem bindsName_updBind (j : Nat) (w : Node) (name : Text) (n : Node) :
    bindsName name (updBind j w n) = bindsName name n := by
  cases n with
  | bind i nm ne v bf af => by_cases h : i = j <;> simp [updBind, h, bindsName]
  | _ => simp [updBind, bindsName]

theorem declName_updBind (j : Nat) (w : Node) (n : Node) : declName (updBind j w n) = declName n := by
  cases n with
  | bind i nm ne v bf af => by_cases h : i = j <;> simp [updBind, h, declName]
  | _ => simp [updBind, declName]

/-- the environment after `binding.value = w` on object `j` -/
def updEnv (j : Nat) (w : Node) (env : List (List Node)) : List (List Node) :=
  env.map (updBindL j w)

theorem lookupEnv_updEnv (j : Nat) (w : Node) (name : Text) : ∀ env : List (List Node),
    lookupEnv name (updEnv j w env) =
      (lookupEnv name env).map (fun r => (updBind j w r.1, updEnv j w r.2))
  | [] => rfl
  | f :: outer => by
    simp only [updEnv, List.map_cons, lookupEnv]
    rw [find?_updBindL j w _ (bindsName_updBind j w name) f]
    cases f.find? (bindsName name) with
    | some b => rfl
    | none => exact lookupEnv_updEnv j w name outer

/-- object `j` is not a binding of the environment that holds a reference -/
def NotRef (env : List (List Node)) (j : Nat) : Prop :=
  ∀ f ∈ env, ∀ i nm ne n' bf af, Node.bind i nm ne (.ident n') bf af ∈ f → i ≠ j

theorem NotRef.mono {env env' : List (List Node)} {j : Nat} (h : NotRef env j)
    (hsub : ∀ f ∈ env', f ∈ env) : NotRef env' j :=
  fun f hf => h f (hsub f hf)

/-- the end of a chain is a binding of the environment whose value is not a reference -/
theorem Defines.end_mem {env : List (List Node)} {name : Text} {bid : Nat} (h : Defines env name bid) :
    ∃ f ∈ env, ∃ nm ne v bf af, Node.bind bid nm ne v bf af ∈ f ∧ v.isIdent = false := by
  induction h with
  | value hl hv =>
    obtain ⟨hsuf, f, outer, rfl, hf⟩ := lookupEnv_spec hl
    exact ⟨f, suffix_subset hsuf f (by simp), _, _, _, _, _, List.mem_of_find?_eq_some hf, hv⟩
  | ref hl _ ih =>
    obtain ⟨hsuf, _⟩ := lookupEnv_spec hl
    obtain ⟨f, hf, r⟩ := ih
    exact ⟨f, suffix_subset hsuf f hf, r⟩

/-- with distinct identities, the defining binding is not a reference-holding binding -/
theorem NotRef.of_defines {env : List (List Node)} {name : Text} {j : Nat}
    (hn : (envIds env).Nodup) (h : Defines env name j) : NotRef env j := by
  obtain ⟨f, hf, nm, ne, v, bf, af, hm, hv⟩ := h.end_mem
  intro g hg i nm' ne' n' bf' af' hm' hij
  subst hij
  have := eq_of_nodup_filterMap bindId? hn (x := i)
    (List.mem_flatten.2 ⟨f, hf, hm⟩) (List.mem_flatten.2 ⟨g, hg, hm'⟩) rfl rfl
  cases this
  cases hv

/-- **Invariance of the SPEC.** A write of a non-reference to an object that holds no reference
    keeps every derivation: the same names designate the same Binding objects afterwards. -/
theorem Defines.updEnv {env : List (List Node)} {name : Text} {bid : Nat} (j : Nat) (w : Node)
    (hw : w.isIdent = false) (h : Defines env name bid) (hnr : NotRef env j) :
    Defines (updEnv j w env) name bid := by
  induction h with
  | @value env env' name nm bid ne v bf af hl hv =>
    have hl' := lookupEnv_updEnv j w name env
    rw [hl] at hl'
    by_cases hb : bid = j
    · subst hb
      refine Defines.value (v := w) (by simpa [Node.updBind] using hl') hw
    · refine Defines.value (v := Node.updBind j w v) (by simpa [Node.updBind, hb] using hl') ?_
      rw [isIdent_updBind]; exact hv
  | @ref env env' name nm n' i bid ne bf af hl _ ih =>
    obtain ⟨hsuf, f, outer, rfl, hf⟩ := lookupEnv_spec hl
    have hi : i ≠ j := hnr f (suffix_subset hsuf f (by simp)) _ _ _ _ _ _ (List.mem_of_find?_eq_some hf)
    have hl' := lookupEnv_updEnv j w name env
    rw [hl] at hl'
    exact Defines.ref (by simpa [Node.updBind, hi] using hl')
      (ih (hnr.mono (suffix_subset hsuf)))

/-! ## the side conditions survive the write -/

/-- a write puts no reference where there was none, unless it writes one -/
theorem updBind_eq_ident {j : Nat} {w v : Node} {n' : Text} (h : updBind j w v = .ident n') :
    v = .ident n' := by
  cases v with
  | ident _ => exact h
  | bind a b c e f g => simp only [updBind] at h; split at h <;> cases h
  | _ => cases h

theorem frameOK_updBindL (j : Nat) (w : Node) (hw : w.isIdent = false) (f : List Node)
    (h : frameOK f = true) : frameOK (updBindL j w f) = true := by
  simp only [frameOK, Bool.and_eq_true, decide_eq_true_eq, List.all_eq_true] at h ⊢
  constructor
  · intro n hn
    rw [updBindL_eq_map, List.mem_map] at hn
    obtain ⟨m, hm, rfl⟩ := hn
    have := h.1 m hm
    cases m with
    | bind i nm ne v bf af =>
      rw [updBind_bind_eq]
      simp only [Bool.and_eq_true] at this ⊢
      refine ⟨this.1, ?_⟩
      split
      · rename_i heq
        split at heq
        · subst heq; cases hw
        · rw [updBind_eq_ident heq] at this; exact this.2
      · rfl
    | _ => simp [Node.updBind]
  · have : (updBindL j w f).filterMap declName = f.filterMap declName := by
      rw [updBindL_eq_map, List.filterMap_map]
      congr 1
      funext n
      exact declName_updBind j w n
    rw [this]; exact h.2

theorem envOK_updEnv (j : Nat) (w : Node) (hw : w.isIdent = false) (env : List (List Node))
    (h : envOK env = true) : envOK (updEnv j w env) = true := by
  simp only [envOK, updEnv, List.all_map, List.all_eq_true, Function.comp] at h ⊢
  exact fun f hf => frameOK_updBindL j w hw f (h f hf)

theorem inheritClear_updEnv (j : Nat) (w : Node) (env : List (List Node)) (name : Text) :
    inheritClear (updEnv j w env) name = inheritClear env name := by
  simp only [inheritClear, updEnv, List.all_map]
  congr 1
  funext f
  simp [inheritMentions_updBindL]

theorem inheritFree_updEnv (j : Nat) (w : Node) (hw : w.isIdent = false) (env : List (List Node))
    (name : Text) (h : inheritFree env name = true) : inheritFree (updEnv j w env) name = true := by
  simp only [inheritFree, Bool.and_eq_true, inheritClear_updEnv] at h ⊢
  refine ⟨h.1, ?_⟩
  have h2 := h.2
  simp only [List.all_eq_true] at h2 ⊢
  intro f hf n hn
  simp only [updEnv, List.mem_map] at hf
  obtain ⟨f0, hf0, rfl⟩ := hf
  rw [updBindL_eq_map, List.mem_map] at hn
  obtain ⟨m, hm, rfl⟩ := hn
  have := h2 f0 hf0 m hm
  cases m with
  | bind i nm ne v bf af =>
    rw [updBind_bind_eq]
    split
    · rename_i heq
      injection heq with _ _ _ hval
      split at hval
      · subst hval; cases hw
      · rw [updBind_eq_ident hval] at this; exact this
    · rfl
  | _ => simp [Node.updBind]

theorem envIds_updEnv (j : Nat) (w : Node) (env : List (List Node)) :
    envIds (updEnv j w env) = envIds env := by
  simp only [envIds, updEnv]
  have hfun : updBindL j w = List.map (Node.updBind j w) := funext (updBindL_eq_map j w)
  rw [show (env.map (updBindL j w)).flatten = env.flatten.map (Node.updBind j w) by
    rw [hfun, List.map_flatten]]
  rw [List.filterMap_map]
  congr 1
  funext n
  simp

theorem idsNodup_updEnv (j : Nat) (w : Node) (env : List (List Node)) (h : idsNodup env = true) :
    idsNodup (updEnv j w env) = true := by
  rw [idsNodup_iff] at h ⊢
  rw [envIds_updEnv]; exact h

/-! ## the chain of the updated document -/

theorem scopeChain_updBind (j : Nat) (w : Node) (d : Doc) (ts : Node) (wl : Bool) :
    scopeChain (d.updBind j w) (Node.updBind j w ts) wl = (scopeChain d ts wl).map (updBindL j w) := by
  simp only [scopeChain, Doc.updBind_scope, Doc.updBind_stack, updBindL_isEmpty, setRecursive_updBind,
    setValues_updBind, List.map_append]
  congr 1
  · cases wl with
    | false => simp
    | true =>
      simp only [if_true, List.map_append]
      congr 1
      · split <;> simp
      · rw [List.filter_map, List.map_map, List.map_map]
        have : ((fun x : Layer => !x.scope.isEmpty) ∘ Layer.updBind j w) =
            (fun x : Layer => !x.scope.isEmpty) := by
          funext l; simp [Layer.updBind, updBindL_isEmpty]
        rw [this]
        apply List.map_congr_left
        intro l _
        simp [Layer.updBind]
  · split <;> simp

theorem chainEnv_updBind (j : Nat) (w : Node) (d : Doc) (ts : Node) (wl : Bool) :
    chainEnv (d.updBind j w) (Node.updBind j w ts) wl = updEnv j w (chainEnv d ts wl) := by
  simp only [chainEnv, scopeChain_updBind, updEnv, List.map_reverse]

end Nima
