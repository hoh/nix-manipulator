import NimaVerif.Model.Edit
import NimaVerif.Model.LayerSpec
/-! What every file about `Model/Edit.lean` builds on. First the small things: the `EditM` monad and the
primitive writes applied to a state, the kind of a node, `updBindL` / `updSetL` as maps, the path
splitters. Then the entry points `setValue` / `removeValue` cut at their joints: the prologue the two
share (`dispatch`, with its verdict `route`), the run of an attrset-level operation on a scope layer
(`onLayer_some`) and the tail of a scoped `remove_value` (`rmFinish`). Everything here holds for any
comparison of name tokens. Later files reason from these equations and never unfold the two entry
points: the tail's chain of record updates is large once its `let`s are expanded. -/
namespace Nima
open Node EditM

/-! ### the `EditM` monad, unfolded -/

namespace EditM
@[simp] theorem pure_apply {α} (a : α) (d : Doc) : (pure a : EditM α) d = (.ok a, d) := rfl
@[simp] theorem bind_apply {α β} (m : EditM α) (f : α → EditM β) (d : Doc) :
    (m >>= f) d = match m d with
      | (.ok a, d') => f a d'
      | (.error e, d') => (.error e, d') := rfl
theorem bind_ok {α β} (m : EditM α) (f : α → EditM β) (d d' : Doc) (a : α)
    (h : m d = (.ok a, d')) : (m >>= f) d = f a d' := by
  rw [bind_apply, h]
theorem bind_error {α β} (m : EditM α) (f : α → EditM β) (d d' : Doc) (e : Err)
    (h : m d = (.error e, d')) : (m >>= f) d = (.error e, d') := by
  rw [bind_apply, h]
@[simp] theorem throw_apply {α} (e : Err) (d : Doc) : (EditM.throw e : EditM α) d = (.error e, d) := rfl
@[simp] theorem get_apply (d : Doc) : EditM.get d = (.ok d, d) := rfl
@[simp] theorem modify_apply (f : Doc → Doc) (d : Doc) : EditM.modify f d = (.ok (), f d) := rfl
@[simp] theorem lift_apply {α} (x : Except Err α) (d : Doc) : EditM.lift x d = (x, d) := rfl

theorem throw_eq_error {α : Type} {e0 e : Err} {d d' : Doc}
    (h : (EditM.throw e0 : EditM α) d = (.error e, d')) : e = e0 := by
  injection h with h _; injection h with h; exact h.symm

theorem eq_ok_snd {α : Type} {x : Except Err α × Doc} {a : α} (h : x.1 = .ok a) : x = (.ok a, x.2) := by
  rw [← h]

theorem ite_apply {α : Type} (c : Prop) [Decidable c] (a b : EditM α) (d : Doc) :
    (if c then a else b) d = if c then a d else b d := by split <;> rfl
end EditM

theorem bind_congr_apply {α β} (m m' : EditM α) (f : α → EditM β) (d d' : Doc) (h : m d = m' d') :
    (m >>= f) d = (m' >>= f) d' := by
  simp only [EditM.bind_apply, h]

@[simp] theorem fresh_apply (d : Doc) : fresh d = (.ok d.next, { d with next := d.next + 1 }) := rfl
@[simp] theorem assign_apply (bid : Nat) (v : Node) (d : Doc) : assign bid v d = (.ok (), d.updBind bid v) := rfl

/-! ### the primitives that mutate one set object, as `modify` (functions of `Model/LayerSpec.lean`) -/

theorem appendValue_eq_modify (sid : Nat) (b : Node) :
    appendValue sid b = EditM.modify fun d => d.updSet sid (appendValueFn b) := by
  unfold appendValue; congr
theorem appendOrder_eq_modify (sid : Nat) (x : Node) :
    appendOrderIfNonEmpty sid x = EditM.modify fun d => d.updSet sid (appendOrderFn x) := by
  unfold appendOrderIfNonEmpty; congr
theorem removeValueById_eq_modify (sid bid : Nat) :
    removeValueById sid bid = EditM.modify fun d => d.updSet sid (removeValueFn bid) := by
  unfold removeValueById; congr

/-! ### the kind of a node and its projections -/

theorem isSet_iff (n : Node) : n.isSet = true ↔ ∃ s vs o m r, n = .set s vs o m r := by
  cases n <;> simp [isSet]

theorem isSet_of_setSid {n : Node} {c : Nat} (h : n.setSid? = some c) : n.isSet = true := by
  cases n <;> simp [setSid?] at h; rfl

theorem setSid_some (n : Node) (c : Nat) (h : n.setSid? = some c) :
    ∃ vs o m r, n = .set c vs o m r := by
  cases n <;> simp [setSid?] at h
  subst h; exact ⟨_, _, _, _, rfl⟩

theorem isBind_bindId {b : Node} (h : b.isBind = true) : ∃ i, b.bindId? = some i := by
  cases b <;> simp [isBind] at h; exact ⟨_, rfl⟩

theorem isBind_bindValue {b : Node} (h : b.isBind = true) : ∃ v, b.bindValue? = some v := by
  cases b <;> simp [isBind] at h; exact ⟨_, rfl⟩

theorem bind_of_isBind_bindName {b : Node} {k : Text} (hb : b.isBind = true)
    (hn : b.bindName? = some k) : ∃ i ne v bf af, b = .bind i k ne v bf af := by
  cases b <;> simp [isBind, bindName?] at hb hn
  subst hn
  exact ⟨_, _, _, _, _, rfl⟩

theorem setValues_set (s : Nat) (vs o : List Node) (m r : Bool) :
    (Node.set s vs o m r).setValues = vs := rfl

/-! ### lookups on the empty list -/

section
attribute [local instance] NameCmp.spelled
theorem findBinding_nil (k : Text) : findBinding [] k = none := rfl
theorem findAttrpathRoot_nil (k : Text) : findAttrpathRoot [] k = none := rfl
end

/-! ### `updBindL` / `updSetL` are maps -/

theorem updBindL_eq_map (id : Nat) (v : Node) (xs : List Node) :
    updBindL id v xs = xs.map (updBind id v) := by
  induction xs with
  | nil => rfl
  | cons x xs ih => simp [updBindL, ih]

theorem updSetL_eq_map (sid : Nat) (f : Node → Node) (xs : List Node) :
    updSetL sid f xs = xs.map (updSet sid f) := by
  induction xs with
  | nil => rfl
  | cons x xs ih => simp [updSetL, ih]

@[simp] theorem updBindL_nil (id : Nat) (v : Node) : updBindL id v [] = [] := rfl
@[simp] theorem updSetL_nil (sid : Nat) (f : Node → Node) : updSetL sid f [] = [] := rfl

theorem updBindL_append (id : Nat) (v : Node) (xs ys : List Node) :
    updBindL id v (xs ++ ys) = updBindL id v xs ++ updBindL id v ys := by
  simp [updBindL_eq_map]

theorem updSetL_append (sid : Nat) (f : Node → Node) (xs ys : List Node) :
    updSetL sid f (xs ++ ys) = updSetL sid f xs ++ updSetL sid f ys := by
  simp [updSetL_eq_map]

/-! ### `split_attrpath` on a name without `.`, `"` and `$` -/

/-- outside quotes and interpolations such a name is read into the buffer as it stands -/
theorem splitGo_simple (k : Text) (h : ∀ c ∈ k, c ≠ '.' ∧ c ≠ '"' ∧ c ≠ '$') :
    ∀ st : SplitSt, st.depth = 0 → st.inQuotes = false →
      splitGo st k = .ok { st with buf := st.buf ++ k } := by
  induction k with
  | nil => intro st _ _; simp [splitGo]
  | cons c cs ih =>
    intro st h0 hq
    obtain ⟨h1, h2, h3⟩ := h c (by simp)
    rw [splitGo]
    simp only [h0, hq, h1, h2, h3, Nat.lt_irrefl, if_false, Bool.false_eq_true, decide_false, Bool.false_and]
    have := ih (fun d hd => h d (by simp [hd])) { st with buf := st.buf ++ [c] } h0 hq
    simp only [h0, hq] at this
    rw [this]
    simp

/-- so it is read as at most one segment, if it is accepted at all -/
theorem splitAttrpath_simple (k : Text) (h : ∀ c ∈ k, c ≠ '.' ∧ c ≠ '"' ∧ c ≠ '$') (segs : List Text)
    (hk : splitAttrpath k = .ok segs) : segs.length ≤ 1 := by
  unfold splitAttrpath at hk
  rw [splitGo_simple k h {} rfl rfl] at hk
  simp only [Nat.lt_irrefl, if_false, Bool.false_eq_true] at hk
  unfold splitFlush at hk
  simp only [List.nil_append, List.isEmpty_iff] at hk
  by_cases hs : strip k = []
  · simp [hs] at hk
  · simp [hs] at hk; simp [← hk]

/-! ### `_split_scope_npath`, `_resolve_target_set` -/

/-- the part of an NPath after its `@` scope selectors (`_split_scope_npath`). It carries the namespace
    of `Lemmas/NameAgree.lean`, whose agreement theorems are stated with it; it is defined here because
    `dispatch_eq` needs it. -/
def NameAgree.scopeRest (npath : Text) : Text := npath.drop (npath.takeWhile (· == '@')).length
open NameAgree (scopeRest)

theorem splitScopeNpath_error (p : Text) (e : Err) (h : splitScopeNpath p = .error e) : e = .value := by
  unfold splitScopeNpath at h
  dsimp only at h
  split at h
  · cases h
  · split at h
    · injection h with h; exact h.symm
    · cases h

theorem splitScopeNpath_some {p : Text} {depth : Nat} {rest : Text}
    (h : splitScopeNpath p = .ok (some (depth, rest))) : 0 < depth ∧ rest = scopeRest p := by
  unfold splitScopeNpath at h
  dsimp only at h
  split at h
  · cases h
  · split at h
    · cases h
    · simp only [Except.ok.injEq, Option.some.injEq, Prod.mk.injEq] at h
      exact ⟨by omega, h.2.symm⟩

theorem splitScopeNpath_none (npath : Text) (h : splitScopeNpath npath = .ok none) :
    scopeRest npath = npath := by
  unfold splitScopeNpath at h
  dsimp only at h
  split at h
  · rename_i h0; simp [scopeRest, h0]
  · split at h <;> cases h

/-- a path that does not start with `@` has no scope selector -/
theorem splitScopeNpath_plain {p : Text} (h : p.head? ≠ some '@') : splitScopeNpath p = .ok none := by
  have : p.takeWhile (· == '@') = [] := by
    cases p with
    | nil => rfl
    | cons c cs =>
      have hc : (c == '@') = false := by simpa using h
      simp only [List.takeWhile, hc]
  simp [splitScopeNpath, this]

theorem resolveTarget_ok {d : Doc} {ts : Node} (h : resolveTarget d = .ok ts) :
    ts = d.target ∧ d.noTarget = none := by
  unfold resolveTarget at h
  split at h
  · cases h
  · cases h
  · rename_i hn; cases h; exact ⟨rfl, hn⟩

theorem resolveTarget_error {d : Doc} {e : Err} (h : resolveTarget d = .error e) :
    (e = .resolution ∧ d.noTarget = some .resolution) ∨
      (e = .value ∧ d.noTarget ≠ none ∧ d.noTarget ≠ some .resolution) := by
  unfold resolveTarget at h
  cases hn : d.noTarget with
  | none => rw [hn] at h; cases h
  | some nt =>
    rw [hn] at h
    cases nt <;> cases h <;> simp

/-! ### the prologue of `set_value` and `remove_value` -/

/-- What `set_value` and `remove_value` do before they differ: refuse a source without a target
    set, split the `@` selectors off the path, resolve the target; then `layered depth rest target`
    or `plain target`. -/
def dispatch (npath : Text) (layered : Nat → Text → Node → EditM Unit) (plain : Node → EditM Unit) :
    EditM Unit := fun d =>
  match d.noTarget with
  | some .empty => (.error .value, d)
  | some .multi => (.error .value, d)
  | _ =>
    match splitScopeNpath npath with
    | .error e => (.error e, d)
    | .ok (some (depth, rest)) =>
      (match resolveTarget d with
      | .error e => (.error e, d)
      | .ok ts => layered depth rest ts d)
    | .ok none =>
      match resolveTarget d with
      | .error e => (.error e, d)
      | .ok ts => plain ts d

/-- The prologue's verdict. It depends on `noTarget` and the path alone. -/
inductive Route where
  | refuse (e : Err)
  | layer (depth : Nat)
  | plain

def route (npath : Text) (d : Doc) : Route :=
  match d.noTarget with
  | some .empty => .refuse .value
  | some .multi => .refuse .value
  | _ =>
    match splitScopeNpath npath with
    | .error e => .refuse e
    | .ok (some (depth, _)) =>
      (match resolveTarget d with
      | .error e => .refuse e
      | .ok _ => .layer depth)
    | .ok none =>
      match resolveTarget d with
      | .error e => .refuse e
      | .ok _ => .plain

theorem dispatch_eq (npath : Text) (layered : Nat → Text → Node → EditM Unit)
    (plain : Node → EditM Unit) (d : Doc) :
    dispatch npath layered plain d =
      match route npath d with
      | .refuse e => (.error e, d)
      | .layer k => layered k (scopeRest npath) d.target d
      | .plain => plain d.target d := by
  unfold dispatch route
  split
  · rfl
  · rfl
  · split
    · rfl
    · rename_i hs
      rw [(splitScopeNpath_some hs).2]
      split
      · rfl
      · rename_i ht; rw [(resolveTarget_ok ht).1]
    · split
      · rfl
      · rename_i ht; rw [(resolveTarget_ok ht).1]

/-- a refusal is a `ValueError`, or the `ResolutionError` recorded in `noTarget` -/
theorem route_refuse {npath : Text} {d : Doc} {e : Err} (h : route npath d = .refuse e) :
    (d.noTarget ≠ none ∨ ∃ e', splitScopeNpath npath = .error e') ∧
      (e = .value ∨ (e = .resolution ∧ d.noTarget = some .resolution)) := by
  have hres : ∀ {r : Route}, (match resolveTarget d with | .error e => Route.refuse e | .ok _ => r) = .refuse e →
      r ≠ .refuse e → d.noTarget ≠ none ∧ (e = .value ∨ (e = .resolution ∧ d.noTarget = some .resolution)) := by
    intro r h hr
    split at h
    · rename_i he
      cases h
      rcases resolveTarget_error he with ⟨rfl, hn⟩ | ⟨rfl, hn, _⟩
      · exact ⟨by rw [hn]; exact Option.some_ne_none _, .inr ⟨rfl, hn⟩⟩
      · exact ⟨hn, .inl rfl⟩
    · exact absurd h hr
  unfold route at h
  split at h
  · rename_i hn; cases h; exact ⟨.inl (by rw [hn]; exact Option.some_ne_none _), .inl rfl⟩
  · rename_i hn; cases h; exact ⟨.inl (by rw [hn]; exact Option.some_ne_none _), .inl rfl⟩
  · split at h
    · rename_i he
      cases h
      exact ⟨.inr ⟨_, he⟩, .inl (splitScopeNpath_error _ _ he)⟩
    · have := hres h (by intro h; cases h); exact ⟨.inl this.1, this.2⟩
    · have := hres h (by intro h; cases h); exact ⟨.inl this.1, this.2⟩

theorem route_layer {npath : Text} {d : Doc} {k : Nat} (h : route npath d = .layer k) :
    0 < k ∧ d.noTarget = none ∧ splitScopeNpath npath = .ok (some (k, scopeRest npath)) := by
  unfold route at h
  split at h
  · cases h
  · cases h
  · split at h
    · cases h
    · rename_i hs
      split at h
      · cases h
      · rename_i ht
        cases h
        obtain ⟨hk, rfl⟩ := splitScopeNpath_some hs
        exact ⟨hk, (resolveTarget_ok ht).2, hs⟩
    · split at h <;> cases h

theorem route_plain {npath : Text} {d : Doc} (h : route npath d = .plain) :
    d.noTarget = none ∧ splitScopeNpath npath = .ok none := by
  unfold route at h
  split at h
  · cases h
  · cases h
  · split at h
    · cases h
    · split at h <;> cases h
    · rename_i hs
      split at h
      · cases h
      · rename_i ht; exact ⟨(resolveTarget_ok ht).2, hs⟩

theorem route_of_plain {npath : Text} {d : Doc} (hn : d.noTarget = none)
    (hs : splitScopeNpath npath = .ok none) : route npath d = .plain := by
  simp only [route, hn, hs, resolveTarget]

theorem route_of_layer {npath rest : Text} {d : Doc} {k : Nat} (hn : d.noTarget = none)
    (hs : splitScopeNpath npath = .ok (some (k, rest))) : route npath d = .layer k := by
  simp only [route, hn, hs, resolveTarget]

/-- a source that is not editable is refused with `ValueError` whatever the path -/
theorem route_of_noTarget {npath : Text} {d : Doc} {nt : NoTarget} (hn : d.noTarget = some nt)
    (hr : nt ≠ .resolution) : route npath d = .refuse .value := by
  unfold route
  rw [hn]
  cases nt with
  | resolution => exact absurd rfl hr
  | empty => rfl
  | multi => rfl
  | _ =>
    dsimp only
    cases hs : splitScopeNpath npath with
    | error e => rw [splitScopeNpath_error _ _ hs]
    | ok o => cases o <;> simp [resolveTarget, hn]

/-- two operations with the same prologue agree where their continuations do -/
theorem dispatch_congr {npath : Text} {l l' : Nat → Text → Node → EditM Unit}
    {p p' : Node → EditM Unit} (d : Doc)
    (hl : ∀ k, route npath d = .layer k →
      l k (scopeRest npath) d.target d = l' k (scopeRest npath) d.target d)
    (hp : route npath d = .plain → p d.target d = p' d.target d) :
    dispatch npath l p d = dispatch npath l' p' d := by
  rw [dispatch_eq, dispatch_eq]
  cases h : route npath d with
  | refuse e => rfl
  | layer k => exact hl k h
  | plain => exact hp h

/-! ### `onLayer` -/

/-- the state in which the attrset-level operation runs on layer `l`: a fresh identity was taken
    for the scratch set, which is `AttributeSet(values=l.scope, attrpath_order=l.order)` -/
def scratchDoc (d : Doc) (l : Layer) : Doc :=
  { d with next := d.next + 1, scratch := some (layerAsSet d.next l) }

/-- what `onLayer` makes of the outcome `(r, d1)` of the operation on the scratch set `scratch` -/
def onLayerFinish (layers : List Layer) (fromDoc : Bool) (idx : Nat) (l : Layer) (scratch : Node)
    (r : Except Err Unit) (d1 : Doc) : Except Err (List Layer) × Doc :=
  let scratch' := d1.scratch.getD scratch
  let d2 := { d1 with scratch := none }
  let layers1 := if fromDoc then collectScopeLayers d2 else layers
  let l1 := (layers1[idx]?).getD l
  match r with
  | .ok () => (.ok (listSet layers1 idx (setLayerFrom l1 scratch')), d2)
  | .error e =>
    if fromDoc then (.error e, d2.setLayerScope idx scratch'.setValues)
    else (.error e, d2)

theorem onLayer_some {layers : List Layer} {idx : Nat} {l : Layer} (h : layers[idx]? = some l)
    (fromDoc : Bool) (op : Node → EditM Unit) (d : Doc) :
    onLayer layers fromDoc idx op d =
      onLayerFinish layers fromDoc idx l (layerAsSet d.next l)
        (op (layerAsSet d.next l) (scratchDoc d l)).1 (op (layerAsSet d.next l) (scratchDoc d l)).2 := by
  unfold onLayer
  rw [h]
  rfl

theorem onLayer_none {layers : List Layer} {idx : Nat} (h : layers[idx]? = none)
    (fromDoc : Bool) (op : Node → EditM Unit) (d : Doc) :
    onLayer layers fromDoc idx op d = (.error (.internal "IndexError"), d) := by
  unfold onLayer
  rw [h]

/-! ### the tail of a scoped `remove_value` -/

/-- the layer a scoped `rm` emptied, if any: its `let … in` wrapper goes -/
def rmRemoved (idx : Nat) (layers' : List Layer) : Option Layer :=
  match layers'[idx]? with
  | some l => if l.scope.isEmpty then some l else none
  | none => none

def rmLayers (idx : Nat) (layers' : List Layer) : List Layer :=
  if (rmRemoved idx layers').isSome then layers'.eraseIdx idx else layers'

def popTrailing (c : Bool) (d1 : Doc) : Doc :=
  if c then { d1 with trailing := (d1.trailing.reverse.dropWhile (fun t => t == 0 || t == 1)).reverse }
  else d1

def restoreBodyAfter (removed : Option Layer) (d2 : Doc) : Doc :=
  match removed with
  | some r => if !r.bodyAfter.isEmpty then
      (if d2.trailing.isEmpty then { d2 with trailing := r.bodyAfter }
       else { d2 with trailing := d2.trailing ++ r.bodyAfter.filter (!d2.trailing.contains ·) })
    else d2
  | none => d2

def keepOriginalTrailing (orig : Payload) (d3 : Doc) : Doc :=
  if d3.trailing.isEmpty && !orig.isEmpty then { d3 with trailing := orig } else d3

/-- The tail of a scoped `remove_value` once `_remove_value_in_attrset` has run on the scratch set:
    drop the emptied layer, write the layers back, repair the trailing trivia. Same text as in the
    model, cut into steps. -/
def rmFinish (d : Doc) (idx : Nat) (layers' : List Layer) (d' : Doc) : Doc :=
  let removed := rmRemoved idx layers'
  let layers'' := rmLayers idx layers'
  let d1 := writeScopeLayers layers'' removed d'
  let d2 := popTrailing (removed.isSome && layers''.isEmpty) d1
  let d3 := restoreBodyAfter removed d2
  let d4 := keepOriginalTrailing d.trailing d3
  let rs := match removed with
    | some r => layers''.isEmpty && !r.bodyBefore.isEmpty
    | none => false
  { d4 with rstripped := rs }

/-- the tail writes the layers back and otherwise touches `trailing` and `rstripped` only -/
theorem rmFinish_eq (d : Doc) (idx : Nat) (ls : List Layer) (d' : Doc) :
    ∃ t rs, rmFinish d idx ls d' =
      { writeScopeLayers (rmLayers idx ls) (rmRemoved idx ls) d' with trailing := t, rstripped := rs } := by
  have pop : ∀ c x, ∃ t, popTrailing c x = { x with trailing := t } := by
    intro c x; unfold popTrailing; split
    · exact ⟨_, rfl⟩
    · exact ⟨x.trailing, rfl⟩
  have restore : ∀ r x, ∃ t, restoreBodyAfter r x = { x with trailing := t } := by
    intro r x; unfold restoreBodyAfter
    repeat' split
    all_goals first | exact ⟨_, rfl⟩ | exact ⟨x.trailing, rfl⟩
  have keep : ∀ o x, ∃ t, keepOriginalTrailing o x = { x with trailing := t } := by
    intro o x; unfold keepOriginalTrailing; split
    · exact ⟨_, rfl⟩
    · exact ⟨x.trailing, rfl⟩
  unfold rmFinish
  dsimp only
  obtain ⟨t1, e1⟩ := pop ((rmRemoved idx ls).isSome && (rmLayers idx ls).isEmpty)
    (writeScopeLayers (rmLayers idx ls) (rmRemoved idx ls) d')
  rw [e1]
  obtain ⟨t2, e2⟩ := restore (rmRemoved idx ls)
    { writeScopeLayers (rmLayers idx ls) (rmRemoved idx ls) d' with trailing := t1 }
  rw [e2]
  obtain ⟨t3, e3⟩ := keep d.trailing
    { writeScopeLayers (rmLayers idx ls) (rmRemoved idx ls) d' with trailing := t2 }
  rw [e3]
  exact ⟨_, _, rfl⟩

section
variable [NameCmp]

/-! ### the last step of `_set_value_in_attrset` -/

/-- the last step of `set`, in the set `par` it has walked to: the binding named `k` is given the value
    (`assignExisting`), or one is appended when there is none (`__setitem__`) -/
def finalSet (ts par : Node) (wl : Bool) (k : Text) (v : Node) : EditM Unit :=
  match findBinding par.setValues k with
  | some b => assignExisting ts par wl b v
  | none => setSetItem par k v

/-! ### the two entry points -/

/-- `set_value` with a scope selector, after the prologue -/
def setScoped (v : Node) (depth : Nat) (scopeNpath : Text) (ts : Node) : EditM Unit := fun d =>
  let layers := collectScopeLayers d
  -- `if not layers and depth == 1:`
  let step1 : Except Err (Option (List Layer × Bool × Doc)) :=
    if layers.isEmpty && depth == 1 then
      match formatNPath currentAnchor scopeNpath with
      | .error e => .error e
      | .ok segs =>
        if pathExistsInAttrset ts segs then .ok none
        else
          let newLayer : Layer := { scope := [], order := [], bodyBefore := d.tBefore,
                                    bodyAfter := d.tAfter, afterLet := none }
          .ok (some ([newLayer], false, { d with tBefore := [], tAfter := [] }))
    else .ok (some (layers, true, d))
  match step1 with
  | .error e => (.error e, d)
  | .ok none => setValueInAttrset ts true scopeNpath v d
  | .ok (some (layers, fromDoc, d)) =>
    if depth > layers.length then (.error .value, d)
    else
      match onLayer layers fromDoc (layers.length - depth)
              (fun s => setValueInAttrset s false scopeNpath v) d with
      | (.ok layers', d') => (.ok (), writeScopeLayers layers' none d')
      | (.error e, d') => (.error e, d')

theorem setValue_one (npath : Text) (v : Node) :
    setValue npath (.one v) = dispatch npath (setScoped v) fun ts => setValueInAttrset ts true npath v :=
  rfl

theorem setValue_bad (npath : Text) (d : Doc) :
    setValue npath .empty d = (.error .value, d) ∧ setValue npath .invalid d = (.error .value, d) :=
  ⟨rfl, rfl⟩

/-- `remove_value` with a scope selector, after the prologue -/
def removeScoped (depth : Nat) (scopeNpath : Text) : EditM Unit := fun d =>
  let layers := collectScopeLayers d
  if depth > layers.length then (.error .value, d)
  else
    match onLayer layers true (layers.length - depth) (fun s => removeValueInAttrset s scopeNpath) d with
    | (.error e, d') => (.error e, d')
    | (.ok layers', d') => (.ok (), rmFinish d (layers.length - depth) layers' d')

theorem removeValue_eq (npath : Text) :
    removeValue npath =
      dispatch npath (fun k rest _ => removeScoped k rest) fun ts => removeValueInAttrset ts npath := by
  -- the model writes `_remove_value_in_attrset` out again for the unscoped path, the state applied
  have model : removeValue npath = dispatch npath (fun k rest _ => removeScoped k rest) fun ts d =>
      match formatNPath currentAnchor npath with
      | .error e => (.error e, d)
      | .ok [] => (.error .value, d)
      | .ok (segs@(seg0 :: segRest)) =>
        if (findAttrpathLeaf ts segs).isSome then removeAttrpathValue ts segs d
        else
          let attrRoot := findAttrpathRoot ts.setValues seg0
          if segRest.isEmpty then
            if attrRoot.isSome then (.error .key, d)
            else if (findBinding ts.setValues seg0).isNone then (.error .key, d)
            else setDelItem ts seg0 d
          else if attrRoot.isSome then removeAttrpathValue ts segs d
          else
            (do
              let parent ← (resolveParentWalk false ts segs.dropLast : EditM Node)
              match segs.getLast? with
              | none => (throw (.internal "IndexError") : EditM Unit)
              | some finalKey => setDelItem parent finalKey) d := rfl
  rw [model]
  funext d
  refine dispatch_congr d (fun _ _ => rfl) fun _ => ?_
  unfold removeValueInAttrset
  cases formatNPath currentAnchor npath with
  | error e => rfl
  | ok segs =>
    cases segs with
    | nil => rfl
    | cons a r =>
      dsimp only
      split
      · rfl
      · split
        · split
          · rfl
          · split <;> rfl
        · split <;> rfl

theorem setValue_unscoped (p : Text) (v : Node) (d : Doc) (h1 : d.noTarget = none)
    (h2 : splitScopeNpath p = .ok none) :
    setValue p (.one v) d = setValueInAttrset d.target true p v d := by
  rw [setValue_one, dispatch_eq, route_of_plain h1 h2]

theorem removeValue_unscoped (p : Text) (d : Doc) (h1 : d.noTarget = none)
    (h2 : splitScopeNpath p = .ok none) :
    removeValue p d = removeValueInAttrset d.target p d := by
  rw [removeValue_eq, dispatch_eq, route_of_plain h1 h2]

end
end Nima
