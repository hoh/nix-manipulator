import NimaVerif.Lemmas.EditPlain
/-!
A small Hoare logic over `EditM` (`Triple`): an invariant that the primitive writes keep (`Prim`) is kept
by every function of the edit model, on success and on failure. Two instances: the frame invariant
(`FInv`: no operation fabricates or alters the name / nested flag / trivia of a binding) and any
projection of the document that identity updates do not touch (`wrappers_prim`). Then the scope-layer
machinery (`onLayer`, `writeScopeLayers`, the tail of scoped `remove_value`) for `FInv`.
-/
namespace Nima
-- name tokens are compared by spelling in this file (see `NameCmp` in Model/Edit.lean)
attribute [local instance] NameCmp.spelled
open Node

/-! ### the logic -/

/-- Hoare triple over `EditM`: the state invariant `I` is kept whether the computation succeeds or
    fails, and a successful result satisfies `Q`. -/
def Triple (I : Doc → Prop) {α : Type} (m : EditM α) (Q : α → Prop) : Prop :=
  ∀ d, I d → I (m d).2 ∧ ∀ a, (m d).1 = .ok a → Q a

namespace Triple
variable {I : Doc → Prop} {α β : Type}

theorem pure (a : α) {Q : α → Prop} (h : Q a) : Triple I (Pure.pure a : EditM α) Q := by
  intro d hd; exact ⟨hd, fun a' h' => by cases h'; exact h⟩

theorem bind {m : EditM α} {f : α → EditM β} {Q : α → Prop} {Q' : β → Prop}
    (hm : Triple I m Q) (hf : ∀ a, Q a → Triple I (f a) Q') : Triple I (m >>= f) Q' := by
  intro d hd
  rw [EditM.bind_apply]
  obtain ⟨h1, h2⟩ := hm d hd
  cases hmd : m d with
  | mk r d' =>
    rw [hmd] at h1 h2
    cases r with
    | ok a => exact hf a (h2 a rfl) d' h1
    | error e => exact ⟨h1, fun a h => by cases h⟩

theorem throw (e : Err) {Q : α → Prop} : Triple I (EditM.throw e : EditM α) Q := by
  intro d hd; exact ⟨hd, fun a h => by cases h⟩

theorem get : Triple I EditM.get (fun _ => True) := by
  intro d hd; exact ⟨hd, fun _ _ => trivial⟩

theorem modify (f : Doc → Doc) (h : ∀ d, I d → I (f d)) : Triple I (EditM.modify f) (fun _ => True) := by
  intro d hd; exact ⟨h d hd, fun _ _ => trivial⟩

theorem weaken {m : EditM α} {Q Q' : α → Prop} (h : Triple I m Q) (hQ : ∀ a, Q a → Q' a) :
    Triple I m Q' := by
  intro d hd; exact ⟨(h d hd).1, fun a ha => hQ a ((h d hd).2 a ha)⟩

theorem ite {c : Prop} [Decidable c] {t e : EditM α} {Q : α → Prop}
    (ht : Triple I t Q) (he : Triple I e Q) : Triple I (if c then t else e) Q := by
  split <;> assumption

theorem triv {m : EditM α} {Q : α → Prop} (h : Triple I m Q) : Triple I m (fun _ => True) :=
  h.weaken (fun _ _ => trivial)

end Triple

/-! ### the primitives -/

/-- what an invariant `I` (with `V` the matching condition on nodes written into the document) has
    to satisfy for every operation of the edit model to keep it -/
structure Prim (I : Doc → Prop) (V : Node → Prop) : Prop where
  assign : ∀ d id v, I d → V v → I (d.updBind id v)
  fresh : ∀ d, I d → I { d with next := d.next + 1 } ∧
    ∀ key ne v, V v → V (.bind d.next key ne v [] [])
  emptySet : ∀ sid m r, V (.set sid [] [] m r)
  entry : ∀ segs nb, V nb → V (.entry segs nb none none)
  updSet : ∀ d sid f, I d → (∀ x, V x → V (f x)) → I (d.updSet sid f)
  appendV : ∀ s vs o m r b, V (.set s vs o m r) → V b → V (.set s (vs ++ [b]) o m r)
  appendO : ∀ s vs o m r b, V (.set s vs o m r) → V b → V (.set s vs (o ++ [b]) m r)
  subset : ∀ s vs o vs' o' m r, V (.set s vs o m r) → (∀ x ∈ vs', x ∈ vs) → (∀ x ∈ o', x ∈ o) →
    V (.set s vs' o' m r)

section ops
variable {I : Doc → Prop} {V : Node → Prop} (pr : Prim I V)
include pr

theorem fresh_triple : Triple I fresh (fun bid => ∀ key ne v, V v → V (.bind bid key ne v [] [])) := by
  intro d hd
  refine ⟨(pr.fresh d hd).1, fun a h => ?_⟩
  simp only [fresh_apply] at h
  cases h
  exact (pr.fresh d hd).2

theorem assign_triple (bid : Nat) (v : Node) (hv : V v) : Triple I (assign bid v) (fun _ => True) :=
  Triple.modify _ (fun d hd => pr.assign d bid v hd hv)

theorem appendValue_triple (sid : Nat) (b : Node) (hb : V b) :
    Triple I (appendValue sid b) (fun _ => True) := by
  refine Triple.modify _ (fun d hd => pr.updSet d sid _ hd ?_)
  intro x hx
  cases x <;> first | exact hx | exact pr.appendV _ _ _ _ _ _ hx hb

theorem appendOrder_triple (sid : Nat) (b : Node) (hb : V b) :
    Triple I (appendOrderIfNonEmpty sid b) (fun _ => True) := by
  refine Triple.modify _ (fun d hd => pr.updSet d sid _ hd ?_)
  intro x hx
  cases x with
  | set s vs o m r =>
    dsimp only
    split
    · exact hx
    · exact pr.appendO _ _ _ _ _ _ hx hb
  | _ => exact hx

theorem removeValueById_triple (sid bid : Nat) : Triple I (removeValueById sid bid) (fun _ => True) := by
  refine Triple.modify _ (fun d hd => pr.updSet d sid _ hd ?_)
  intro x hx
  cases x with
  | set s vs o m r =>
    exact pr.subset _ _ _ _ _ _ _ hx (fun y hy => List.mem_of_mem_eraseP hy) (fun y hy => hy)
  | _ => exact hx

/-! ### the operations -/

theorem setSetItem_triple (s : Node) (key : Text) (v : Node) (hv : V v) :
    Triple I (setSetItem s key v) (fun _ => True) := by
  unfold setSetItem
  split
  · split
    · exact assign_triple pr _ _ hv
    · exact Triple.pure _ trivial
  · refine Triple.bind (fresh_triple pr) (fun bid hb => ?_)
    have hnb := hb key false v hv
    exact Triple.bind (appendValue_triple pr _ _ hnb) (fun _ _ => appendOrder_triple pr _ _ hnb)
  · exact Triple.throw _

theorem setDelItem_triple (s : Node) (key : Text) : Triple I (setDelItem s key) (fun _ => True) := by
  unfold setDelItem
  split
  · split
    · refine Triple.modify _ (fun d hd => pr.updSet d _ _ hd ?_)
      intro x hx
      cases x with
      | set s vs o m r =>
        refine pr.subset _ _ _ _ _ _ _ hx (fun y hy => List.mem_of_mem_eraseP hy) (fun y hy => ?_)
        split at hy
        · exact hy
        · exact List.mem_of_mem_eraseP hy
      | _ => exact hx
    · exact Triple.pure _ trivial
  · exact Triple.throw _


theorem setAttrpathWalk_triple (segs : List Text) : ∀ (current : Node),
    Triple I (setAttrpathWalk current segs) (fun _ => True) := by
  induction segs with
  | nil => intro current; unfold setAttrpathWalk; exact Triple.pure _ trivial
  | cons seg more ih =>
    intro current
    unfold setAttrpathWalk
    split
    · split
      · exact ih _
      · exact Triple.throw _
    · refine Triple.ite (Triple.throw _) ?_
      split
      · exact Triple.throw _
      · refine Triple.bind (fresh_triple pr) (fun sid _ => ?_)
        refine Triple.bind (fresh_triple pr) (fun bid hb => ?_)
        exact Triple.bind (appendValue_triple pr _ _ (hb seg true _ (pr.emptySet _ _ _)))
          (fun _ _ => ih _)

theorem setAttrpathValue_triple (tsSid : Nat) (root : Node) (segs : List Text) (v : Node) (hv : V v) :
    Triple I (setAttrpathValue tsSid root segs v) (fun _ => True) := by
  unfold setAttrpathValue
  split
  · refine Triple.bind (setAttrpathWalk_triple pr _ _) (fun current _ => ?_)
    split
    · exact Triple.throw _
    · refine Triple.ite (Triple.throw _) ?_
      split
      · split
        · exact assign_triple pr _ _ hv
        · exact Triple.pure _ trivial
      · split
        · exact Triple.throw _
        · refine Triple.bind (fresh_triple pr) (fun bid hb => ?_)
          have hnb := hb ‹Text› false v hv
          exact Triple.bind (appendValue_triple pr _ _ hnb)
            (fun _ _ => appendOrder_triple pr _ _ (pr.entry _ _ hnb))
  · exact Triple.throw _

theorem pruneParents_triple (stack : List (Node × Node)) :
    Triple I (pruneParents stack) (fun _ => True) := by
  induction stack with
  | nil => unfold pruneParents; exact Triple.pure _ trivial
  | cons pb rest ih =>
    obtain ⟨parent, b⟩ := pb
    unfold pruneParents
    refine Triple.bind Triple.get (fun d _ => ?_)
    split
    · exact Triple.ite (Triple.bind (removeValueById_triple pr _ _) (fun _ _ => ih)) (Triple.pure _ trivial)
    · exact Triple.pure _ trivial

theorem removeAttrpathValue_triple (ts : Node) (segs : List Text) :
    Triple I (removeAttrpathValue ts segs) (fun _ => True) := by
  unfold removeAttrpathValue
  split
  · exact Triple.throw _
  · exact Triple.throw _
  · split
    · split
      · refine Triple.bind (removeValueById_triple pr _ _) (fun _ _ => ?_)
        refine Triple.bind (Triple.modify _ (fun d hd => pr.updSet d _ _ hd ?_)) (fun _ _ => pruneParents_triple pr _)
        intro x hx
        cases x with
        | set s vs o m r =>
          exact pr.subset _ _ _ _ _ _ _ hx (fun y hy => hy) (fun y hy => List.mem_of_mem_eraseP hy)
        | _ => exact hx
      · exact Triple.throw _
    · exact Triple.throw _

theorem resolveParentWalk_triple (cm : Bool) (segs : List Text) : ∀ (current : Node),
    Triple I (resolveParentWalk cm current segs) (fun _ => True) := by
  induction segs with
  | nil => intro current; unfold resolveParentWalk; exact Triple.pure _ trivial
  | cons key more ih =>
    intro current
    unfold resolveParentWalk
    split
    · exact ih _
    · exact Triple.throw _
    · refine Triple.ite (Triple.throw _) ?_
      split
      · exact Triple.throw _
      · refine Triple.bind (fresh_triple pr) (fun sid _ => ?_)
        exact Triple.bind (setSetItem_triple pr _ _ _ (pr.emptySet _ _ _)) (fun _ _ => ih _)

theorem assignThrough_triple (ts : Node) (wl : Bool) (name : Text) (v : Node) (hv : V v) :
    Triple I (assignThrough ts wl name v) (fun _ => True) := by
  unfold assignThrough
  refine Triple.bind Triple.get (fun d _ => ?_)
  dsimp only
  refine Triple.ite (Triple.pure _ trivial) ?_
  split
  · exact Triple.bind (assign_triple pr _ _ hv) (fun _ _ => Triple.pure _ trivial)
  · exact Triple.pure _ trivial

theorem assignExisting_triple (ts parent : Node) (wl : Bool) (b v : Node) (hv : V v) :
    Triple I (assignExisting ts parent wl b v) (fun _ => True) := by
  unfold assignExisting
  split
  · refine Triple.bind (assignThrough_triple pr _ _ _ _ hv) (fun r _ => ?_)
    refine Triple.ite (Triple.pure _ trivial) (Triple.bind Triple.get (fun d _ => ?_))
    dsimp only
    split
    · split
      · exact assign_triple pr _ _ hv
      · exact Triple.pure _ trivial
    · split
      · split
        · exact assign_triple pr _ _ hv
        · exact Triple.pure _ trivial
      · exact assign_triple pr _ _ hv
  · exact assign_triple pr _ _ hv
  · exact Triple.pure _ trivial

theorem setValueInAttrset_triple (ts : Node) (wl : Bool) (p : Text) (v : Node) (hv : V v) :
    Triple I (setValueInAttrset ts wl p v) (fun _ => True) := by
  unfold setValueInAttrset
  split
  · exact Triple.throw _
  · exact Triple.throw _
  · exact Triple.throw _
  · split
    · split
      · exact assign_triple pr _ _ hv
      · exact Triple.pure _ trivial
    · dsimp only
      refine Triple.ite (Triple.ite (Triple.throw _) ?_) ?_
      · split
        · exact assignExisting_triple pr _ _ _ _ _ hv
        · exact setSetItem_triple pr _ _ _ hv
      · split
        · exact setAttrpathValue_triple pr _ _ _ _ hv
        · refine Triple.bind (resolveParentWalk_triple pr _ _ _) (fun parent _ => ?_)
          split
          · exact Triple.throw _
          · split
            · exact assignExisting_triple pr _ _ _ _ _ hv
            · exact setSetItem_triple pr _ _ _ hv

theorem removeValueInAttrset_triple (ts : Node) (p : Text) :
    Triple I (removeValueInAttrset ts p) (fun _ => True) := by
  unfold removeValueInAttrset
  split
  · exact Triple.throw _
  · exact Triple.throw _
  · dsimp only
    refine Triple.ite (removeAttrpathValue_triple pr _ _) (Triple.ite ?_ ?_)
    · exact Triple.ite (Triple.throw _) (Triple.ite (Triple.throw _) (setDelItem_triple pr _ _))
    · refine Triple.ite (removeAttrpathValue_triple pr _ _) ?_
      refine Triple.bind (resolveParentWalk_triple pr _ _ _) (fun parent _ => ?_)
      split
      · exact Triple.throw _
      · exact setDelItem_triple pr _ _

end ops

/-! ### frames: `AllF P` is kept by the identity updates, so `FInv` is an invariant -/

theorem mem_allFramesL {x : Frame} : ∀ {l : List Node}, x ∈ allFramesL l ↔ ∃ n ∈ l, x ∈ allFrames n
  | [] => by simp [allFramesL]
  | y :: ys => by simp [allFramesL, mem_allFramesL (l := ys)]

theorem AllF_set {P : Frame → Prop} {s : Nat} {vs o : List Node} {m r : Bool} :
    AllF P (.set s vs o m r) ↔ (∀ n ∈ vs, AllF P n) ∧ (∀ n ∈ o, AllF P n) := by
  simp only [AllF, allFrames, List.mem_append, mem_allFramesL]
  constructor
  · intro h
    exact ⟨fun n hn x hx => h x (Or.inl ⟨n, hn, hx⟩), fun n hn x hx => h x (Or.inr ⟨n, hn, hx⟩)⟩
  · rintro ⟨h1, h2⟩ x (⟨n, hn, hx⟩ | ⟨n, hn, hx⟩)
    · exact h1 n hn x hx
    · exact h2 n hn x hx

theorem AllF_bind {P : Frame → Prop} {i : Nat} {n : Text} {ne : Bool} {v : Node} {b a : Payload} :
    AllF P (.bind i n ne v b a) ↔ P (i, n, ne, b, a) ∧ AllF P v :=
  List.forall_mem_cons

theorem AllF_entry {P : Frame → Prop} {sg : List Text} {l : Node} {b a : Option Payload} :
    AllF P (.entry sg l b a) ↔ AllF P l :=
  Iff.rfl

theorem AllF_leaf {P : Frame → Prop} : (∀ t, AllF P (.atom t)) ∧ (∀ t, AllF P (.ident t)) ∧
    (∀ i ns, AllF P (.inherit i ns)) := by
  simp [AllF, allFrames]

/-- all nodes of a list of nodes have frames satisfying `P` -/
def AllFL (P : Frame → Prop) (l : List Node) : Prop := ∀ n ∈ l, AllF P n
def Layer.OK (P : Frame → Prop) (l : Layer) : Prop := AllFL P l.scope ∧ AllFL P l.order

mutual
theorem AllF_updBind {P : Frame → Prop} (id : Nat) (v : Node) (hv : AllF P v) :
    ∀ n : Node, AllF P n → AllF P (updBind id v n)
  | .atom _, h => by simpa [updBind] using h
  | .ident _, h => by simpa [updBind] using h
  | .set s vs o m r, h => by
      rw [AllF_set] at h
      simp only [updBind, AllF_set]
      exact ⟨AllFL_updBind id v hv vs h.1, AllFL_updBind id v hv o h.2⟩
  | .bind i n ne val b a, h => by
      rw [AllF_bind] at h
      by_cases hi : i = id
      · simp only [updBind, hi, if_true, AllF_bind]; exact ⟨hi ▸ h.1, hv⟩
      · simp only [updBind, hi, if_false, AllF_bind]; exact ⟨h.1, AllF_updBind id v hv val h.2⟩
  | .inherit _ _, h => by simpa [updBind] using h
  | .entry segs leaf b a, h => by
      rw [AllF_entry] at h
      simp only [updBind, AllF_entry]
      exact AllF_updBind id v hv leaf h
theorem AllFL_updBind {P : Frame → Prop} (id : Nat) (v : Node) (hv : AllF P v) :
    ∀ l : List Node, AllFL P l → AllFL P (updBindL id v l)
  | [], _ => by simp [AllFL]
  | x :: xs, h => by
      intro n hn
      simp only [updBindL, List.mem_cons] at hn
      rcases hn with rfl | hn
      · exact AllF_updBind id v hv x (h x (by simp))
      · exact AllFL_updBind id v hv xs (fun y hy => h y (by simp [hy])) n hn
end

mutual
theorem AllF_updSet {P : Frame → Prop} (sid : Nat) (f : Node → Node)
    (hf : ∀ x, AllF P x → AllF P (f x)) : ∀ n : Node, AllF P n → AllF P (updSet sid f n)
  | .atom _, h => by simpa [updSet] using h
  | .ident _, h => by simpa [updSet] using h
  | .set s vs o m r, h => by
      by_cases hs : s = sid
      · simp only [updSet, hs, if_true]; exact hf _ (hs ▸ h)
      · rw [AllF_set] at h
        simp only [updSet, hs, if_false, AllF_set]
        exact ⟨AllFL_updSet sid f hf vs h.1, AllFL_updSet sid f hf o h.2⟩
  | .bind i n ne val b a, h => by
      rw [AllF_bind] at h
      simp only [updSet, AllF_bind]; exact ⟨h.1, AllF_updSet sid f hf val h.2⟩
  | .inherit _ _, h => by simpa [updSet] using h
  | .entry segs leaf b a, h => by
      rw [AllF_entry] at h
      simp only [updSet, AllF_entry]
      exact AllF_updSet sid f hf leaf h
theorem AllFL_updSet {P : Frame → Prop} (sid : Nat) (f : Node → Node)
    (hf : ∀ x, AllF P x → AllF P (f x)) :
    ∀ l : List Node, (∀ n ∈ l, AllF P n) → ∀ n ∈ updSetL sid f l, AllF P n
  | [], _ => by simp
  | x :: xs, h => by
      intro n hn
      simp only [updSetL, List.mem_cons] at hn
      rcases hn with rfl | hn
      · exact AllF_updSet sid f hf x (h x (by simp))
      · exact AllFL_updSet sid f hf xs (fun y hy => h y (by simp [hy])) n hn
end

theorem Layer.nodes_mapNodes (g : Node → Node) (l : Layer) : (l.mapNodes g).nodes = l.nodes.map g := by
  simp [Layer.mapNodes, Layer.nodes]

theorem Doc.nodes_mapNodes (g : Node → Node) (d : Doc) : (d.mapNodes g).nodes = d.nodes.map g := by
  simp only [Doc.mapNodes, Doc.nodes, List.map_cons, List.map_append, List.flatMap_map, List.map_flatMap,
    Layer.nodes_mapNodes]
  cases d.topScope <;> cases d.scratch <;> simp

/-- the frame invariant: identities are allocated from `N` upwards and every binding of the document
    has a frame satisfying `P` -/
def FInv (P : Frame → Prop) (N : Nat) (d : Doc) : Prop := N ≤ d.next ∧ ∀ n ∈ d.nodes, AllF P n

theorem FInv_mapNodes {P : Frame → Prop} {N : Nat} (g : Node → Node) (hg : ∀ x, AllF P x → AllF P (g x))
    (d : Doc) (h : FInv P N d) : FInv P N (d.mapNodes g) := by
  refine ⟨h.1, fun n hn => ?_⟩
  rw [Doc.nodes_mapNodes, List.mem_map] at hn
  obtain ⟨m, hm, rfl⟩ := hn
  exact hg m (h.2 m hm)


theorem FInv.prim (P : Frame → Prop) (N : Nat)
    (hP : ∀ i key ne, N ≤ i → P (i, key, ne, [], [])) : Prim (FInv P N) (AllF P) where
  assign d id v h hv := by
    rw [Doc.updBind_eq_mapNodes]
    exact FInv_mapNodes _ (AllF_updBind id v hv) d h
  fresh d h := by
    refine ⟨⟨Nat.le_succ_of_le h.1, h.2⟩, fun key ne v hv => ?_⟩
    rw [AllF_bind]
    exact ⟨hP _ _ _ h.1, hv⟩
  emptySet sid m r := by simp [AllF, allFrames, allFramesL]
  entry segs nb h := AllF_entry.2 h
  updSet d sid f h hf := by
    rw [Doc.updSet_eq_mapNodes]
    exact FInv_mapNodes _ (AllF_updSet sid f hf) d h
  appendV s vs o m r b h hb := by
    rw [AllF_set] at h ⊢
    refine ⟨fun n hn => ?_, h.2⟩
    rcases List.mem_append.1 hn with hn | hn
    · exact h.1 n hn
    · simp only [List.mem_singleton] at hn; exact hn ▸ hb
  appendO s vs o m r b h hb := by
    rw [AllF_set] at h ⊢
    refine ⟨h.1, fun n hn => ?_⟩
    rcases List.mem_append.1 hn with hn | hn
    · exact h.2 n hn
    · simp only [List.mem_singleton] at hn; exact hn ▸ hb
  subset s vs o vs' o' m r h h1 h2 := by
    rw [AllF_set] at h ⊢
    exact ⟨fun n hn => h.1 n (h1 n hn), fun n hn => h.2 n (h2 n hn)⟩

/-- The generic rule: any projection of the document that the identity updates and the allocation of
    an identity do not touch is kept by every operation. -/
theorem wrappers_prim {W : Type} (w : W) (proj : Doc → W)
    (h1 : ∀ d id v, proj (d.updBind id v) = proj d)
    (h2 : ∀ d sid f, proj (d.updSet sid f) = proj d)
    (h3 : ∀ d : Doc, proj { d with next := d.next + 1 } = proj d) :
    Prim (fun d => proj d = w) (fun _ => True) where
  assign d id v h _ := by rw [h1]; exact h
  fresh d h := ⟨by rw [h3]; exact h, fun _ _ _ _ => trivial⟩
  emptySet _ _ _ := trivial
  entry _ _ _ := trivial
  updSet d sid f h _ := by rw [h2]; exact h
  appendV _ _ _ _ _ _ _ _ := trivial
  appendO _ _ _ _ _ _ _ _ := trivial
  subset _ _ _ _ _ _ _ _ _ _ := trivial


/-! ### scope layers -/

theorem FInv_iff {P : Frame → Prop} {N : Nat} {d : Doc} :
    FInv P N d ↔ N ≤ d.next ∧ AllF P d.target ∧ AllFL P d.scope ∧ AllFL P d.stOrder ∧
      (∀ l ∈ d.stack, l.OK P) ∧ (∀ s, d.topScope = some s → AllFL P s) ∧
      (∀ s, d.scratch = some s → AllF P s) := by
  unfold FInv Layer.OK AllFL
  rw [Doc.forall_mem_nodes]

section layers
variable {P : Frame → Prop} {N : Nat}

theorem collectScopeLayers_ok {d : Doc} (h : FInv P N d) : ∀ l ∈ collectScopeLayers d, l.OK P := by
  obtain ⟨_, _, h2, h3, h4, _, _⟩ := FInv_iff.1 h
  intro l hl
  simp only [collectScopeLayers, List.mem_append, List.mem_filter] at hl
  rcases hl with hl | hl
  · split at hl
    · cases hl
    · simp only [List.mem_singleton] at hl; subst hl; exact ⟨h2, h3⟩
  · exact h4 l hl.1

theorem writeScopeLayers_inv {d : Doc} (h : FInv P N d) (ls : List Layer) (hl : ∀ l ∈ ls, l.OK P)
    (r : Option Layer) : FInv P N (writeScopeLayers ls r d) := by
  obtain ⟨h0, h1, h2, h3, h4, h5, h6⟩ := FInv_iff.1 h
  unfold writeScopeLayers
  cases ls with
  | nil =>
    cases r <;>
    · refine FInv_iff.2 ⟨h0, h1, ?_, ?_, ?_, h5, h6⟩ <;> simp [AllFL]
  | cons outer rest =>
    refine FInv_iff.2 ⟨h0, h1, (hl outer (by simp)).1, (hl outer (by simp)).2, ?_, h5, h6⟩
    intro l hl'
    exact hl l (List.mem_cons_of_mem _ (List.mem_filter.1 hl').1)

theorem setNthNonEmpty_ok (sc : List Node) (hsc : AllFL P sc) :
    ∀ (k : Nat) (ls : List Layer), (∀ l ∈ ls, l.OK P) → ∀ l ∈ setNthNonEmpty sc k ls, l.OK P := by
  intro k ls
  induction ls generalizing k with
  | nil => intro _ l hl; simp [setNthNonEmpty] at hl
  | cons x xs ih =>
    intro h l hl
    unfold setNthNonEmpty at hl
    split at hl
    · rcases List.mem_cons.1 hl with rfl | hl
      · exact h _ (by simp)
      · exact ih k (fun y hy => h y (by simp [hy])) l hl
    · cases k with
      | zero =>
        rcases List.mem_cons.1 hl with rfl | hl
        · exact ⟨hsc, (h x (by simp)).2⟩
        · exact h l (by simp [hl])
      | succ k =>
        rcases List.mem_cons.1 hl with rfl | hl
        · exact h _ (by simp)
        · exact ih k (fun y hy => h y (by simp [hy])) l hl

theorem setLayerScope_inv {d : Doc} (h : FInv P N d) (idx : Nat) (sc : List Node) (hsc : AllFL P sc) :
    FInv P N (d.setLayerScope idx sc) := by
  obtain ⟨h0, h1, h2, h3, h4, h5, h6⟩ := FInv_iff.1 h
  unfold Doc.setLayerScope
  split
  · exact FInv_iff.2 ⟨h0, h1, h2, h3, setNthNonEmpty_ok sc hsc _ _ h4, h5, h6⟩
  · cases idx with
    | zero => exact FInv_iff.2 ⟨h0, h1, hsc, h3, h4, h5, h6⟩
    | succ k => exact FInv_iff.2 ⟨h0, h1, h2, h3, setNthNonEmpty_ok sc hsc _ _ h4, h5, h6⟩

theorem AllFL_setValues {n : Node} (h : AllF P n) : AllFL P n.setValues ∧ AllFL P n.setOrder := by
  cases n <;> simp [setValues, setOrder, AllFL]
  exact AllF_set.1 h

theorem onLayer_inv (layers : List Layer) (fromDoc : Bool) (idx : Nat) (op : Node → EditM Unit)
    (hop : ∀ s, Triple (FInv P N) (op s) (fun _ => True))
    (hl : ∀ l ∈ layers, l.OK P) (d : Doc) (h : FInv P N d) :
    FInv P N (onLayer layers fromDoc idx op d).2 ∧
      ∀ ls, (onLayer layers fromDoc idx op d).1 = .ok ls → ∀ l ∈ ls, l.OK P := by
  cases hli : layers[idx]? with
  | none => rw [onLayer_none hli]; exact ⟨h, fun ls hls => by cases hls⟩
  | some l =>
    rw [onLayer_some hli]
    have hlok : l.OK P := hl l (List.mem_of_getElem? hli)
    obtain ⟨h0, h1, h2, h3, h4, h5, h6⟩ := FInv_iff.1 h
    have hsc : AllF P (layerAsSet d.next l) := AllF_set.2 hlok
    have hd0 : FInv P N (scratchDoc d l) :=
      FInv_iff.2 ⟨Nat.le_succ_of_le h0, h1, h2, h3, h4, h5, fun s hs => by
        simp only [scratchDoc, Option.some.injEq] at hs; exact hs ▸ hsc⟩
    have hd1 := (hop (layerAsSet d.next l) _ hd0).1
    generalize op (layerAsSet d.next l) (scratchDoc d l) = res at hd1
    obtain ⟨r, d1⟩ := res
    unfold onLayerFinish
    simp only at hd1 ⊢
    obtain ⟨g0, g1, g2, g3, g4, g5, g6⟩ := FInv_iff.1 hd1
    have hd2 : FInv P N { d1 with scratch := none } :=
      FInv_iff.2 ⟨g0, g1, g2, g3, g4, g5, fun s hs => by cases hs⟩
    have hscr' : AllF P (d1.scratch.getD (layerAsSet d.next l)) := by
      cases hs : d1.scratch with
      | none => exact hsc
      | some s => exact g6 s hs
    have hl1 : ∀ l' ∈ (if fromDoc then collectScopeLayers { d1 with scratch := none } else layers), l'.OK P := by
      split
      · exact collectScopeLayers_ok hd2
      · exact hl
    cases r with
    | ok u =>
      cases u
      dsimp only
      refine ⟨hd2, fun ls hls => ?_⟩
      simp only [Except.ok.injEq] at hls
      subst hls
      intro l' hl'
      rcases List.mem_or_eq_of_mem_set hl' with hl' | rfl
      · exact hl1 l' hl'
      · exact AllFL_setValues hscr'
    | error e =>
      dsimp only
      split
      · exact ⟨setLayerScope_inv hd2 _ _ (AllFL_setValues hscr').1, fun ls hls => by cases hls⟩
      · exact ⟨hd2, fun ls hls => by cases hls⟩

end layers

/-! ### the entry points -/

/-- without a scope selector the prologue ends in the plain continuation or refuses -/
theorem Triple.dispatch_unscoped {I : Doc → Prop} {p : Text} {l : Nat → Text → Node → EditM Unit}
    {pl : Node → EditM Unit} (hsp : splitScopeNpath p = .ok none)
    (hpl : ∀ ts, Triple I (pl ts) fun _ => True) : Triple I (dispatch p l pl) fun _ => True := by
  intro d hd
  rw [dispatch_eq]
  split
  · exact ⟨hd, fun _ _ => trivial⟩
  · rename_i k hr; rw [(route_layer hr).2.2] at hsp; cases hsp
  · exact hpl _ d hd

theorem setValue_unscoped_triple {I : Doc → Prop} {V : Node → Prop} (pr : Prim I V) (p : Text) (v : Node)
    (hv : V v) (hsp : splitScopeNpath p = .ok none) :
    Triple I (setValue p (.one v)) (fun _ => True) := by
  rw [setValue_one]
  exact Triple.dispatch_unscoped hsp fun ts => setValueInAttrset_triple pr ts true p v hv

theorem removeValue_unscoped_triple {I : Doc → Prop} {V : Node → Prop} (pr : Prim I V) (p : Text)
    (hsp : splitScopeNpath p = .ok none) :
    Triple I (removeValue p) (fun _ => True) := by
  rw [removeValue_eq]
  exact Triple.dispatch_unscoped hsp fun ts => removeValueInAttrset_triple pr ts p

/-- two documents hold the same nodes and allocate from the same identity -/
def SameNodes (a b : Doc) : Prop :=
  a.target = b.target ∧ a.scope = b.scope ∧ a.stOrder = b.stOrder ∧ a.stack = b.stack ∧
  a.topScope = b.topScope ∧ a.scratch = b.scratch ∧ a.next = b.next

theorem SameNodes.refl (a : Doc) : SameNodes a a := ⟨rfl, rfl, rfl, rfl, rfl, rfl, rfl⟩

theorem FInv_of_same {P : Frame → Prop} {N : Nat} {a b : Doc} (h : SameNodes a b) (hb : FInv P N b) :
    FInv P N a := by
  obtain ⟨a1, a2, a3, a4, a5, a6, a7⟩ := h
  rw [FInv_iff] at hb ⊢
  rw [a1, a2, a3, a4, a5, a6, a7]; exact hb

section general
variable {P : Frame → Prop} {N : Nat} (hP : ∀ i key ne, N ≤ i → P (i, key, ne, [], []))
include hP

theorem setScoped_inv (v : Node) (hv : AllF P v) (depth : Nat) (sp : Text) (d : Doc) (h : FInv P N d) :
    FInv P N (setScoped v depth sp d.target d).2 := by
  have pr := FInv.prim P N hP
  unfold setScoped
  dsimp only
  generalize hst : (if ((collectScopeLayers d).isEmpty && depth == 1) = true then _ else _ :
    Except Err (Option (List Layer × Bool × Doc))) = step1
  have hst' : ∀ ls fd d0, step1 = .ok (some (ls, fd, d0)) → FInv P N d0 ∧ ∀ l ∈ ls, l.OK P := by
    subst hst
    intro ls fd d0 heq
    split at heq
    · split at heq
      · cases heq
      · split at heq
        · cases heq
        · simp only [Except.ok.injEq, Option.some.injEq, Prod.mk.injEq] at heq
          obtain ⟨rfl, _, rfl⟩ := heq
          obtain ⟨h0, h1, h2, h3, h4, h5, h6⟩ := FInv_iff.1 h
          refine ⟨FInv_iff.2 ⟨h0, h1, h2, h3, h4, h5, h6⟩, ?_⟩
          intro l hl
          simp only [List.mem_singleton] at hl
          subst hl
          exact ⟨by simp [AllFL], by simp [AllFL]⟩
    · simp only [Except.ok.injEq, Option.some.injEq, Prod.mk.injEq] at heq
      obtain ⟨rfl, _, rfl⟩ := heq
      exact ⟨h, collectScopeLayers_ok h⟩
  cases step1 with
  | error e => exact h
  | ok o =>
    cases o with
    | none => exact (setValueInAttrset_triple pr _ _ _ _ hv d h).1
    | some t =>
      obtain ⟨ls, fd, d0⟩ := t
      obtain ⟨hd0, hls⟩ := hst' ls fd d0 rfl
      dsimp only
      split
      · exact hd0
      · have hon := onLayer_inv ls fd (ls.length - depth) (fun s => setValueInAttrset s false sp v)
          (fun s => setValueInAttrset_triple pr s false sp v hv) hls d0 hd0
        generalize onLayer ls fd (ls.length - depth) (fun s => setValueInAttrset s false sp v) d0 = res at hon
        obtain ⟨r, d'⟩ := res
        cases r with
        | ok ls' => exact writeScopeLayers_inv hon.1 ls' (hon.2 ls' rfl) none
        | error e => exact hon.1

theorem setValue_inv (p : Text) (v : Node) (hv : AllF P v) (d : Doc) (h : FInv P N d) :
    FInv P N (setValue p (.one v) d).2 := by
  rw [setValue_one, dispatch_eq]
  split
  · exact h
  · exact setScoped_inv hP v hv _ _ d h
  · exact (setValueInAttrset_triple (FInv.prim P N hP) _ _ _ _ hv d h).1

theorem removeScoped_inv (depth : Nat) (sp : Text) (d : Doc) (h : FInv P N d) :
    FInv P N (removeScoped depth sp d).2 := by
  have pr := FInv.prim P N hP
  unfold removeScoped
  dsimp only
  split
  · exact h
  · have hon := onLayer_inv (collectScopeLayers d) true ((collectScopeLayers d).length - depth)
      (fun s => removeValueInAttrset s sp) (fun s => removeValueInAttrset_triple pr s sp)
      (collectScopeLayers_ok h) d h
    generalize onLayer (collectScopeLayers d) true ((collectScopeLayers d).length - depth)
      (fun s => removeValueInAttrset s sp) d = res at hon
    obtain ⟨r, d'⟩ := res
    cases r with
    | error e => exact hon.1
    | ok ls' =>
      obtain ⟨t, rs, e⟩ := rmFinish_eq d ((collectScopeLayers d).length - depth) ls' d'
      dsimp only
      rw [e]
      refine FInv_of_same ⟨rfl, rfl, rfl, rfl, rfl, rfl, rfl⟩
        (writeScopeLayers_inv hon.1 _ (fun l hl => hon.2 ls' rfl l ?_) _)
      unfold rmLayers at hl
      split at hl
      · exact List.mem_of_mem_eraseIdx hl
      · exact hl

theorem removeValue_inv (p : Text) (d : Doc) (h : FInv P N d) : FInv P N (removeValue p d).2 := by
  rw [removeValue_eq, dispatch_eq]
  split
  · exact h
  · exact removeScoped_inv hP _ _ d h
  · exact (removeValueInAttrset_triple (FInv.prim P N hP) _ _ d h).1

end general
end Nima
