import NimaVerif.Lemmas.Escape
/-!
The NPath tokenizer (`npRun`, `npFinalize`).  Run on the rendering of a list of names it ends in
`endState`, whose finalisation gives the names back as segments (`npRun_path`, `endState_finalize`);
and without the anchor flag every unquoted segment it yields is an identifier (`SegsOK`, `npRun_ok`).
-/
namespace Nima

theorem npRun_append (a : Bool) (st : NPState) (x y : Text) :
    npRun a st (x ++ y) = (npRun a st x).bind (fun st' => npRun a st' y) := by
  induction x generalizing st with
  | nil => rfl
  | cons c cs ih =>
    simp only [List.cons_append, npRun]
    cases h : npStep a st c with
    | error e => rfl
    | ok st' => simp [ih]

/-- Outside quotes, characters other than `.` and `"` are appended to the buffer. -/
theorem npRun_bare (a : Bool) (st : NPState) (w : Text) (hq : st.inQuotes = false)
    (hs : st.quotedSeg = false) (hw : ∀ c ∈ w, c ≠ '.' ∧ c ≠ '"') :
    npRun a st w = .ok { st with buf := st.buf ++ w } := by
  induction w generalizing st with
  | nil => simp [npRun]
  | cons c cs ih =>
    have hc := hw c (by simp)
    have hstep : npStep a st c = .ok { st with buf := st.buf ++ [c] } := by
      simp [npStep, hq, hs, hc.1, hc.2]
    simp only [npRun, hstep]
    rw [ih { st with buf := st.buf ++ [c] } hq hs (fun d hd => hw d (by simp [hd]))]
    simp [List.append_assoc]

/-- Inside quotes, the canonical escaping of `n` appends exactly `n`. -/
theorem npRun_inQuotes (a : Bool) (st : NPState) (n : Text) (hq : st.inQuotes = true)
    (he : st.escape = false) :
    npRun a st (escQuoteBackslash n) = .ok { st with buf := st.buf ++ n } := by
  induction n generalizing st with
  | nil => simp [npRun, escQuoteBackslash]
  | cons c cs ih =>
    by_cases hc : c = '"' ∨ c = '\\'
    · simp only [escQuoteBackslash, hc, if_true, npRun]
      have s1 : npStep a st '\\' = .ok { st with escape := true } := by
        simp [npStep, hq, he]
      have s2 : npStep a { st with escape := true } c =
          .ok { st with buf := st.buf ++ [c] } := by
        rcases hc with h | h <;> subst h <;> simp [npStep, hq, he]
      simp only [s1, s2]
      rw [ih { st with buf := st.buf ++ [c] } hq he]
      simp [List.append_assoc]
    · have hc1 : c ≠ '"' := fun h => hc (Or.inl h)
      have hc2 : c ≠ '\\' := fun h => hc (Or.inr h)
      simp only [escQuoteBackslash, hc, if_false, npRun]
      have s1 : npStep a st c = .ok { st with buf := st.buf ++ [c] } := by
        simp [npStep, hq, he, hc1, hc2]
      simp only [s1]
      rw [ih { st with buf := st.buf ++ [c] } hq he]
      simp [List.append_assoc]

theorem identStart_ne (c : Char) (h : identStart c = true) : c ≠ '.' ∧ c ≠ '"' := by
  constructor <;> (intro hc; subst hc; revert h; decide)

theorem identRest_ne (c : Char) (h : identRest c = true) : c ≠ '.' ∧ c ≠ '"' := by
  constructor <;> (intro hc; subst hc; revert h; decide)

theorem isIdent_chars (n : Text) (h : isIdent n = true) : ∀ c ∈ n, c ≠ '.' ∧ c ≠ '"' := by
  match n with
  | [] => simp [isIdent] at h
  | d :: ds =>
    simp only [isIdent, Bool.and_eq_true, List.all_eq_true] at h
    intro c hc
    rcases List.mem_cons.mp hc with rfl | hm
    · exact identStart_ne _ h.1
    · exact identRest_ne _ (h.2 c hm)

theorem isIdent_ne_nil (n : Text) (h : isIdent n = true) : n ≠ [] := by
  intro hn; subst hn; simp [isIdent] at h

/-- What one rendered segment does to a tokenizer state that is at a segment boundary. -/
theorem npRun_renderSeg (a : Bool) (st : NPState) (n : Text) (hq : st.inQuotes = false)
    (he : st.escape = false) (hb : st.buf = []) (hs : st.quotedSeg = false) :
    npRun a st (renderSeg n) =
      .ok { st with buf := n, quotedSeg := (st.quotedSeg || !isIdent n) } := by
  by_cases hi : isIdent n = true
  · simp only [renderSeg, hi, if_true]
    rw [npRun_bare a st n hq hs (isIdent_chars n hi)]
    simp [hb]
  · have hi' : isIdent n = false := by simpa using hi
    simp only [renderSeg, hi', Bool.false_eq_true, if_false, List.cons_append]
    simp only [npRun]
    have s1 : npStep a st '"' = .ok { st with inQuotes := true } := by
      simp [npStep, hq, hb, hs]
    simp only [s1]
    rw [npRun_append, npRun_inQuotes a { st with inQuotes := true } n rfl he]
    simp [Except.bind, npRun, npStep, he, hb, hq]

/-- the segment a name is tokenized to: quoted unless it is an identifier -/
def segOf (n : Text) : Seg := ⟨n, !isIdent n⟩

theorem npFinalize_segOf (a : Bool) (acc : List Seg) (n : Text) :
    npFinalize a { segs := acc, buf := n, inQuotes := false, quotedSeg := !isIdent n, escape := false } =
      .ok { segs := acc ++ [segOf n], buf := [], inQuotes := false, quotedSeg := false, escape := false } := by
  by_cases hi : isIdent n = true
  · have hne : n ≠ [] := isIdent_ne_nil n hi
    have : n.isEmpty = false := by cases n <;> simp_all
    simp [npFinalize, hi, this, reMatchIdent, segOf]
  · have hi' : isIdent n = false := by simpa using hi
    simp [npFinalize, hi', segOf]

/-- tokenizer state after consuming the rendering of `n :: ns` from a boundary state -/
def endState (acc : List Seg) : Text → List Text → NPState
  | n, [] => { segs := acc, buf := n, inQuotes := false, quotedSeg := !isIdent n, escape := false }
  | n, m :: ms => endState (acc ++ [segOf n]) m ms

theorem npRun_path (a : Bool) (acc : List Seg) (n : Text) (ns : List Text) :
    npRun a { segs := acc, buf := [], inQuotes := false, quotedSeg := false, escape := false }
        (joinWith ['.'] ((n :: ns).map renderSeg)) = .ok (endState acc n ns) := by
  induction ns generalizing acc n with
  | nil =>
    simp only [List.map, joinWith, endState]
    rw [npRun_renderSeg a _ n rfl rfl rfl rfl]
    simp
  | cons m ms ih =>
    simp only [List.map, joinWith, endState]
    rw [npRun_append, npRun_append, npRun_renderSeg a _ n rfl rfl rfl rfl]
    simp only [Except.bind, Bool.false_or, npRun]
    have hdot : npStep a { segs := acc, buf := n, inQuotes := false, quotedSeg := !isIdent n, escape := false } '.' =
        .ok { segs := acc ++ [segOf n], buf := [], inQuotes := false, quotedSeg := false, escape := false } := by
      simp only [npStep]
      simpa using npFinalize_segOf a acc n
    simp only [hdot]
    have := ih (acc ++ [segOf n]) m
    simp only [List.map] at this
    exact this

theorem endState_finalize (a : Bool) (acc : List Seg) (n : Text) (ns : List Text) :
    (endState acc n ns).escape = false ∧ (endState acc n ns).inQuotes = false ∧
    ∃ st', npFinalize a (endState acc n ns) = .ok st' ∧ st'.segs = acc ++ (n :: ns).map segOf := by
  induction ns generalizing acc n with
  | nil =>
    refine ⟨rfl, rfl, _, npFinalize_segOf a acc n, by simp⟩
  | cons m ms ih =>
    simp only [endState]
    obtain ⟨h1, h2, st', h3, h4⟩ := ih (acc ++ [segOf n]) m
    exact ⟨h1, h2, st', h3, by simp [h4, List.append_assoc]⟩

theorem joinWith_renderSeg_ne_nil (n : Text) (ns : List Text) :
    (joinWith ['.'] ((n :: ns).map renderSeg)).isEmpty = false := by
  have h : ∀ x, (renderSeg x).isEmpty = false := by
    intro x
    by_cases hi : isIdent x = true
    · have := isIdent_ne_nil x hi
      simp only [renderSeg, hi, if_true]
      cases x <;> simp_all
    · have hi' : isIdent x = false := by simpa using hi
      simp [renderSeg, hi']
  cases ns with
  | nil => simpa [joinWith] using h n
  | cons m ms =>
    simp only [List.map, joinWith]
    have := h n
    cases hr : renderSeg n <;> simp_all

def SegsOK (segs : List Seg) : Prop := ∀ s ∈ segs, s.quoted = false → isIdent s.name = true

theorem reMatchIdent_false (s : Text) : reMatchIdent false s = isIdent s := by
  simp [reMatchIdent]

theorem npFinalize_ok (st st' : NPState) (h : npFinalize false st = .ok st') (hs : SegsOK st.segs) :
    SegsOK st'.segs := by
  unfold npFinalize at h
  split at h
  · cases h
  · split at h
    · cases h
    · rename_i h1 h2
      injection h with h
      subst h
      intro s hs'
      simp only [List.mem_append, List.mem_singleton] at hs'
      rcases hs' with hm | rfl
      · exact hs s hm
      · intro hq
        simp only at hq
        simp only [hq, Bool.not_false, Bool.true_and, Bool.and_eq_true, Bool.not_eq_eq_eq_not,
          Bool.not_true, not_and, Bool.not_eq_false, reMatchIdent_false] at h1 h2
        by_cases he : st.buf.isEmpty = true
        · exact absurd he (by simpa using h1)
        · have : st.buf.isEmpty = false := by simpa using he
          simpa [this] using h2

/-- A step either closes a segment or leaves the closed segments as they are. -/
theorem npStep_segs (a : Bool) (st st' : NPState) (c : Char) (h : npStep a st c = .ok st') :
    npFinalize a st = .ok st' ∨ st'.segs = st.segs := by
  unfold npStep at h
  by_cases hq : st.inQuotes = true
  · -- inside quotes only `buf` and the flags change
    rw [if_pos hq] at h
    right
    split at h
    · cases h; rfl
    · split at h
      · cases h; rfl
      · split at h <;> (cases h; rfl)
  · rw [if_neg hq] at h
    by_cases hd : c = '.'
    · rw [if_pos hd] at h; exact .inl h
    · rw [if_neg hd] at h
      right
      split at h
      · cases h
      · split at h
        · split at h
          · cases h
          · cases h; rfl
        · cases h; rfl

theorem npStep_ok (st st' : NPState) (c : Char) (h : npStep false st c = .ok st')
    (hs : SegsOK st.segs) : SegsOK st'.segs := by
  rcases npStep_segs false st st' c h with hf | he
  · exact npFinalize_ok st st' hf hs
  · rw [SegsOK, he]; exact hs

theorem npRun_ok (st st' : NPState) (p : Text) (h : npRun false st p = .ok st')
    (hs : SegsOK st.segs) : SegsOK st'.segs := by
  induction p generalizing st with
  | nil => simp [npRun] at h; subst h; exact hs
  | cons c cs ih =>
    simp only [npRun] at h
    cases hstep : npStep false st c with
    | error e => simp [hstep] at h
    | ok st1 =>
      simp only [hstep] at h
      exact ih st1 h (npStep_ok st st1 c hstep hs)

end Nima
