/-! Comparing computed text with a string literal.

`"…".toList` decodes the UTF-8 bytes of the literal, which the kernel does in time quadratic in
its length. `String.ofList l = "…"` is checked character by character, so the test vectors that
compare a computed `List Char` with a literal are stated through `String.ofList`. -/
namespace Nima

theorem eq_toList {l : List Char} {s : String} (h : String.ofList l = s) : l = s.toList := by
  subst h; exact String.toList_ofList.symm

theorem eq_ok_toList {ε : Type} {x : Except ε (List Char)} {s : String}
    (h : x.map String.ofList = .ok s) : x = .ok s.toList := by
  cases x with
  | error e => cases h
  | ok l => exact congrArg Except.ok (eq_toList (Except.ok.inj h))

theorem eq_map_toList {ls : List (List Char)} {ss : List String}
    (h : ls.map String.ofList = ss) : ls = ss.map String.toList := by
  subst h
  induction ls with
  | nil => rfl
  | cons l ls ih => simp [String.toList_ofList]

end Nima
